import A5.Lemmas.RadialRoundTrip
import Mathlib.Analysis.SpecialFunctions.Trigonometric.Arctan
/-! # C15 — the angular part of the polyhedral round trip, over `ℝ`

Model (`A5/Model/Geo.lean`, at `Float`; `polyhedral.rs`, `get_triangle_area`):
```
sphTriangleArea v1 v2 v3 :  midA := normalize (lerp v2 v3 0.5) …;  s := midA · (midB × midC)
                            if |clamp s| < TRI_AREA_SWITCH then 2 * clamp s else asin (clamp s) * 2
polyhedralForward :  p := normalize (quadrupleProduct a z b c);   w := h / area(a,b,c) * area(a,b,p)
polyhedralInverse :  alpha := (w / h) * area(a,b,c);  S := sin alpha;  halfC := sin (alpha/2);  CC := 2 halfC²
                     f := S*V + CC*(c01*c12 - c20);  g := CC*s12*(1 + c01)
                     q := (2 / acos c12) * atan2 g f;   p := slerp b c q
```
The real twins are transcriptions of these expression trees onto `R3` (tied to the generic twins in `PolyTies.lean`).
`triAreaR` is the `asin` branch of `get_triangle_area`, clamp kept; the small-`|s|` branch `2*s` is NOT modelled here.

(A) the code's area satisfies Eriksson's `tan (E/2) = V / (1 + x·y + y·z + z·x)`;  (B) for `p = slerp b c q`,
`alpha = area(a,b,p)`, the inverse's `(2 / acos c12) atan2 g f` is `q`;  (C) conversely its `q` for a given
`0 < alpha < area(a,b,c)` designates a point with `area(a, b, slerp b c q) = alpha`.

Hypotheses on the triangle (`UnitTri`): unit vectors, `V = a·(b×c) > 0` (counter-clockwise), `1 + a·b + b·c + c·a > 0`
(area `< π`), `SLERP_SWITCH ≤ ∠(b,c)` (`slerp` in its trigonometric branch).  `RuntimeTable.runtime_hyp` proves them for the
triangles of the dodecahedron.  Nothing here is about floating-point rounding. -/
namespace A5.AngularRoundTrip
open A5 Real Set A5.RadialRoundTrip

/-- scalar triple product `a · (b × c)` (the code's `dot(a, cross(b, c))`) -/
def tripleR (a b c : R3) : ℝ := dotR a (crossR b c)

/-- real twin of `A5.quadrupleProduct` -/
def quadrupleProductR (a b c d : R3) : R3 :=
  let ccd := crossR c d
  let tacd := dotR a ccd
  let tbcd := dotR b ccd
  subR (scaleR b tacd) (scaleR a tbcd)

/-- the code's `s`: triple product of the three normalised edge midpoints -/
noncomputable def midTripleR (v1 v2 v3 : R3) : ℝ :=
  let midA := normalizeR (lerpR v2 v3 (1 / 2))
  let midB := normalizeR (lerpR v3 v1 (1 / 2))
  let midC := normalizeR (lerpR v1 v2 (1 / 2))
  dotR midA (crossR midB midC)

/-- real twin of the `asin` branch of `A5.sphTriangleArea` (`get_triangle_area`), clamp included.
The branch `|s| < 1e-8 ↦ 2 s` of the code is not modelled. -/
noncomputable def triAreaR (v1 v2 v3 : R3) : ℝ := Real.arcsin (clamp1R (midTripleR v1 v2 v3)) * 2

theorem gram (x y z : R3) :
    tripleR x y z ^ 2 = dotR x x * dotR y y * dotR z z + 2 * dotR x y * dotR y z * dotR z x
      - dotR x x * dotR y z ^ 2 - dotR y y * dotR z x ^ 2 - dotR z z * dotR x y ^ 2 := by
  simp only [tripleR, dotR, crossR]; ring

theorem gram_unit {x y z : R3} (hx : dotR x x = 1) (hy : dotR y y = 1) (hz : dotR z z = 1) :
    tripleR x y z ^ 2 + (1 + dotR x y + dotR y z + dotR z x) ^ 2
      = 2 * (1 + dotR x y) * (1 + dotR y z) * (1 + dotR z x) := by
  rw [gram, hx, hy, hz]; ring

theorem triple_sq_le {x y z : R3} (hx : dotR x x = 1) (hy : dotR y y = 1) (hz : dotR z z = 1) :
    tripleR x y z ^ 2 ≤ 1 - dotR x y ^ 2 := by
  have h1 : tripleR x y z = dotR z (crossR x y) := by simp only [tripleR, dotR, crossR]; ring
  have h2 := lagrange z (crossR x y)
  have h3 := lagrange x y
  have h4 := dotR_self_nonneg (crossR z (crossR x y))
  rw [hz] at h2; rw [hx, hy] at h3
  rw [h1]; linarith

/-- a non-degenerate unit triangle has no antipodal pair of vertices -/
theorem one_add_dot_pos {x y z : R3} (hx : dotR x x = 1) (hy : dotR y y = 1) (hz : dotR z z = 1)
    (hV : tripleR x y z ≠ 0) : 0 < 1 + dotR x y := by
  have h := triple_sq_le hx hy hz
  have hp : 0 < tripleR x y z ^ 2 := by positivity
  have : dotR x y ^ 2 < 1 := by linarith
  have := (abs_lt.mp ((sq_lt_one_iff_abs_lt_one _).mp this)).1
  linarith

/-- for a unit triangle `1 + x·y + y·z + z·x > 0` already excludes antipodal pairs -/
theorem one_add_dots_pos_of_D {x y z : R3} (hx : dotR x x = 1) (hy : dotR y y = 1) (hz : dotR z z = 1)
    (hD : 0 < 1 + dotR x y + dotR y z + dotR z x) :
    0 < 1 + dotR x y ∧ 0 < 1 + dotR y z ∧ 0 < 1 + dotR z x := by
  have h1 := (dotR_unit_mem hx hy).1
  have h2 := (dotR_unit_mem hy hz).1
  have h3 := (dotR_unit_mem hz hx).1
  -- the product of the three non-negative factors is `(V² + D²)/2 > 0`
  have hP : 2 * (1 + dotR x y) * (1 + dotR y z) * (1 + dotR z x) ≠ 0 := by
    rw [← gram_unit hx hy hz]; positivity
  simp only [mul_ne_zero_iff] at hP
  exact ⟨lt_of_le_of_ne (by linarith) (Ne.symm hP.1.1.2), lt_of_le_of_ne (by linarith) (Ne.symm hP.1.2),
    lt_of_le_of_ne (by linarith) (Ne.symm hP.2)⟩

theorem tripleR_rot (x y z : R3) : tripleR y z x = tripleR x y z := by
  simp only [tripleR, dotR, crossR]; ring

theorem normalize_mid {y z : R3} (hy : dotR y y = 1) (hz : dotR z z = 1) (hyz : 0 < 1 + dotR y z) :
    ∃ L : ℝ, 0 < L ∧ L ^ 2 = (1 + dotR y z) / 2 ∧
      normalizeR (lerpR y z (1 / 2)) =
        ⟨(lerpR y z (1 / 2)).x / L, (lerpR y z (1 / 2)).y / L, (lerpR y z (1 / 2)).z / L⟩ := by
  have hmm := (lerpR_half_dot hy hz).1
  have hm0 : 0 < dotR (lerpR y z (1 / 2)) (lerpR y z (1 / 2)) := by rw [hmm]; linarith
  refine ⟨√(dotR (lerpR y z (1 / 2)) (lerpR y z (1 / 2))), Real.sqrt_pos.mpr hm0, ?_, normalizeR_of_pos hm0⟩
  rw [Real.sq_sqrt hm0.le, hmm]

theorem triple_mid_div (x y z : R3) (La Lb Lc : ℝ) :
    dotR ⟨(lerpR y z (1 / 2)).x / La, (lerpR y z (1 / 2)).y / La, (lerpR y z (1 / 2)).z / La⟩
      (crossR ⟨(lerpR z x (1 / 2)).x / Lb, (lerpR z x (1 / 2)).y / Lb, (lerpR z x (1 / 2)).z / Lb⟩
        ⟨(lerpR x y (1 / 2)).x / Lc, (lerpR x y (1 / 2)).y / Lc, (lerpR x y (1 / 2)).z / Lc⟩)
      = tripleR x y z / 4 / (La * Lb * Lc) := by
  simp only [tripleR, dotR, crossR, lerpR]
  ring

/-- **(A) the code's `s`.**  For unit vectors `x y z`, no two antipodal, the triple product of the normalised
edge midpoints is `V / √(2 (1+x·y)(1+y·z)(1+z·x))`, `V = x · (y × z)`. -/
theorem midpoint_triple_eq {x y z : R3} (hx : dotR x x = 1) (hy : dotR y y = 1) (hz : dotR z z = 1)
    (hxy : 0 < 1 + dotR x y) (hyz : 0 < 1 + dotR y z) (hzx : 0 < 1 + dotR z x) :
    midTripleR x y z = tripleR x y z / √(2 * (1 + dotR x y) * (1 + dotR y z) * (1 + dotR z x)) := by
  obtain ⟨La, hLa, hLa2, ea⟩ := normalize_mid hy hz hyz
  obtain ⟨Lb, hLb, hLb2, eb⟩ := normalize_mid hz hx hzx
  obtain ⟨Lc, hLc, hLc2, ec⟩ := normalize_mid hx hy hxy
  unfold midTripleR
  simp only
  rw [ea, eb, ec, triple_mid_div]
  have hsq : √(2 * (1 + dotR x y) * (1 + dotR y z) * (1 + dotR z x)) = 4 * (La * Lb * Lc) := by
    refine (Real.sqrt_eq_iff_mul_self_eq (by positivity) (by positivity)).mpr ?_
    have : (4 * (La * Lb * Lc)) * (4 * (La * Lb * Lc)) = 16 * (La ^ 2 * Lb ^ 2 * Lc ^ 2) := by ring
    rw [this, hLa2, hLb2, hLc2]; ring
  rw [hsq]
  have : La * Lb * Lc ≠ 0 := by positivity
  field_simp

/-- `|s| ≤ 1`: the clamp of the code is the identity (in exact arithmetic) -/
theorem midTriple_abs_le {x y z : R3} (hx : dotR x x = 1) (hy : dotR y y = 1) (hz : dotR z z = 1)
    (hxy : 0 < 1 + dotR x y) (hyz : 0 < 1 + dotR y z) (hzx : 0 < 1 + dotR z x) :
    -1 ≤ midTripleR x y z ∧ midTripleR x y z ≤ 1 := by
  rw [midpoint_triple_eq hx hy hz hxy hyz hzx, ← gram_unit hx hy hz]
  set V := tripleR x y z
  set D := 1 + dotR x y + dotR y z + dotR z x
  have hP : 0 < V ^ 2 + D ^ 2 := by
    rw [gram_unit hx hy hz]; positivity
  have hs : 0 < √(V ^ 2 + D ^ 2) := Real.sqrt_pos.mpr hP
  have habs : |V| ≤ √(V ^ 2 + D ^ 2) := by
    rw [← Real.sqrt_sq_eq_abs]
    exact Real.sqrt_le_sqrt (le_add_of_nonneg_right (sq_nonneg D))
  obtain ⟨h1, h2⟩ := abs_le.mp habs
  constructor
  · rw [le_div_iff₀ hs]; linarith
  · rw [div_le_iff₀ hs]; linarith

theorem clamp1R_id {s : ℝ} (h1 : -1 ≤ s) (h2 : s ≤ 1) : clamp1R s = s := by
  unfold clamp1R
  rw [if_neg (by linarith), if_neg (by linarith)]

/-- **(A) area as an arctangent.**  For a unit triangle with `1 + x·y + y·z + z·x > 0` (area `< π`) the code's area
(`asin` branch) is `2 arctan (V / (1 + x·y + y·z + z·x))`. -/
theorem triAreaR_eq_arctan {x y z : R3} (hx : dotR x x = 1) (hy : dotR y y = 1) (hz : dotR z z = 1)
    (hD : 0 < 1 + dotR x y + dotR y z + dotR z x) :
    triAreaR x y z = 2 * Real.arctan (tripleR x y z / (1 + dotR x y + dotR y z + dotR z x)) := by
  obtain ⟨hxy, hyz, hzx⟩ := one_add_dots_pos_of_D hx hy hz hD
  obtain ⟨b1, b2⟩ := midTriple_abs_le hx hy hz hxy hyz hzx
  unfold triAreaR
  rw [clamp1R_id b1 b2, midpoint_triple_eq hx hy hz hxy hyz hzx, ← gram_unit hx hy hz, Real.arctan_eq_arcsin]
  set V := tripleR x y z
  set D := 1 + dotR x y + dotR y z + dotR z x
  have e : V / D / √(1 + (V / D) ^ 2) = V / √(V ^ 2 + D ^ 2) := by
    have h1 : 1 + (V / D) ^ 2 = (V ^ 2 + D ^ 2) / D ^ 2 := by field_simp; ring
    rw [h1, Real.sqrt_div (by positivity), Real.sqrt_sq hD.le]
    have : √(V ^ 2 + D ^ 2) ≠ 0 := (Real.sqrt_pos.mpr (by positivity)).ne'
    field_simp
  rw [e]; ring

theorem triAreaR_le_pi (x y z : R3) : triAreaR x y z ≤ π := by
  unfold triAreaR; linarith [Real.arcsin_le_pi_div_two (clamp1R (midTripleR x y z))]

/-- IEEE-754 `atan2 y x` on the reals (no signed zeros: `atan2R 0 x = π` for `x < 0`, `atan2R 0 0 = 0`). -/
noncomputable def atan2R (y x : ℝ) : ℝ :=
  if 0 < x then Real.arctan (y / x)
  else if x < 0 then (if 0 ≤ y then Real.arctan (y / x) + π else Real.arctan (y / x) - π)
  else if 0 < y then π / 2 else if y < 0 then -(π / 2) else 0

theorem atan2R_zero_zero : atan2R 0 0 = 0 := by
  unfold atan2R; simp

theorem atan2R_of_pos {y x : ℝ} (hx : 0 < x) : atan2R y x = Real.arctan (y / x) := by
  unfold atan2R; rw [if_pos hx]

theorem atan2R_polar {r ψ : ℝ} (hr : 0 < r) (h1 : -π < ψ) (h2 : ψ ≤ π) :
    atan2R (r * Real.sin ψ) (r * Real.cos ψ) = ψ := by
  have hπ := Real.pi_pos
  have hdiv : r * Real.sin ψ / (r * Real.cos ψ) = Real.tan ψ := by
    rw [Real.tan_eq_sin_div_cos, mul_div_mul_left _ _ hr.ne']
  unfold atan2R
  -- by the quarter `ψ` lies in: that gives the signs of `cos ψ` and `sin ψ`, hence the branch, and the shift of `arctan (tan ψ)`
  rcases lt_trichotomy ψ (-(π / 2)) with h | rfl | h
  · have hx := mul_neg_of_pos_of_neg hr (Real.cos_neg ψ ▸
      Real.cos_neg_of_pi_div_two_lt_of_lt (x := -ψ) (by linarith only [h]) (by linarith only [h1, hπ]))
    have hs := mul_neg_of_pos_of_neg hr (Real.sin_neg_of_neg_of_neg_pi_lt (by linarith only [h, hπ]) h1)
    rw [if_neg hx.not_gt, if_pos hx, if_neg hs.not_ge, hdiv, ← Real.tan_add_pi ψ,
      Real.arctan_tan (by linarith only [h1, hπ]) (by linarith only [h]), add_sub_cancel_right]
  · simp [hr, hr.not_gt]
  rcases lt_trichotomy ψ (π / 2) with h' | rfl | h'
  · rw [if_pos (mul_pos hr (Real.cos_pos_of_mem_Ioo ⟨h, h'⟩)), hdiv, Real.arctan_tan h h']
  · simp [hr]
  · have hx := mul_neg_of_pos_of_neg hr (Real.cos_neg_of_pi_div_two_lt_of_lt h' (by linarith only [h2, hπ]))
    have hs := mul_nonneg hr.le (Real.sin_nonneg_of_nonneg_of_le_pi (by linarith only [h', hπ]) h2)
    rw [if_neg hx.not_gt, if_pos hx, if_pos hs, hdiv, ← Real.tan_sub_pi ψ,
      Real.arctan_tan (by linarith only [h', hπ]) (by linarith only [h2, hπ]), sub_add_cancel]

theorem triAreaR_mem {x y z : R3} (hx : dotR x x = 1) (hy : dotR y y = 1) (hz : dotR z z = 1)
    (hV : 0 < tripleR x y z) (hD : 0 < 1 + dotR x y + dotR y z + dotR z x) :
    0 < triAreaR x y z ∧ triAreaR x y z < π := by
  rw [triAreaR_eq_arctan hx hy hz hD]
  have h1 : 0 < Real.arctan (tripleR x y z / (1 + dotR x y + dotR y z + dotR z x)) :=
    Real.arctan_pos.mpr (div_pos hV hD)
  have h2 := Real.arctan_lt_pi_div_two (tripleR x y z / (1 + dotR x y + dotR y z + dotR z x))
  constructor <;> linarith

/-- **(A) Eriksson's formula** `tan (E/2) = V / (1 + x·y + y·z + z·x)`. -/
theorem eriksson {x y z : R3} (hx : dotR x x = 1) (hy : dotR y y = 1) (hz : dotR z z = 1)
    (hD : 0 < 1 + dotR x y + dotR y z + dotR z x) :
    Real.tan (triAreaR x y z / 2) = tripleR x y z / (1 + dotR x y + dotR y z + dotR z x) := by
  rw [triAreaR_eq_arctan hx hy hz hD, mul_div_cancel_left₀ _ two_ne_zero, Real.tan_arctan]

theorem sin_eq_half (θ : ℝ) : Real.sin θ = 2 * Real.sin (θ / 2) * Real.cos (θ / 2) := by
  rw [← Real.sin_two_mul]; congr 1; ring

theorem one_add_cos_eq_half (θ : ℝ) : 1 + Real.cos θ = 2 * Real.cos (θ / 2) ^ 2 := by
  have e : Real.cos θ = Real.cos (2 * (θ / 2)) := by congr 1; ring
  rw [e, Real.cos_two_mul]; ring

/-- i.e. `tan (φ/2) ≤ tan (θ/2)` -/
theorem half_tan_mono {θ φ : ℝ} (hφ0 : 0 ≤ φ) (hφθ : φ ≤ θ) (hθπ : θ < π) :
    Real.sin φ * (1 + Real.cos θ) ≤ Real.sin θ * (1 + Real.cos φ) := by
  have hπ := Real.pi_pos
  have e : Real.sin θ * (1 + Real.cos φ) - Real.sin φ * (1 + Real.cos θ)
      = 4 * Real.cos (φ / 2) * Real.cos (θ / 2) * Real.sin (θ / 2 - φ / 2) := by
    rw [sin_eq_half θ, sin_eq_half φ, one_add_cos_eq_half, one_add_cos_eq_half, Real.sin_sub]; ring
  have h1 : 0 ≤ Real.cos (φ / 2) := Real.cos_nonneg_of_mem_Icc ⟨by linarith, by linarith⟩
  have h2 : 0 ≤ Real.cos (θ / 2) := Real.cos_nonneg_of_mem_Icc ⟨by linarith, by linarith⟩
  have h3 : 0 ≤ Real.sin (θ / 2 - φ / 2) := Real.sin_nonneg_of_nonneg_of_le_pi (by linarith) (by linarith)
  have : 0 ≤ 4 * Real.cos (φ / 2) * Real.cos (θ / 2) * Real.sin (θ / 2 - φ / 2) := by positivity
  linarith

/-- `sin θ · (1 + a·b + b·p + p·a) = sin θ (1 + c01)(1 + cos φ) - (c01 cos θ - c20) sin φ`
for `p = (sin (θ-φ) b + sin φ c) / sin θ` -/
theorem Dp_identity (c01 c20 θ φ : ℝ) (hS : Real.sin θ ≠ 0) :
    Real.sin θ * (1 + c01 + Real.cos φ
        + (Real.sin (θ - φ) / Real.sin θ * c01 + Real.sin φ / Real.sin θ * c20))
      = Real.sin θ * (1 + c01) * (1 + Real.cos φ) - (c01 * Real.cos θ - c20) * Real.sin φ := by
  rw [Real.sin_sub]; field_simp; ring

/-- the denominator of Eriksson's formula stays positive along the edge `b → c` -/
theorem Dp_pos {c01 c20 θ φ : ℝ} (hθ0 : 0 < θ) (hθπ : θ < π) (hφ0 : 0 ≤ φ) (hφθ : φ ≤ θ)
    (h01 : 0 < 1 + c01) (hD : 0 < 1 + c01 + Real.cos θ + c20) :
    0 < Real.sin θ * (1 + c01) * (1 + Real.cos φ) - (c01 * Real.cos θ - c20) * Real.sin φ := by
  have hS : 0 < Real.sin θ := Real.sin_pos_of_pos_of_lt_pi hθ0 hθπ
  have hφπ : φ < π := lt_of_le_of_lt hφθ hθπ
  have hsφ : 0 ≤ Real.sin φ := Real.sin_nonneg_of_nonneg_of_le_pi hφ0 hφπ.le
  have hcφ : 0 < 1 + Real.cos φ := by
    have := Real.cos_lt_cos_of_nonneg_of_le_pi hφ0 le_rfl hφπ
    rw [Real.cos_pi] at this; linarith
  have hcθ : 0 < 1 + Real.cos θ := by
    have := Real.cos_lt_cos_of_nonneg_of_le_pi hθ0.le le_rfl hθπ
    rw [Real.cos_pi] at this; linarith
  have hA : 0 < Real.sin θ * (1 + c01) := mul_pos hS h01
  rcases le_or_gt (c01 * Real.cos θ - c20) 0 with hK | hK
  · have h1 : 0 < Real.sin θ * (1 + c01) * (1 + Real.cos φ) := mul_pos hA hcφ
    have h2 : (c01 * Real.cos θ - c20) * Real.sin φ ≤ 0 := mul_nonpos_of_nonpos_of_nonneg hK hsφ
    linarith
  · have hm := half_tan_mono hφ0 hφθ hθπ
    have hend : 0 < Real.sin θ * (1 + c01) * (1 + Real.cos θ) - (c01 * Real.cos θ - c20) * Real.sin θ := by
      have : Real.sin θ * (1 + c01) * (1 + Real.cos θ) - (c01 * Real.cos θ - c20) * Real.sin θ
          = Real.sin θ * (1 + c01 + Real.cos θ + c20) := by ring
      rw [this]; exact mul_pos hS hD
    have h3 : 0 < (1 + Real.cos φ) *
        (Real.sin θ * (1 + c01) * (1 + Real.cos θ) - (c01 * Real.cos θ - c20) * Real.sin θ) :=
      mul_pos hcφ hend
    have h4 : (c01 * Real.cos θ - c20) * (Real.sin φ * (1 + Real.cos θ))
        ≤ (c01 * Real.cos θ - c20) * (Real.sin θ * (1 + Real.cos φ)) :=
      mul_le_mul_of_nonneg_left hm hK.le
    have h5 : 0 < (1 + Real.cos θ) *
        (Real.sin θ * (1 + c01) * (1 + Real.cos φ) - (c01 * Real.cos θ - c20) * Real.sin φ) := by
      linarith
    exact (mul_pos_iff_of_pos_left hcθ).mp h5

/-- the algebraic heart of both compositions.  `sn, cs` play the role of `sin (α/2), cos (α/2)`; for the triangle `a b p`
with `Vp`, `Dp` as in `subtriangle_D_V`, the defect of the inverse's relation `g (1 + cos φ) = f sin φ` is `sin θ` times the
defect of Eriksson's `tan (α/2) = Vp / Dp`. -/
theorem core_identity {sn cs V Vp Dp K sθ sφ cφ c01 : ℝ} (h2 : sθ * Vp = sφ * V)
    (h3 : sθ * Dp = sθ * (1 + c01) * (1 + cφ) - K * sφ) :
    (sn * sθ * (1 + c01)) * (1 + cφ) - (cs * V + sn * K) * sφ = sθ * (sn * Dp - cs * Vp) := by
  linear_combination cs * h2 - sn * h3

theorem atan2R_half {f g φ : ℝ} (hφ0 : 0 < φ) (hφπ : φ < π) (hg : 0 < g)
    (h : g * (1 + Real.cos φ) = f * Real.sin φ) : atan2R g f = φ / 2 := by
  have hπ := Real.pi_pos
  have hs : 0 < Real.sin (φ / 2) := Real.sin_pos_of_pos_of_lt_pi (by linarith only [hφ0]) (by linarith only [hφπ, hπ])
  have hc : 0 < Real.cos (φ / 2) := Real.cos_pos_of_mem_Ioo ⟨by linarith only [hφ0, hπ], by linarith only [hφπ]⟩
  rw [sin_eq_half, one_add_cos_eq_half] at h
  have h' : g * Real.cos (φ / 2) = f * Real.sin (φ / 2) :=
    mul_left_cancel₀ (mul_pos two_pos hc).ne' (by linear_combination h)
  -- `(f, g) = r (cos (φ/2), sin (φ/2))` with `r = g / sin (φ/2)`
  have ef : f = g / Real.sin (φ / 2) * Real.cos (φ / 2) := by
    rw [div_mul_eq_mul_div]; exact eq_div_of_mul_eq hs.ne' h'.symm
  have := atan2R_polar (div_pos hg hs) (ψ := φ / 2) (by linarith only [hφ0, hπ]) (by linarith only [hφπ, hπ])
  rwa [div_mul_cancel₀ _ hs.ne', ← ef] at this

theorem dotR_tripleR_comb (a b c : R3) (wa wb : ℝ) :
    dotR (addR (scaleR b wa) (scaleR c wb)) a = wa * dotR a b + wb * dotR c a ∧
    tripleR a b (addR (scaleR b wa) (scaleR c wb)) = wb * tripleR a b c ∧
    dotR (addR (scaleR b wa) (scaleR c wb)) (crossR b c) = 0 := by
  simp only [tripleR, dotR, crossR, addR, scaleR]
  exact ⟨by ring, by ring, by ring⟩

theorem tripleR_comb_mid (a b c : R3) (wa wb : ℝ) :
    tripleR a (addR (scaleR b wa) (scaleR c wb)) c = wa * tripleR a b c := by
  simp only [tripleR, dotR, crossR, addR, scaleR]; ring

theorem length_cross_unit {b c : R3} (hb : dotR b b = 1) (hc : dotR c c = 1) :
    lengthR (crossR b c) = Real.sin (angleR b c) := by
  obtain ⟨_, hcos, g0, g1⟩ := angleR_unit hb hc
  have h := lagrange b c
  rw [hb, hc] at h
  rw [lengthR_eq, ← h, ← hcos]
  have : 1 * 1 - Real.cos (angleR b c) ^ 2 = Real.sin (angleR b c) ^ 2 := by
    rw [Real.sin_sq]; ring
  rw [this, Real.sqrt_sq (Real.sin_nonneg_of_nonneg_of_le_pi g0 g1)]

/-- the sub-triangle `a b p`, `p = slerp b c q`, `θ = ∠(b,c)`, `φ = qθ`: `p` is a unit vector, and Eriksson's denominator
`Dp = 1 + a·b + b·p + p·a` and numerator `Vp = a·(b×p)`, each times `sin θ`, in terms of `φ` -/
theorem subtriangle_D_V {a b c : R3} (q : ℝ) (hb : dotR b b = 1) (hc : dotR c c = 1)
    (hγ : slerpSwitch ≤ angleR b c) (hπ : angleR b c < π) :
    dotR (slerpR b c q) (slerpR b c q) = 1 ∧
    Real.sin (angleR b c) * (1 + dotR a b + dotR b (slerpR b c q) + dotR (slerpR b c q) a)
      = Real.sin (angleR b c) * (1 + dotR a b) * (1 + Real.cos (q * angleR b c))
        - (dotR a b * dotR b c - dotR c a) * Real.sin (q * angleR b c) ∧
    Real.sin (angleR b c) * tripleR a b (slerpR b c q) = Real.sin (q * angleR b c) * tripleR a b c := by
  obtain ⟨hu, hd, _⟩ := slerpR_spec q hb hc hγ hπ
  obtain ⟨_, hcos, _, _⟩ := angleR_unit hb hc
  have hpos : 0 < angleR b c := lt_of_lt_of_le slerpSwitch_pos hγ
  have hS : Real.sin (angleR b c) ≠ 0 := (Real.sin_pos_of_pos_of_lt_pi hpos hπ).ne'
  refine ⟨hu, ?_, ?_⟩
  · rw [hd, slerpR_unfold q hγ, (dotR_tripleR_comb a b c _ _).1, ← hcos,
      show (1 - q) * angleR b c = angleR b c - q * angleR b c by ring]
    exact Dp_identity _ _ _ _ hS
  · rw [slerpR_unfold q hγ, (dotR_tripleR_comb a b c _ _).2.1]
    field_simp

/-- the `f` of `polyhedralInverse` as a function of the triangle and of `alpha` -/
noncomputable def edgeF (a b c : R3) (alpha : ℝ) : ℝ :=
  let c1 := crossR b c
  let s := Real.sin alpha
  let halfC := Real.sin (alpha / 2)
  let cc := 2 * halfC * halfC
  let c01 := dotR a b
  let c12 := dotR b c
  let c20 := dotR c a
  let vv := dotR a c1
  s * vv + cc * (c01 * c12 - c20)

/-- the `g` of `polyhedralInverse` -/
noncomputable def edgeG (a b c : R3) (alpha : ℝ) : ℝ :=
  let c1 := crossR b c
  let halfC := Real.sin (alpha / 2)
  let cc := 2 * halfC * halfC
  let c01 := dotR a b
  let s12 := lengthR c1
  cc * s12 * (1 + c01)

/-- the `q` of `polyhedralInverse`: `(2 / acos c12) * atan2 g f` -/
noncomputable def edgeParamR (a b c : R3) (alpha : ℝ) : ℝ :=
  (2 / Real.arccos (dotR b c)) * atan2R (edgeG a b c alpha) (edgeF a b c alpha)

theorem edgeFG_factor {a b c : R3} (alpha : ℝ) (hb : dotR b b = 1) (hc : dotR c c = 1) :
    edgeF a b c alpha = 2 * Real.sin (alpha / 2) *
      (Real.cos (alpha / 2) * tripleR a b c + Real.sin (alpha / 2) * (dotR a b * dotR b c - dotR c a)) ∧
    edgeG a b c alpha = 2 * Real.sin (alpha / 2) *
      (Real.sin (alpha / 2) * Real.sin (angleR b c) * (1 + dotR a b)) := by
  unfold edgeF edgeG
  simp only
  rw [length_cross_unit hb hc, sin_eq_half alpha]
  simp only [tripleR]
  exact ⟨by ring, by ring⟩

theorem angle_bc_lt_pi {a b c : R3} (ha : dotR a a = 1) (hb : dotR b b = 1) (hc : dotR c c = 1)
    (hV : 0 < tripleR a b c) : angleR b c < π := by
  have h2 := one_add_dot_pos hb hc ha (by rw [tripleR_rot]; exact hV.ne')
  rw [(angleR_unit hb hc).1]
  exact Real.arccos_lt_pi.mpr (by linarith)

/-- the standing hypotheses on the triangle: unit vectors, counter-clockwise (`V > 0`), area `< π`
(`1 + a·b + b·c + c·a > 0`), edge `b c` not in the small-angle branch of `slerp` -/
structure UnitTri (a b c : R3) : Prop where
  ha : dotR a a = 1
  hb : dotR b b = 1
  hc : dotR c c = 1
  hV : 0 < tripleR a b c
  hD : 0 < 1 + dotR a b + dotR b c + dotR c a
  hγ : slerpSwitch ≤ angleR b c

namespace UnitTri
variable {a b c : R3} (T : UnitTri a b c)
include T

theorem angle_lt_pi : angleR b c < π := angle_bc_lt_pi T.ha T.hb T.hc T.hV
theorem angle_pos : 0 < angleR b c := lt_of_lt_of_le slerpSwitch_pos T.hγ
theorem sin_pos : 0 < Real.sin (angleR b c) := Real.sin_pos_of_pos_of_lt_pi T.angle_pos T.angle_lt_pi
theorem angle_eq : angleR b c = Real.arccos (dotR b c) := (angleR_unit T.hb T.hc).1
theorem cos_angle : Real.cos (angleR b c) = dotR b c := (angleR_unit T.hb T.hc).2.1
theorem one_add_ab_pos : 0 < 1 + dotR a b := (one_add_dots_pos_of_D T.ha T.hb T.hc T.hD).1
theorem one_add_bc_pos : 0 < 1 + dotR b c := (one_add_dots_pos_of_D T.ha T.hb T.hc T.hD).2.1
theorem area_pos : 0 < triAreaR a b c := (triAreaR_mem T.ha T.hb T.hc T.hV T.hD).1

theorem edge_unit (q : ℝ) : dotR (slerpR b c q) (slerpR b c q) = 1 :=
  (slerpR_spec q T.hb T.hc T.hγ T.angle_lt_pi).1

theorem arc_mem {q : ℝ} (hq0 : 0 ≤ q) (hq1 : q ≤ 1) : 0 ≤ q * angleR b c ∧ q * angleR b c ≤ angleR b c :=
  ⟨mul_nonneg hq0 T.angle_pos.le, mul_le_of_le_one_left T.angle_pos.le hq1⟩

/-- Eriksson's denominator of the triangle `a b p`, `p = slerp b c q`, is positive, hence `p ≠ -a` -/
theorem D_pos {q : ℝ} (hq0 : 0 ≤ q) (hq1 : q ≤ 1) :
    0 < 1 + dotR a b + dotR b (slerpR b c q) + dotR (slerpR b c q) a := by
  obtain ⟨_, hDp, _⟩ := subtriangle_D_V (a := a) q T.hb T.hc T.hγ T.angle_lt_pi
  have h := Dp_pos (c01 := dotR a b) (c20 := dotR c a) T.angle_pos T.angle_lt_pi (T.arc_mem hq0 hq1).1
    (T.arc_mem hq0 hq1).2 T.one_add_ab_pos (by rw [T.cos_angle]; exact T.hD)
  rw [T.cos_angle, ← hDp] at h
  exact (mul_pos_iff_of_pos_left T.sin_pos).mp h

theorem apex_lt_pi {q : ℝ} (hq0 : 0 ≤ q) (hq1 : q ≤ 1) : angleR a (slerpR b c q) < π := by
  obtain ⟨_, _, h3⟩ := one_add_dots_pos_of_D T.ha T.hb (T.edge_unit q) (T.D_pos hq0 hq1)
  rw [(angleR_unit T.ha (T.edge_unit q)).1, dotR_comm]
  exact Real.arccos_lt_pi.mpr (by linarith)

end UnitTri

/-- **(B) the inverse's closed formula inverts the forward area ratio.**
`a b c` unit vectors, counter-clockwise (`V > 0`), area `< π` (`1 + a·b + b·c + c·a > 0`), edge `b c` not in the
small-angle branch of `slerp`.  For `p = slerp b c q`, `0 ≤ q ≤ 1`, and `alpha` = the code's area of `a b p`,
the code's `f`, `g` satisfy `g (1 + cos qθ) = f sin qθ` and the code's `q = (2 / acos c12) atan2 g f` is `q`. -/
theorem angular_inverse_formula {a b c : R3} {q : ℝ} (ha : dotR a a = 1) (hb : dotR b b = 1)
    (hc : dotR c c = 1) (hV : 0 < tripleR a b c) (hD : 0 < 1 + dotR a b + dotR b c + dotR c a)
    (hγ : slerpSwitch ≤ angleR b c) (hq0 : 0 ≤ q) (hq1 : q ≤ 1) :
    let alpha := triAreaR a b (slerpR b c q)
    edgeG a b c alpha * (1 + Real.cos (q * angleR b c)) = edgeF a b c alpha * Real.sin (q * angleR b c) ∧
    edgeParamR a b c alpha = q := by
  intro alpha
  have T : UnitTri a b c := ⟨ha, hb, hc, hV, hD, hγ⟩
  have hπ := T.angle_lt_pi
  have hθ0 := T.angle_pos
  have hS := T.sin_pos
  obtain ⟨hu, hDp, hVp⟩ := subtriangle_D_V (a := a) q hb hc hγ hπ
  obtain ⟨hφ0, hφθ⟩ := T.arc_mem hq0 hq1
  have hDpos := T.D_pos hq0 hq1
  have hα : alpha = 2 * Real.arctan (tripleR a b (slerpR b c q) /
      (1 + dotR a b + dotR b (slerpR b c q) + dotR (slerpR b c q) a)) :=
    triAreaR_eq_arctan ha hb hu hDpos
  set p := slerpR b c q
  set Dp := 1 + dotR a b + dotR b p + dotR p a
  set Vp := tripleR a b p
  have hα2 : alpha / 2 = Real.arctan (Vp / Dp) := by rw [hα]; ring
  have hcs : 0 < Real.cos (alpha / 2) := by rw [hα2]; exact Real.cos_arctan_pos _
  have h1 : Real.sin (alpha / 2) * Dp = Real.cos (alpha / 2) * Vp := by
    have ht : Real.tan (alpha / 2) = Vp / Dp := by rw [hα2, Real.tan_arctan]
    rw [Real.tan_eq_sin_div_cos, div_eq_div_iff hcs.ne' hDpos.ne'] at ht
    linarith
  have hcore := core_identity (sn := Real.sin (alpha / 2)) (cs := Real.cos (alpha / 2)) hVp hDp
  rw [h1, sub_self, mul_zero] at hcore
  obtain ⟨eF, eG⟩ := edgeFG_factor (a := a) alpha hb hc
  have hmain : edgeG a b c alpha * (1 + Real.cos (q * angleR b c))
      = edgeF a b c alpha * Real.sin (q * angleR b c) := by
    rw [eF, eG]; linear_combination 2 * Real.sin (alpha / 2) * hcore
  refine ⟨hmain, ?_⟩
  unfold edgeParamR
  rw [← T.angle_eq]
  rcases eq_or_lt_of_le hq0 with hq | hq
  · -- `q = 0`: `p = b`, `alpha = 0`, `f = g = 0`, `atan2 0 0 = 0`
    have hVp0 : Vp = 0 := by
      have : Real.sin (angleR b c) * Vp = 0 := by rw [hVp, ← hq]; simp
      exact (mul_eq_zero.mp this).resolve_left hS.ne'
    have hsn : Real.sin (alpha / 2) = 0 := by rw [hα2, hVp0]; simp
    rw [eF, eG, hsn]
    simp only [mul_zero, zero_mul, atan2R_zero_zero]
    exact hq
  · have hφ0' : 0 < q * angleR b c := mul_pos hq hθ0
    have hφπ : q * angleR b c < π := lt_of_le_of_lt hφθ hπ
    have hsφ : 0 < Real.sin (q * angleR b c) := Real.sin_pos_of_pos_of_lt_pi hφ0' hφπ
    have hVpos : 0 < Vp := by
      have : 0 < Real.sin (angleR b c) * Vp := by rw [hVp]; exact mul_pos hsφ hV
      exact (mul_pos_iff_of_pos_left hS).mp this
    have hsn : 0 < Real.sin (alpha / 2) := by
      rw [hα2]; exact Real.sin_arctan_pos.mpr (div_pos hVpos hDpos)
    have h01 := T.one_add_ab_pos
    have hg : 0 < edgeG a b c alpha := by rw [eG]; positivity
    rw [atan2R_half hφ0' hφπ hg hmain]
    field_simp

theorem tan_half_eq {θ : ℝ} (h0 : 0 < θ) (h1 : θ < π) :
    Real.tan (θ / 2) = Real.sin θ / (1 + Real.cos θ) := by
  have hc : 0 < Real.cos (θ / 2) := Real.cos_pos_of_mem_Ioo ⟨by linarith, by linarith⟩
  rw [Real.tan_eq_sin_div_cos, sin_eq_half θ, one_add_cos_eq_half θ]
  field_simp

/-- the trigonometric core of (C): `sn = sin (α/2)`, `cs = cos (α/2)` with `tan (α/2) < V / D`, `θ = ∠(b,c)`, and
`F`, `G` the inverse's `f`, `g` without their common factor `2 sn`.  Then `ψ = arctan (G/F)` lies in `(0, θ/2)` and
`φ = 2ψ` satisfies the inverse's relation `G (1 + cos φ) = F sin φ`.
(`D + K = (1 + c01)(1 + c12)`, so `F > sn (1 + c01)(1 + c12)`, which is `G/F < tan (θ/2)`.) -/
theorem inverse_angle_spec {sn cs V c01 c12 c20 θ : ℝ} (hsn : 0 < sn) (hθ0 : 0 < θ) (hθπ : θ < π)
    (hc : Real.cos θ = c12) (h01 : 0 < 1 + c01) (h12 : 0 < 1 + c12)
    (htan : sn * (1 + c01 + c12 + c20) < cs * V) :
    0 < cs * V + sn * (c01 * c12 - c20) ∧ 0 < sn * Real.sin θ * (1 + c01) ∧
    0 < Real.arctan (sn * Real.sin θ * (1 + c01) / (cs * V + sn * (c01 * c12 - c20))) ∧
    Real.arctan (sn * Real.sin θ * (1 + c01) / (cs * V + sn * (c01 * c12 - c20))) < θ / 2 ∧
    sn * Real.sin θ * (1 + c01) *
        (1 + Real.cos (2 * Real.arctan (sn * Real.sin θ * (1 + c01) / (cs * V + sn * (c01 * c12 - c20)))))
      = (cs * V + sn * (c01 * c12 - c20)) *
        Real.sin (2 * Real.arctan (sn * Real.sin θ * (1 + c01) / (cs * V + sn * (c01 * c12 - c20)))) := by
  have hS : 0 < Real.sin θ := Real.sin_pos_of_pos_of_lt_pi hθ0 hθπ
  have hP : 0 < sn * ((1 + c01) * (1 + c12)) := by positivity
  have hlt : sn * ((1 + c01) * (1 + c12)) < cs * V + sn * (c01 * c12 - c20) := by linarith
  have hF : 0 < cs * V + sn * (c01 * c12 - c20) := hP.trans hlt
  have hG : 0 < sn * Real.sin θ * (1 + c01) := by positivity
  generalize cs * V + sn * (c01 * c12 - c20) = F at *
  generalize hGdef : sn * Real.sin θ * (1 + c01) = G at *
  refine ⟨hF, hG, Real.arctan_pos.mpr (div_pos hG hF), ?_, ?_⟩
  · have h1 : G / F < Real.tan (θ / 2) := by
      rw [tan_half_eq hθ0 hθπ, hc, div_lt_div_iff₀ hF h12, ← hGdef]
      have := mul_lt_mul_of_pos_left hlt hS
      linarith
    have := Real.arctan_strictMono h1
    rwa [Real.arctan_tan (by linarith [Real.pi_pos]) (by linarith)] at this
  · have ht : Real.tan (Real.arctan (G / F)) = G / F := Real.tan_arctan _
    have hcψ : 0 < Real.cos (Real.arctan (G / F)) := Real.cos_arctan_pos _
    rw [Real.tan_eq_sin_div_cos, div_eq_div_iff hcψ.ne' hF.ne'] at ht
    rw [Real.sin_two_mul, Real.cos_two_mul]
    linear_combination (-2 * Real.cos (Real.arctan (G / F))) * ht

/-- **(C) the forward area of the point computed by the inverse's closed formula.**
Same triangle hypotheses.  For `0 < alpha < area(a,b,c)` the code's `q = (2 / acos c12) atan2 g f` lies in
`(0,1)` and the code's area of `a b (slerp b c q)` is `alpha`. -/
theorem angular_forward_formula {a b c : R3} {alpha : ℝ} (ha : dotR a a = 1) (hb : dotR b b = 1)
    (hc : dotR c c = 1) (hV : 0 < tripleR a b c) (hD : 0 < 1 + dotR a b + dotR b c + dotR c a)
    (hγ : slerpSwitch ≤ angleR b c) (hα0 : 0 < alpha) (hα1 : alpha < triAreaR a b c) :
    0 < edgeParamR a b c alpha ∧ edgeParamR a b c alpha < 1 ∧
      triAreaR a b (slerpR b c (edgeParamR a b c alpha)) = alpha := by
  have hpi := Real.pi_pos
  have T : UnitTri a b c := ⟨ha, hb, hc, hV, hD, hγ⟩
  have hπ := T.angle_lt_pi
  have hθ0 := T.angle_pos
  have hS := T.sin_pos
  -- `tan (alpha/2) < V / D`
  have hE := triAreaR_eq_arctan ha hb hc hD
  have hEhalf := Real.arctan_lt_pi_div_two (tripleR a b c / (1 + dotR a b + dotR b c + dotR c a))
  have hα2 : alpha / 2 < Real.arctan (tripleR a b c / (1 + dotR a b + dotR b c + dotR c a)) := by
    rw [hE] at hα1; linarith only [hα1]
  have hα3 : alpha / 2 < π / 2 := hα2.trans hEhalf
  have hα4 : -(π / 2) < alpha / 2 := by linarith only [hα0, hpi]
  have hsn : 0 < Real.sin (alpha / 2) := Real.sin_pos_of_pos_of_lt_pi (half_pos hα0) (by linarith only [hα3, hpi])
  have hcs : 0 < Real.cos (alpha / 2) := Real.cos_pos_of_mem_Ioo ⟨hα4, hα3⟩
  have htan : Real.sin (alpha / 2) * (1 + dotR a b + dotR b c + dotR c a)
      < Real.cos (alpha / 2) * tripleR a b c := by
    have h := Real.tan_lt_tan_of_lt_of_lt_pi_div_two hα4 hEhalf hα2
    rw [Real.tan_arctan, Real.tan_eq_sin_div_cos, div_lt_div_iff₀ hcs hD] at h
    linarith only [h]
  obtain ⟨hF, hG, hψ0, hψθ, hrel⟩ :=
    inverse_angle_spec hsn hθ0 hπ T.cos_angle T.one_add_ab_pos T.one_add_bc_pos htan
  -- the code's `q` is `2ψ/θ`, `ψ = arctan (G/F)`
  have hq : edgeParamR a b c alpha * angleR b c = 2 * Real.arctan
      (Real.sin (alpha / 2) * Real.sin (angleR b c) * (1 + dotR a b) /
        (Real.cos (alpha / 2) * tripleR a b c + Real.sin (alpha / 2) * (dotR a b * dotR b c - dotR c a))) := by
    obtain ⟨eF, eG⟩ := edgeFG_factor (a := a) alpha hb hc
    have h2 : 0 < 2 * Real.sin (alpha / 2) := mul_pos two_pos hsn
    unfold edgeParamR
    rw [atan2R_of_pos (by rw [eF]; exact mul_pos h2 hF), eF, eG, mul_div_mul_left _ _ h2.ne', ← T.angle_eq,
      mul_right_comm, div_mul_cancel₀ _ hθ0.ne']
  generalize Real.arctan (Real.sin (alpha / 2) * Real.sin (angleR b c) * (1 + dotR a b) /
    (Real.cos (alpha / 2) * tripleR a b c + Real.sin (alpha / 2) * (dotR a b * dotR b c - dotR c a))) = ψ at *
  have hq0 : 0 < edgeParamR a b c alpha := by
    have : 0 < edgeParamR a b c alpha * angleR b c := by rw [hq]; linarith only [hψ0]
    exact (mul_pos_iff_of_pos_right hθ0).mp this
  have hq1 : edgeParamR a b c alpha < 1 := by
    have : edgeParamR a b c alpha * angleR b c < 1 * angleR b c := by rw [hq]; linarith only [hψθ]
    exact lt_of_mul_lt_mul_right this hθ0.le
  refine ⟨hq0, hq1, ?_⟩
  -- the triangle `a b p`: Eriksson's relation `sn Dp = cs Vp` from the inverse's relation
  obtain ⟨hu, hDp, hVp⟩ := subtriangle_D_V (a := a) (edgeParamR a b c alpha) hb hc hγ hπ
  rw [hq] at hDp hVp
  have hkey := core_identity (sn := Real.sin (alpha / 2)) (cs := Real.cos (alpha / 2)) hVp hDp
  rw [hrel, sub_self] at hkey
  have hkey' := (mul_eq_zero.mp hkey.symm).resolve_left hS.ne'
  generalize slerpR b c (edgeParamR a b c alpha) = p at *
  have hVpos : 0 < tripleR a b p := by
    have : 0 < Real.sin (angleR b c) * tripleR a b p := by
      rw [hVp]
      exact mul_pos (Real.sin_pos_of_pos_of_lt_pi (by linarith only [hψ0]) (by linarith only [hψθ, hπ])) hV
    exact (mul_pos_iff_of_pos_left hS).mp this
  have hDpos : 0 < 1 + dotR a b + dotR b p + dotR p a := by
    have : 0 < Real.sin (alpha / 2) * (1 + dotR a b + dotR b p + dotR p a) := by
      rw [sub_eq_zero.mp hkey']; exact mul_pos hcs hVpos
    exact (mul_pos_iff_of_pos_left hsn).mp this
  rw [triAreaR_eq_arctan ha hb hu hDpos,
    show tripleR a b p / (1 + dotR a b + dotR b p + dotR p a) = Real.tan (alpha / 2) by
      rw [Real.tan_eq_sin_div_cos, div_eq_div_iff hDpos.ne' hcs.ne']; linear_combination (-1 : ℝ) * hkey',
    Real.arctan_tan hα4 hα3]
  ring

/-- the algebraic core of the additivity of Eriksson's excess along an edge: with `x = a·b`, `y = b·c`, `z = c·a`,
`P = wa·b + wb·c` a unit vector, `D₃ = 1 + a·b + b·P + P·a`, `D₂ = 1 + a·P + P·c + c·a`:
`(wa·D₃ + wb·D₂)·D = D₂·D₃ - wa·wb·V²` -/
theorem additivity_core (x y z wa wb V : ℝ) (hN : wa ^ 2 + wb ^ 2 + 2 * wa * wb * y = 1)
    (hG : V ^ 2 = 1 + 2 * x * y * z - x ^ 2 - y ^ 2 - z ^ 2) :
    (wa * (1 + x + (wa + wb * y) + (wa * x + wb * z)) + wb * (1 + (wa * x + wb * z) + (wa * y + wb) + z))
        * (1 + x + y + z)
      = (1 + (wa * x + wb * z) + (wa * y + wb) + z) * (1 + x + (wa + wb * y) + (wa * x + wb * z))
        - wa * wb * V ^ 2 := by
  linear_combination (1 + x) * (1 + z) * hN + wa * wb * hG

/-- **additivity of the area along the far edge**: for a unit point `P = wa·b + wb·c` (`wa, wb > 0`) of the edge,
`area(a, P, c) + area(a, b, P) = area(a, b, c)` (all three Eriksson denominators positive, `V > 0`): the addition
formula for `arctan` on Eriksson's `tan(E/2) = V/D`. -/
theorem area_additive {a b c : R3} {wa wb : ℝ} (ha : dotR a a = 1) (hb : dotR b b = 1) (hc : dotR c c = 1)
    (hP : dotR (addR (scaleR b wa) (scaleR c wb)) (addR (scaleR b wa) (scaleR c wb)) = 1)
    (hV : 0 < tripleR a b c) (hD : 0 < 1 + dotR a b + dotR b c + dotR c a) (hwa : 0 < wa) (hwb : 0 < wb)
    (hD2 : 0 < 1 + dotR a (addR (scaleR b wa) (scaleR c wb)) + dotR (addR (scaleR b wa) (scaleR c wb)) c + dotR c a)
    (hD3 : 0 < 1 + dotR a b + dotR b (addR (scaleR b wa) (scaleR c wb)) + dotR (addR (scaleR b wa) (scaleR c wb)) a) :
    triAreaR a (addR (scaleR b wa) (scaleR c wb)) c + triAreaR a b (addR (scaleR b wa) (scaleR c wb))
      = triAreaR a b c := by
  rw [triAreaR_eq_arctan ha hP hc hD2, triAreaR_eq_arctan ha hb hP hD3, triAreaR_eq_arctan ha hb hc hD,
    tripleR_comb_mid, (dotR_tripleR_comb a b c wa wb).2.1]
  have e1 := dotR_comb_right a b c wa wb
  have e2 := (dotR_tripleR_comb a b c wa wb).1
  obtain ⟨e3, e4, e5⟩ := dotR_comb b c wa wb
  have e6 : dotR (addR (scaleR b wa) (scaleR c wb)) c = dotR c (addR (scaleR b wa) (scaleR c wb)) := dotR_comm _ _
  have hG := gram a b c
  rw [e3] at hP
  rw [e1, e6, e5] at hD2
  rw [e4, e2] at hD3
  rw [e1, e6, e5, e4, e2]
  simp only [hb, hc, mul_one] at hP hD2 hD3 ⊢
  rw [ha, hb, hc] at hG
  generalize dotR a b = x at *
  generalize dotR b c = y at *
  generalize dotR c a = z at *
  generalize tripleR a b c = V at *
  have K := additivity_core x y z wa wb V (by linarith) (by linarith)
  generalize 1 + (wa * x + wb * z) + (wa * y + wb) + z = D2 at *
  generalize 1 + x + (wa + wb * y) + (wa * x + wb * z) = D3 at *
  generalize 1 + x + y + z = D at *
  have hpos : 0 < (wa * D3 + wb * D2) * D := by positivity
  have hDD : 0 < D2 * D3 := mul_pos hD2 hD3
  have hprod : wa * V / D2 * (wb * V / D3) < 1 := by
    rw [div_mul_div_comm, div_lt_one hDD]
    linarith
  rw [← mul_add, Real.arctan_add hprod]
  congr 2
  have hne : 1 - wa * V / D2 * (wb * V / D3) ≠ 0 := by linarith
  rw [div_eq_div_iff hne hD.ne']
  field_simp
  linear_combination K

/-! ## non-vacuity: the octant triangle `a = e₃`, `b = e₁`, `c = e₂` (`V = 1`, `1 + a·b + b·c + c·a = 1`, area `π/2`) -/

theorem octant_hyps :
    dotR ⟨0, 0, 1⟩ ⟨0, 0, 1⟩ = 1 ∧ dotR ⟨1, 0, 0⟩ ⟨1, 0, 0⟩ = 1 ∧ dotR ⟨0, 1, 0⟩ ⟨0, 1, 0⟩ = 1 ∧
    0 < tripleR ⟨0, 0, 1⟩ ⟨1, 0, 0⟩ ⟨0, 1, 0⟩ ∧
    0 < 1 + dotR ⟨0, 0, 1⟩ ⟨1, 0, 0⟩ + dotR ⟨1, 0, 0⟩ ⟨0, 1, 0⟩ + dotR ⟨0, 1, 0⟩ ⟨0, 0, 1⟩ ∧
    slerpSwitch ≤ angleR ⟨1, 0, 0⟩ ⟨0, 1, 0⟩ := by
  refine ⟨by norm_num [dotR], e1_e2_hyps.1, e1_e2_hyps.2.1, by norm_num [tripleR, dotR, crossR],
    by norm_num [dotR], e1_e2_hyps.2.2.1⟩

theorem octant_area : triAreaR ⟨0, 0, 1⟩ ⟨1, 0, 0⟩ ⟨0, 1, 0⟩ = π / 2 := by
  obtain ⟨ha, hb, hc, _, hD, _⟩ := octant_hyps
  rw [triAreaR_eq_arctan ha hb hc hD]
  have : tripleR ⟨0, 0, 1⟩ ⟨1, 0, 0⟩ ⟨0, 1, 0⟩ /
      (1 + dotR ⟨0, 0, 1⟩ ⟨1, 0, 0⟩ + dotR ⟨1, 0, 0⟩ ⟨0, 1, 0⟩ + dotR ⟨0, 1, 0⟩ ⟨0, 0, 1⟩) = 1 := by
    norm_num [tripleR, dotR, crossR]
  rw [this, Real.arctan_one]; ring

example : Real.tan (triAreaR ⟨0, 0, 1⟩ ⟨1, 0, 0⟩ ⟨0, 1, 0⟩ / 2) =
    tripleR ⟨0, 0, 1⟩ ⟨1, 0, 0⟩ ⟨0, 1, 0⟩ /
      (1 + dotR ⟨0, 0, 1⟩ ⟨1, 0, 0⟩ + dotR ⟨1, 0, 0⟩ ⟨0, 1, 0⟩ + dotR ⟨0, 1, 0⟩ ⟨0, 0, 1⟩) := by
  obtain ⟨ha, hb, hc, _, hD, _⟩ := octant_hyps
  exact eriksson ha hb hc hD

example : edgeParamR ⟨0, 0, 1⟩ ⟨1, 0, 0⟩ ⟨0, 1, 0⟩
    (triAreaR ⟨0, 0, 1⟩ ⟨1, 0, 0⟩ (slerpR ⟨1, 0, 0⟩ ⟨0, 1, 0⟩ (1 / 3))) = 1 / 3 := by
  obtain ⟨ha, hb, hc, hV, hD, hγ⟩ := octant_hyps
  exact (angular_inverse_formula ha hb hc hV hD hγ (by norm_num) (by norm_num)).2

example : triAreaR ⟨0, 0, 1⟩ ⟨1, 0, 0⟩
    (slerpR ⟨1, 0, 0⟩ ⟨0, 1, 0⟩ (edgeParamR ⟨0, 0, 1⟩ ⟨1, 0, 0⟩ ⟨0, 1, 0⟩ (1 / 2))) = 1 / 2 := by
  obtain ⟨ha, hb, hc, hV, hD, hγ⟩ := octant_hyps
  refine (angular_forward_formula ha hb hc hV hD hγ (by norm_num) ?_).2.2
  rw [octant_area]; linarith [Real.pi_gt_three]

example : atan2R 1 (-1) = 3 * π / 4 := by
  have h := atan2R_polar (r := √2) (ψ := 3 * π / 4) (by positivity) (by linarith [Real.pi_pos])
    (by linarith [Real.pi_pos])
  have e1 : Real.sin (3 * π / 4) = √2 / 2 := by
    rw [show 3 * π / 4 = π - π / 4 by ring, Real.sin_pi_sub, Real.sin_pi_div_four]
  have e2 : Real.cos (3 * π / 4) = -(√2 / 2) := by
    rw [show 3 * π / 4 = π - π / 4 by ring, Real.cos_pi_sub, Real.cos_pi_div_four]
  have hs : √2 * √2 = 2 := Real.mul_self_sqrt (by norm_num)
  rw [e1, e2, show √2 * (√2 / 2) = 1 by linarith, show √2 * -(√2 / 2) = -1 by linarith] at h
  exact h

end A5.AngularRoundTrip
