import A5.Lemmas.AuthalicPoly
/-! # C19: the composition bound `|g (f φ) − φ| ≤ 10⁻¹²` over `ℝ`, in exact rational arithmetic

`f = authalicForwardR`, `g = authalicInverseR` (`A5/Lemmas/RealGeo.lean`): the real twins of the float model with
the exact rational values of the generated coefficient tables, *including* the Clenshaw defect
(`authalicR_eq_series`: the `sin 8φ` coefficient is `c4 + c6`).

Method.  `f φ = φ + A φ`, `g β = β + B β` with sine polynomials `A = Σ a_k sin 2kφ`, `B = Σ b_k sin 2kβ`; so
`g (f φ) − φ = A + Σ_k b_k sin (2kφ + 2kA)`.  With the addition formula and the remainder bounds
`Real.cos_bound`, `Real.sin_bound` (`|cos y − (1 − y²/2)| ≤ 5|y|⁴/96`, `|sin y − (y − y³/6)| ≤ |y|⁵/100`):

  `g (f φ) − φ = M φ + R`,  `M = A + Σ_k b_k [sin 2kφ · (1 − (2kA)²/2) + cos 2kφ · (2kA − (2kA)³/6)]`,
  `|R| ≤ Σ_k |b_k| (5 Y_k⁴/96 + Y_k⁵/100)`,  `Y_k = 2k Σ_j |a_j|`  (`remQ`, about `4.8·10⁻¹⁴`).

`M` is a trigonometric polynomial with frequencies `≤ 48φ`; `i · z²⁴ · M = P(z)` for `z = e^{2iφ}` and a list
polynomial `P = compPoly a b` with rational coefficients computed from the tables by list arithmetic
(`main_eq_peval`, proved for *all* rational coefficients), hence `|M| ≤ Σ |P_j|` (`pabs`, about `3.8·10⁻¹⁴`).
The closed rational facts `pabs (compPoly a b) + remQ a b ≤ 1.35·10⁻¹³` (both directions) are evaluated by
the kernel (`decide +kernel`). -/
namespace A5.AuthalicCompose
open A5 A5.RealGeo

/-- the sine polynomial `Σ c_k sin 2kφ` -/
noncomputable def ser (c : C6) (φ : ℝ) : ℝ :=
  (c.c1 : ℝ) * Real.sin (2 * φ) + c.c2 * Real.sin (4 * φ) + c.c3 * Real.sin (6 * φ)
    + c.c4 * Real.sin (8 * φ) + c.c5 * Real.sin (10 * φ) + c.c6 * Real.sin (12 * φ)

/-- the cosine polynomial `Σ c_k cos 2kφ` -/
noncomputable def cser (c : C6) (φ : ℝ) : ℝ :=
  (c.c1 : ℝ) * Real.cos (2 * φ) + c.c2 * Real.cos (4 * φ) + c.c3 * Real.cos (6 * φ)
    + c.c4 * Real.cos (8 * φ) + c.c5 * Real.cos (10 * φ) + c.c6 * Real.cos (12 * φ)

/-- the third-order expansion of `sin (t + y)` in `y` -/
noncomputable def sinExp (t y : ℝ) : ℝ :=
  Real.sin t * (1 - y ^ 2 / 2) + Real.cos t * (y - y ^ 3 / 6)

/-- `Σ_k b_k · (third-order expansion of sin (2k(φ + A)) in A)` -/
noncomputable def expSum (b : C6) (φ A : ℝ) : ℝ :=
  (b.c1 : ℝ) * sinExp (2 * φ) (2 * A) + b.c2 * sinExp (4 * φ) (4 * A) + b.c3 * sinExp (6 * φ) (6 * A)
    + b.c4 * sinExp (8 * φ) (8 * A) + b.c5 * sinExp (10 * φ) (10 * A) + b.c6 * sinExp (12 * φ) (12 * A)

/-- the main term `M` -/
noncomputable def mainR (a b : C6) (φ : ℝ) : ℝ := ser a φ + expSum b φ (ser a φ)

def sumAbs (c : C6) : ℚ :=
  ratAbs c.c1 + ratAbs c.c2 + ratAbs c.c3 + ratAbs c.c4 + ratAbs c.c5 + ratAbs c.c6

/-- the remainder bound for one term, `5 Y⁴/96 + Y⁵/100` -/
def remTerm (Y : ℚ) : ℚ := Y ^ 4 * (5 / 96) + Y ^ 5 / 100

/-- the bound of the remainder `R` -/
def remQ (a b : C6) : ℚ :=
  ratAbs b.c1 * remTerm (2 * sumAbs a) + ratAbs b.c2 * remTerm (4 * sumAbs a)
    + ratAbs b.c3 * remTerm (6 * sumAbs a) + ratAbs b.c4 * remTerm (8 * sumAbs a)
    + ratAbs b.c5 * remTerm (10 * sumAbs a) + ratAbs b.c6 * remTerm (12 * sumAbs a)

private theorem abs_add6_le {x1 x2 x3 x4 x5 x6 B1 B2 B3 B4 B5 B6 : ℝ} (h1 : |x1| ≤ B1) (h2 : |x2| ≤ B2)
    (h3 : |x3| ≤ B3) (h4 : |x4| ≤ B4) (h5 : |x5| ≤ B5) (h6 : |x6| ≤ B6) :
    |x1 + x2 + x3 + x4 + x5 + x6| ≤ B1 + B2 + B3 + B4 + B5 + B6 :=
  (abs_add_le _ _).trans (add_le_add ((abs_add_le _ _).trans (add_le_add ((abs_add_le _ _).trans
    (add_le_add ((abs_add_le _ _).trans (add_le_add ((abs_add_le _ _).trans (add_le_add h1 h2)) h3)) h4)) h5)) h6)

private theorem abs_mul_le_of_abs_le_one {s : ℝ} (hs : |s| ≤ 1) (x : ℝ) : |s * x| ≤ |x| := by
  rw [abs_mul]; exact mul_le_of_le_one_left (abs_nonneg _) hs

theorem abs_ser_le (c : C6) (φ : ℝ) : |ser c φ| ≤ ((sumAbs c : ℚ) : ℝ) := by
  have h : ∀ (q : ℚ) (x : ℝ), |(q : ℝ) * Real.sin x| ≤ ((ratAbs q : ℚ) : ℝ) := fun q x => by
    rw [ratAbs_eq_abs, mul_comm]; exact abs_mul_le_of_abs_le_one (Real.abs_sin_le_one x) _
  unfold ser sumAbs
  push_cast
  exact abs_add6_le (h _ _) (h _ _) (h _ _) (h _ _) (h _ _) (h _ _)

/-- from `Real.cos_bound`, `Real.sin_bound` -/
theorem sin_add_expansion (t y Y : ℝ) (hy : |y| ≤ Y) (hY : Y ≤ 1) :
    |Real.sin (t + y) - sinExp t y| ≤ Y ^ 4 * (5 / 96) + Y ^ 5 / 100 := by
  have hy1 : |y| ≤ 1 := le_trans hy hY
  have a1 := (abs_mul_le_of_abs_le_one (Real.abs_sin_le_one t) _).trans (Real.cos_bound hy1)
  have a2 := (abs_mul_le_of_abs_le_one (Real.abs_cos_le_one t) _).trans (Real.sin_bound hy1)
  have p4 : |y| ^ 4 ≤ Y ^ 4 := pow_le_pow_left₀ (abs_nonneg y) hy 4
  have p5 : |y| ^ 5 ≤ Y ^ 5 := pow_le_pow_left₀ (abs_nonneg y) hy 5
  rw [show Real.sin (t + y) - sinExp t y =
      Real.sin t * (Real.cos y - (1 - y ^ 2 / 2)) + Real.cos t * (Real.sin y - (y - y ^ 3 / 6)) by
    rw [Real.sin_add, sinExp]; ring]
  exact (abs_add_le _ _).trans (add_le_add (a1.trans (mul_le_mul_of_nonneg_right p4 (by norm_num)))
    (a2.trans (div_le_div_of_nonneg_right p5 (by norm_num))))

private theorem term_rem (b : ℚ) {k Abar : ℝ} (φ A : ℝ) (hk : 0 ≤ k) (hA : |A| ≤ Abar) (h1 : k * Abar ≤ 1) :
    |(b : ℝ) * Real.sin (k * (φ + A)) - b * sinExp (k * φ) (k * A)| ≤
      |(b : ℝ)| * ((k * Abar) ^ 4 * (5 / 96) + (k * Abar) ^ 5 / 100) := by
  have hy : |k * A| ≤ k * Abar := by
    rw [abs_mul, abs_of_nonneg hk]; exact mul_le_mul_of_nonneg_left hA hk
  rw [← mul_sub, abs_mul, mul_add k φ A]
  exact mul_le_mul_of_nonneg_left (sin_add_expansion _ _ _ hy h1) (abs_nonneg _)

theorem remainder_bound (a b : C6) (h12 : 12 * sumAbs a ≤ 1) (φ : ℝ) :
    |ser a φ + ser b (φ + ser a φ) - mainR a b φ| ≤ ((remQ a b : ℚ) : ℝ) := by
  have hA := abs_ser_le a φ
  have hs0 := (abs_nonneg _).trans hA
  have h12' : 12 * ((sumAbs a : ℚ) : ℝ) ≤ 1 := by exact_mod_cast h12
  have t : ∀ (c : ℚ) (k : ℝ), 0 ≤ k → k ≤ 12 → _ := fun c k hk hk' =>
    term_rem c φ (ser a φ) hk hA ((mul_le_mul_of_nonneg_right hk' hs0).trans h12')
  rw [mainR]
  generalize ser a φ = A at t ⊢
  unfold remQ remTerm
  push_cast [ratAbs_eq_abs]
  refine (le_of_eq (congrArg _ ?_)).trans
    (abs_add6_le (t b.c1 2 (by norm_num) (by norm_num)) (t b.c2 4 (by norm_num) (by norm_num))
      (t b.c3 6 (by norm_num) (by norm_num)) (t b.c4 8 (by norm_num) (by norm_num))
      (t b.c5 10 (by norm_num) (by norm_num)) (t b.c6 12 (by norm_num) (by norm_num)))
  unfold ser expSum
  ring

/-- `2k² b_k`, `2k b_k`, `(2k)³/6 · b_k`: the coefficients of `A²`, `A`, `A³` in `expSum b φ A`, named as the `let`s
of `compPoly` that they repeat -/
def L2 (b : C6) : C6 := ⟨2 * b.c1, 8 * b.c2, 18 * b.c3, 32 * b.c4, 50 * b.c5, 72 * b.c6⟩
def L3 (b : C6) : C6 := ⟨2 * b.c1, 4 * b.c2, 6 * b.c3, 8 * b.c4, 10 * b.c5, 12 * b.c6⟩
def L4 (b : C6) : C6 :=
  ⟨8 / 6 * b.c1, 64 / 6 * b.c2, 216 / 6 * b.c3, 512 / 6 * b.c4, 1000 / 6 * b.c5, 1728 / 6 * b.c6⟩

def compPoly (a b : C6) : List ℚ :=
  let PA := sinP a
  let PA2 := pmul PA PA
  let PA3 := pmul PA2 PA
  let L2 : C6 := ⟨2 * b.c1, 8 * b.c2, 18 * b.c3, 32 * b.c4, 50 * b.c5, 72 * b.c6⟩
  let L3 : C6 := ⟨2 * b.c1, 4 * b.c2, 6 * b.c3, 8 * b.c4, 10 * b.c5, 12 * b.c6⟩
  let L4 : C6 := ⟨8 / 6 * b.c1, 64 / 6 * b.c2, 216 / 6 * b.c3, 512 / 6 * b.c4, 1000 / 6 * b.c5, 1728 / 6 * b.c6⟩
  padd (pshift 18 (padd PA (sinP b)))
    (padd (pshift 6 (pmul (sinP L2) PA2)) (padd (pshift 12 (pmul (cosP L3) PA)) (pmul (cosP L4) PA3)))

/-- the main term sorted by powers of `A = ser a φ` -/
theorem mainR_eq (a b : C6) (φ : ℝ) :
    mainR a b φ = ser a φ + ser b φ - ser a φ ^ 2 * ser (L2 b) φ + ser a φ * cser (L3 b) φ
      - ser a φ ^ 3 * cser (L4 b) φ := by
  rw [mainR]
  generalize ser a φ = A
  unfold expSum sinExp ser cser L2 L3 L4
  push_cast
  ring

theorem peval_compPoly (a b : C6) {z : ℂ} (hz : z ≠ 0) :
    peval (compPoly a b) z = z ^ 24 * (szSum a z + szSum b z + szSum (L2 b) z * szSum a z ^ 2
      + czSum (L3 b) z * szSum a z + czSum (L4 b) z * szSum a z ^ 3) := by
  simp only [compPoly, L2, L3, L4, peval_padd, peval_pshift, peval_pmul, peval_sinP _ hz, peval_cosP _ hz]
  ring

theorem ser_cast (a : C6) (φ : ℝ) : ((ser a φ : ℝ) : ℂ) = -Complex.I * szSum a (zOf φ) := by
  unfold ser szSum
  simp only [Complex.ofReal_add, Complex.ofReal_mul, Complex.ofReal_ratCast]
  rw [sin_cast φ 1 (by norm_num), sin_cast φ 2 (by norm_num), sin_cast φ 3 (by norm_num),
    sin_cast φ 4 (by norm_num), sin_cast φ 5 (by norm_num), sin_cast φ 6 (by norm_num)]
  ring

theorem cser_cast (a : C6) (φ : ℝ) : ((cser a φ : ℝ) : ℂ) = czSum a (zOf φ) := by
  unfold cser czSum
  simp only [Complex.ofReal_add, Complex.ofReal_mul, Complex.ofReal_ratCast]
  rw [cos_cast φ 1 (by norm_num), cos_cast φ 2 (by norm_num), cos_cast φ 3 (by norm_num),
    cos_cast φ 4 (by norm_num), cos_cast φ 5 (by norm_num), cos_cast φ 6 (by norm_num)]

theorem main_eq_peval (a b : C6) (φ : ℝ) :
    ((mainR a b φ : ℝ) : ℂ) * Complex.I * zOf φ ^ 24 = peval (compPoly a b) (zOf φ) := by
  rw [peval_compPoly a b (z := zOf φ) (Complex.exp_ne_zero _), mainR_eq]
  push_cast
  rw [ser_cast a, ser_cast b, ser_cast (L2 b), cser_cast, cser_cast]
  generalize szSum a (zOf φ) = σa
  generalize szSum b (zOf φ) = σb
  generalize szSum (L2 b) (zOf φ) = σ2
  generalize czSum (L3 b) (zOf φ) = γ3
  generalize czSum (L4 b) (zOf φ) = γ4
  linear_combination (zOf φ ^ 24 * (-σa - σb - σa * γ3
    + (Complex.I * Complex.I - 1) * (σ2 * σa ^ 2 + σa ^ 3 * γ4))) * Complex.I_mul_I

theorem abs_main_le (a b : C6) (φ : ℝ) : |mainR a b φ| ≤ ((pabs (compPoly a b) : ℚ) : ℝ) := by
  have h := norm_peval_le (compPoly a b) (zOf φ) (norm_zOf φ)
  rw [← main_eq_peval, norm_mul, norm_mul, norm_pow, norm_zOf, Complex.norm_I, Complex.norm_real] at h
  simpa using h

theorem compose_generic (a b : C6) (h12 : 12 * sumAbs a ≤ 1) (φ : ℝ) :
    |ser a φ + ser b (φ + ser a φ)| ≤ ((pabs (compPoly a b) + remQ a b : ℚ) : ℝ) := by
  have h := abs_add_le (mainR a b φ) (ser a φ + ser b (φ + ser a φ) - mainR a b φ)
  rw [add_sub_cancel] at h
  push_cast
  exact h.trans (add_le_add (abs_main_le a b φ) (remainder_bound a b h12 φ))

/-- the coefficients of the sine series the code evaluates from table `c` (`authalicR_eq_series`: the `sin 8φ`
coefficient is `c[3] + c[5]`, the Clenshaw defect included), as exact rationals -/
def tab (c : List FConst) : C6 :=
  ⟨coeffQ c 0, coeffQ c 1, coeffQ c 2, coeffQ c 3 + coeffQ c 5, coeffQ c 4, coeffQ c 5⟩

theorem authalicR_tab (c : List FConst) (φ : ℝ) :
    authalicR (coeffR c 0) (coeffR c 1) (coeffR c 2) (coeffR c 3) (coeffR c 4) (coeffR c 5) φ
      = φ + ser (tab c) φ := by
  rw [authalicR_eq_series]
  simp only [ser, tab, coeffR, coeffQ]
  push_cast
  ring

theorem authalicForwardR_eq (φ : ℝ) : authalicForwardR φ = φ + ser (tab Gen.GEODETIC_TO_AUTHALIC) φ :=
  authalicR_tab _ φ

theorem authalicInverseR_eq (β : ℝ) : authalicInverseR β = β + ser (tab Gen.AUTHALIC_TO_GEODETIC) β :=
  authalicR_tab _ β

/-- kernel-checked closed rational facts about geodetic → authalic → geodetic: the main term is below `3.8·10⁻¹⁴`
and not identically zero (the round trip is *not* exact), the remainder bound is below `4.9·10⁻¹⁴` -/
theorem numeric_forward :
    pabs (compPoly (tab Gen.GEODETIC_TO_AUTHALIC) (tab Gen.AUTHALIC_TO_GEODETIC)) ≤ 38 / 1000000000000000 ∧
    remQ (tab Gen.GEODETIC_TO_AUTHALIC) (tab Gen.AUTHALIC_TO_GEODETIC) ≤ 49 / 1000000000000000 ∧
    0 < pabs (compPoly (tab Gen.GEODETIC_TO_AUTHALIC) (tab Gen.AUTHALIC_TO_GEODETIC)) := by
  decide +kernel

/-- `Σ|P_j| + (remainder bound) ≤ 1.35·10⁻¹³` in both directions (the other direction kernel-checked), and
`12 Σ|a_k| ≤ 1` (so that the remainder bounds of `sin`, `cos` apply) -/
theorem numeric_bounds :
    pabs (compPoly (tab Gen.GEODETIC_TO_AUTHALIC) (tab Gen.AUTHALIC_TO_GEODETIC))
      + remQ (tab Gen.GEODETIC_TO_AUTHALIC) (tab Gen.AUTHALIC_TO_GEODETIC) ≤ 135 / 1000000000000000 ∧
    pabs (compPoly (tab Gen.AUTHALIC_TO_GEODETIC) (tab Gen.GEODETIC_TO_AUTHALIC))
      + remQ (tab Gen.AUTHALIC_TO_GEODETIC) (tab Gen.GEODETIC_TO_AUTHALIC) ≤ 135 / 1000000000000000 ∧
    12 * sumAbs (tab Gen.GEODETIC_TO_AUTHALIC) ≤ 1 ∧ 12 * sumAbs (tab Gen.AUTHALIC_TO_GEODETIC) ≤ 1 :=
  ⟨(add_le_add numeric_forward.1 numeric_forward.2.1).trans (by norm_num),
    by decide +kernel, by decide +kernel, by decide +kernel⟩

/-- `numeric_forward` with strict, coarser bounds: main term below `3.9·10⁻¹⁴`, remainder bound below `9.7·10⁻¹⁴`
(it is below `4.9·10⁻¹⁴`) -/
theorem numeric_parts :
    pabs (compPoly (tab Gen.GEODETIC_TO_AUTHALIC) (tab Gen.AUTHALIC_TO_GEODETIC)) < 39 / 1000000000000000 ∧
    remQ (tab Gen.GEODETIC_TO_AUTHALIC) (tab Gen.AUTHALIC_TO_GEODETIC) < 97 / 1000000000000000 ∧
    0 < pabs (compPoly (tab Gen.GEODETIC_TO_AUTHALIC) (tab Gen.AUTHALIC_TO_GEODETIC)) :=
  ⟨numeric_forward.1.trans_lt (by norm_num), numeric_forward.2.1.trans_lt (by norm_num), numeric_forward.2.2⟩

private theorem sharp_of_numeric {a b : C6} (h12 : 12 * sumAbs a ≤ 1)
    (hn : pabs (compPoly a b) + remQ a b ≤ 135 / 1000000000000000) (φ : ℝ) :
    |φ + ser a φ + ser b (φ + ser a φ) - φ| ≤ 1.35e-13 := by
  rw [add_assoc, add_sub_cancel_left]
  exact (compose_generic a b h12 φ).trans ((Rat.cast_le.mpr hn).trans (by norm_num))

/-- **C19 over `ℝ`, sharp form**: geodetic → authalic → geodetic returns the input within `1.35·10⁻¹³` rad,
for every real latitude `φ`. -/
theorem inverse_forward_sharp (φ : ℝ) : |authalicInverseR (authalicForwardR φ) - φ| ≤ 1.35e-13 := by
  rw [authalicInverseR_eq, authalicForwardR_eq]
  exact sharp_of_numeric numeric_bounds.2.2.1 numeric_bounds.1 φ

theorem forward_inverse_sharp (β : ℝ) : |authalicForwardR (authalicInverseR β) - β| ≤ 1.35e-13 := by
  rw [authalicForwardR_eq, authalicInverseR_eq]
  exact sharp_of_numeric numeric_bounds.2.2.2 numeric_bounds.2.1 β

/-- **C19 over `ℝ`** (the bound of the property): `|g (f φ) − φ| ≤ 10⁻¹²` for every real `φ`, where
`f = authalicForwardR`, `g = authalicInverseR` are the real twins of the float conversions with the exact
rational values of the generated coefficients. -/
theorem compose_bound (φ : ℝ) : |authalicInverseR (authalicForwardR φ) - φ| ≤ 1e-12 :=
  le_trans (inverse_forward_sharp φ) (by norm_num)

theorem compose_bound' (β : ℝ) : |authalicForwardR (authalicInverseR β) - β| ≤ 1e-12 :=
  le_trans (forward_inverse_sharp β) (by norm_num)

/-- the same in terms of the generic twin `applyCoefficientsG` at `ℝ` (the expression tree the float model
evaluates, `A5.G.authalicForward_tie` / `authalicInverse_tie`) -/
theorem compose_bound_twin (φ : ℝ) :
    |G.applyCoefficientsG Real.sin Real.cos 2
        (G.applyCoefficientsG Real.sin Real.cos 2 φ
          (coeffR Gen.GEODETIC_TO_AUTHALIC 0) (coeffR Gen.GEODETIC_TO_AUTHALIC 1)
          (coeffR Gen.GEODETIC_TO_AUTHALIC 2) (coeffR Gen.GEODETIC_TO_AUTHALIC 3)
          (coeffR Gen.GEODETIC_TO_AUTHALIC 4) (coeffR Gen.GEODETIC_TO_AUTHALIC 5))
        (coeffR Gen.AUTHALIC_TO_GEODETIC 0) (coeffR Gen.AUTHALIC_TO_GEODETIC 1)
        (coeffR Gen.AUTHALIC_TO_GEODETIC 2) (coeffR Gen.AUTHALIC_TO_GEODETIC 3)
        (coeffR Gen.AUTHALIC_TO_GEODETIC 4) (coeffR Gen.AUTHALIC_TO_GEODETIC 5) - φ| ≤ 1e-12 :=
  compose_bound φ

/-! ## non-vacuity -/

/-- the theorems have no hypotheses; instances at a concrete latitude (1 rad ≈ 57.3°) and at the pole -/
example : |authalicInverseR (authalicForwardR 1) - 1| ≤ 1e-12 := compose_bound 1
example : |authalicForwardR (authalicInverseR (Real.pi / 2)) - Real.pi / 2| ≤ 1e-12 := compose_bound' _
/-- the hypothesis of `compose_generic` is met by a non-trivial coefficient vector -/
example (φ : ℝ) : |ser ⟨1 / 100, 0, 0, 0, 0, 0⟩ φ + ser ⟨-1 / 100, 0, 0, 0, 0, 0⟩ (φ + ser ⟨1 / 100, 0, 0, 0, 0, 0⟩ φ)|
    ≤ ((pabs (compPoly ⟨1 / 100, 0, 0, 0, 0, 0⟩ ⟨-1 / 100, 0, 0, 0, 0, 0⟩)
        + remQ ⟨1 / 100, 0, 0, 0, 0, 0⟩ ⟨-1 / 100, 0, 0, 0, 0, 0⟩ : ℚ) : ℝ) :=
  compose_generic _ _ (by decide +kernel) φ
/-- the coefficient vectors are the generated ones (first entry shown), and they are not trivial -/
example : (tab Gen.GEODETIC_TO_AUTHALIC).c1 = -322704147042479 * (2 : Rat) ^ (-57 : Int) ∧
    (tab Gen.AUTHALIC_TO_GEODETIC).c4 ≠ coeffQ Gen.AUTHALIC_TO_GEODETIC 3 := by decide +kernel

end A5.AuthalicCompose
