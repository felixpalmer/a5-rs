import A5.Lemmas.RealGeo
import Mathlib.Tactic.FieldSimp
/-! # Trigonometric polynomials as list polynomials in `z = e^{2iφ}` (for C19, composition bound)

A real trigonometric polynomial in `θ = 2φ` with frequencies `≤ N` is `z^{-N} · P(z)` for an ordinary polynomial `P`
with `z = e^{iθ}`.  For the sine/cosine polynomials used here, `i·(sine polynomial)` and `cosine polynomial` have
*rational* coefficients, so all arithmetic is list arithmetic over `ℚ` (kernel-evaluable), and
`|trig poly| = ‖P(z)‖ ≤ Σ |coefficients|`. -/
namespace A5.AuthalicCompose
open A5

/-! ## list polynomials over `ℚ` (lowest degree first) -/

def padd : List ℚ → List ℚ → List ℚ
  | [], q => q
  | a :: p, [] => a :: p
  | a :: p, b :: q => (a + b) :: padd p q

def psmul (c : ℚ) : List ℚ → List ℚ
  | [] => []
  | a :: p => (c * a) :: psmul c p

def pmul : List ℚ → List ℚ → List ℚ
  | [], _ => []
  | a :: p, q => padd (psmul a q) (0 :: pmul p q)

def pshift : Nat → List ℚ → List ℚ
  | 0, p => p
  | n + 1, p => 0 :: pshift n p

/-- `Σ |coefficient|` (with the core-only absolute value `ratAbs`) -/
def pabs : List ℚ → ℚ
  | [] => 0
  | a :: p => ratAbs a + pabs p

/-- Horner evaluation at a complex point -/
noncomputable def peval : List ℚ → ℂ → ℂ
  | [], _ => 0
  | a :: p, z => (a : ℂ) + z * peval p z

@[simp] theorem peval_nil (z : ℂ) : peval [] z = 0 := rfl
@[simp] theorem peval_cons (a : ℚ) (p : List ℚ) (z : ℂ) : peval (a :: p) z = (a : ℂ) + z * peval p z := rfl

theorem peval_padd (p q : List ℚ) (z : ℂ) : peval (padd p q) z = peval p z + peval q z := by
  induction p generalizing q with
  | nil => simp [padd]
  | cons a p ih =>
    cases q with
    | nil => simp [padd]
    | cons b q => simp only [padd, peval_cons, ih]; push_cast; ring

theorem peval_psmul (c : ℚ) (p : List ℚ) (z : ℂ) : peval (psmul c p) z = (c : ℂ) * peval p z := by
  induction p with
  | nil => simp [psmul]
  | cons a p ih => simp only [psmul, peval_cons, ih]; push_cast; ring

theorem peval_pmul (p q : List ℚ) (z : ℂ) : peval (pmul p q) z = peval p z * peval q z := by
  induction p with
  | nil => simp [pmul]
  | cons a p ih =>
    simp only [pmul, peval_padd, peval_psmul, peval_cons, ih]; push_cast; ring

theorem peval_pshift (n : Nat) (p : List ℚ) (z : ℂ) : peval (pshift n p) z = z ^ n * peval p z := by
  induction n with
  | zero => simp [pshift]
  | succ n ih => simp only [pshift, peval_cons, ih]; push_cast; ring

theorem pabs_cast_nonneg (p : List ℚ) : (0 : ℝ) ≤ ((pabs p : ℚ) : ℝ) := by
  induction p with
  | nil => simp [pabs]
  | cons a p ih =>
    simp only [pabs]; push_cast
    rw [A5.RealGeo.ratAbs_eq_abs]
    exact add_nonneg (abs_nonneg _) ih

theorem norm_peval_le (p : List ℚ) (z : ℂ) (hz : ‖z‖ = 1) : ‖peval p z‖ ≤ ((pabs p : ℚ) : ℝ) := by
  induction p with
  | nil => simp [pabs]
  | cons a p ih =>
    simp only [peval_cons, pabs]; push_cast
    rw [A5.RealGeo.ratAbs_eq_abs]
    calc ‖(a : ℂ) + z * peval p z‖ ≤ ‖(a : ℂ)‖ + ‖z * peval p z‖ := norm_add_le _ _
      _ = |(a : ℝ)| + ‖peval p z‖ := by
          rw [norm_mul, hz, one_mul]
          congr 1
          rw [show ((a : ℚ) : ℂ) = (((a : ℚ) : ℝ) : ℂ) by push_cast; rfl, Complex.norm_real]
          rfl
      _ ≤ |(a : ℝ)| + ((pabs p : ℚ) : ℝ) := by linarith

/-- six rational coefficients (of `sin 2φ … sin 12φ`) -/
structure C6 where
  c1 : ℚ
  c2 : ℚ
  c3 : ℚ
  c4 : ℚ
  c5 : ℚ
  c6 : ℚ

/-- `z^6 · Σ_k c_k (z^k − z^{-k})/2` -/
def sinP (c : C6) : List ℚ :=
  [-(c.c6 / 2), -(c.c5 / 2), -(c.c4 / 2), -(c.c3 / 2), -(c.c2 / 2), -(c.c1 / 2), 0,
    c.c1 / 2, c.c2 / 2, c.c3 / 2, c.c4 / 2, c.c5 / 2, c.c6 / 2]

/-- `z^6 · Σ_k c_k (z^k + z^{-k})/2` -/
def cosP (c : C6) : List ℚ :=
  [c.c6 / 2, c.c5 / 2, c.c4 / 2, c.c3 / 2, c.c2 / 2, c.c1 / 2, 0,
    c.c1 / 2, c.c2 / 2, c.c3 / 2, c.c4 / 2, c.c5 / 2, c.c6 / 2]

/-- `(z^k − z^{-k})/2  = i · sin kθ` -/
noncomputable def Sz (z : ℂ) (k : Nat) : ℂ := (z ^ k - z⁻¹ ^ k) / 2
/-- `(z^k + z^{-k})/2  = cos kθ` -/
noncomputable def Cz (z : ℂ) (k : Nat) : ℂ := (z ^ k + z⁻¹ ^ k) / 2

noncomputable def szSum (c : C6) (z : ℂ) : ℂ :=
  (c.c1 : ℂ) * Sz z 1 + c.c2 * Sz z 2 + c.c3 * Sz z 3 + c.c4 * Sz z 4 + c.c5 * Sz z 5 + c.c6 * Sz z 6
noncomputable def czSum (c : C6) (z : ℂ) : ℂ :=
  (c.c1 : ℂ) * Cz z 1 + c.c2 * Cz z 2 + c.c3 * Cz z 3 + c.c4 * Cz z 4 + c.c5 * Cz z 5 + c.c6 * Cz z 6

theorem peval_sinP (c : C6) {z : ℂ} (hz : z ≠ 0) : peval (sinP c) z = z ^ 6 * szSum c z := by
  simp only [sinP, peval_cons, peval_nil, szSum, Sz]
  push_cast
  field_simp
  ring

theorem peval_cosP (c : C6) {z : ℂ} (hz : z ≠ 0) : peval (cosP c) z = z ^ 6 * czSum c z := by
  simp only [cosP, peval_cons, peval_nil, czSum, Cz]
  push_cast
  field_simp
  ring

/-- the unit-circle point `z = e^{2iφ}` -/
noncomputable def zOf (φ : ℝ) : ℂ := Complex.exp (((2 * φ : ℝ) : ℂ) * Complex.I)

theorem norm_zOf (φ : ℝ) : ‖zOf φ‖ = 1 := Complex.norm_exp_ofReal_mul_I _

theorem sin_cast (φ : ℝ) (n : Nat) {m : ℝ} (hm : m = n * 2) :
    ((Real.sin (m * φ) : ℝ) : ℂ) = -Complex.I * Sz (zOf φ) n := by
  rw [hm, mul_assoc, Complex.ofReal_sin, Complex.sin, Sz, zOf]
  push_cast
  rw [show -((n : ℂ) * (2 * (φ : ℂ))) * Complex.I = (n : ℂ) * (-(2 * (φ : ℂ) * Complex.I)) by ring,
    show (n : ℂ) * (2 * (φ : ℂ)) * Complex.I = (n : ℂ) * (2 * (φ : ℂ) * Complex.I) by ring,
    Complex.exp_nat_mul, Complex.exp_nat_mul, Complex.exp_neg]
  ring

theorem cos_cast (φ : ℝ) (n : Nat) {m : ℝ} (hm : m = n * 2) :
    ((Real.cos (m * φ) : ℝ) : ℂ) = Cz (zOf φ) n := by
  rw [hm, mul_assoc, Complex.ofReal_cos, Complex.cos, Cz, zOf]
  push_cast
  rw [show -((n : ℂ) * (2 * (φ : ℂ))) * Complex.I = (n : ℂ) * (-(2 * (φ : ℂ) * Complex.I)) by ring,
    show (n : ℂ) * (2 * (φ : ℂ)) * Complex.I = (n : ℂ) * (2 * (φ : ℂ) * Complex.I) by ring,
    Complex.exp_nat_mul, Complex.exp_nat_mul, Complex.exp_neg]

end A5.AuthalicCompose
