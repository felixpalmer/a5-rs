import A5.Lemmas.Within
import A5.Lemmas.Total
import A5.Lemmas.OriginLemmas
import A5.Model.SplitG
/-! List/integer *skeleton* of the boundary pipeline (`get_pentagon`, `split_edges`,
`normalize_longitudes`, `cell_to_boundary`) and of the other id-based call, `cell_to_lonlat`.  Every
`Float` is treated as an arbitrary value: only lengths, positions and control flow are proved.  Core-only. -/
namespace A5

theorem normalizeLongitudes_length (l l' : List (Float × Float)) (h : normalizeLongitudes l = .ok l') :
    l'.length = l.length := by
  rewrite [normalizeLongitudes_eq_fast] at h
  cases l with
  | nil => cases Outcome.ok.inj h; rfl
  | cons a as => unfold normalizeLongitudesFast at h; exact mapOutcome'_length _ _ _ h

/-- latitude components are untouched by `normalize_longitudes` -/
theorem mapOutcomeF_lat (center : Float) :
    ∀ (l l' : List (Float × Float)),
      normalizeLongitudes.mapOutcomeF
        (fun (p : Float × Float) => unwrapLon 64 p.1 center >>= fun l => Outcome.ok (l, p.2)) l = .ok l' →
      l'.map Prod.snd = l.map Prod.snd := by
  intro l
  induction l with
  | nil => intro l' h; cases Outcome.ok.inj h; rfl
  | cons a as ih =>
    intro l' h
    simp only [normalizeLongitudes.mapOutcomeF] at h
    obtain ⟨b, hb, h⟩ := Outcome.bind_eq_ok _ _ _ h
    obtain ⟨bs, hbs, h⟩ := Outcome.bind_eq_ok _ _ _ h
    cases Outcome.ok.inj h
    obtain ⟨x, _, hx⟩ := Outcome.bind_eq_ok _ _ _ hb
    cases Outcome.ok.inj hx
    simp only [List.map_cons, ih bs hbs]

theorem polyNew_length (vs : Poly) : (polyNew vs).length = vs.length := by
  unfold polyNew
  split
  · rfl
  · exact List.length_reverse

theorem polyScale_length (vs : Poly) (s : Float) : (polyScale vs s).length = vs.length := List.length_map _
theorem polyRotate180_length (vs : Poly) : (polyRotate180 vs).length = vs.length := List.length_map _
theorem polyTranslate_length (vs : Poly) (t : V2) : (polyTranslate vs t).length = vs.length := List.length_map _
theorem polyReflectY_length (vs : Poly) : (polyReflectY vs).length = vs.length := by
  unfold polyReflectY
  rewrite [List.length_reverse]
  exact List.length_map _

theorem transformPoly_length (vs : Poly) (m : Float × Float × Float × Float) :
    (transformPoly vs m).length = vs.length := by
  obtain ⟨m00, m01, m10, m11⟩ := m
  simp only [transformPoly]
  split
  · rewrite [polyNew_length]; exact List.length_map _
  · rfl

theorem polyFirst5_length (vs : Poly) : (polyFirst5 vs).length = 5 := by
  unfold polyFirst5
  rewrite [List.length_map, List.length_range]
  rfl

theorem pentagon_length : pentagonConstants.pentagon.length = 5 := by
  simp only [pentagonConstants, polyNew_length, List.length]

theorem getPentagonVertices_length (r : Int) (q : Nat) (a : Anchor) :
    (getPentagonVertices r q a).length = 5 := by
  simp only [getPentagonVertices, getPentagonLocal, getPentagonLocalOf]
  rewrite [transformPoly_length, polyScale_length, polyTranslate_length]
  -- the conditional rotations, reflections and shifts keep the length, whichever branch is taken
  simp only [apply_ite List.length, polyRotate180_length, polyReflectY_length, polyTranslate_length, ite_self]
  exact pentagon_length

theorem getQuintantVertices_length (q : Nat) : (getQuintantVertices q).length = 3 := by
  simp only [getQuintantVertices]
  rewrite [transformPoly_length, polyNew_length, List.length_take, polyFirst5_length]
  rfl

theorem getFaceVertices_length : getFaceVertices.length = 5 := by
  simp only [getFaceVertices]
  rewrite [polyNew_length, List.length_reverse, List.length_map, List.length_range]
  rfl

/-- The two overflow checks of `s_to_anchor` decide its outcome: the reversed orientations compute
`(1u64 << 2n) - s - 1`, the `j`-inverting ones `1 << n`.  A panic when one of them overflows, an anchor
otherwise; never an error. -/
theorem sToAnchor_cases (s n : Nat) (o : Orientation) :
    (((oriReverse o = true ∧ (32 ≤ n ∨ 4 ^ n ≤ s)) ∨ (oriInvertJ o = true ∧ 31 ≤ n)) ∧
        ∃ k, sToAnchor s n o = .panic k) ∨
    (¬ ((oriReverse o = true ∧ (32 ≤ n ∨ 4 ^ n ≤ s)) ∨ (oriInvertJ o = true ∧ 31 ≤ n)) ∧
        ∃ a, sToAnchor s n o = .ok a) := by
  unfold sToAnchor
  generalize oriReverse o = rev
  generalize oriInvertJ o = inv
  generalize oriFlipIJ o = flip
  dsimp only
  -- the second check, once the first has passed (`hp`), on whatever adjusted position
  have tail : ∀ a b : Anchor, ¬ (rev = true ∧ (32 ≤ n ∨ 4 ^ n ≤ s)) →
      (((rev = true ∧ (32 ≤ n ∨ 4 ^ n ≤ s)) ∨ (inv = true ∧ 31 ≤ n)) ∧ ∃ k, (if inv = true then
          if n ≥ 31 then Outcome.panic PanicKind.shlOverflow else Outcome.ok b else Outcome.ok a) = Outcome.panic k) ∨
      (¬ ((rev = true ∧ (32 ≤ n ∨ 4 ^ n ≤ s)) ∨ (inv = true ∧ 31 ≤ n)) ∧ ∃ a', (if inv = true then
          if n ≥ 31 then Outcome.panic PanicKind.shlOverflow else Outcome.ok b else Outcome.ok a) = Outcome.ok a') := by
    intro a b hp
    by_cases hv : inv = true
    · rewrite [if_pos hv]
      by_cases h31 : n ≥ 31
      · rewrite [if_pos h31]; exact Or.inl ⟨Or.inr ⟨hv, h31⟩, _, rfl⟩
      · rewrite [if_neg h31]; exact Or.inr ⟨fun h => h.elim hp (fun h => h31 h.2), _, rfl⟩
    · rewrite [if_neg hv]; exact Or.inr ⟨fun h => h.elim hp (fun h => hv h.1), _, rfl⟩
  by_cases hr : rev = true
  · rewrite [if_pos hr]
    by_cases h64 : 2 * n ≥ 64
    · rewrite [if_pos h64]; exact Or.inl ⟨Or.inl ⟨hr, Or.inl (by omega)⟩, _, rfl⟩
    rewrite [if_neg h64]
    by_cases hs : s + 1 > 4 ^ n
    · rewrite [if_pos hs]; exact Or.inl ⟨Or.inl ⟨hr, Or.inr (by omega)⟩, _, rfl⟩
    · rewrite [if_neg hs]
      simp only [Outcome.bind_ok]
      exact tail _ _ (fun h => by have := h.2; omega)
  · rewrite [if_neg hr]
    simp only [Outcome.bind_ok]
    exact tail _ _ (fun h => hr h.1)

theorem sToAnchor_ok (s n : Nat) (o : Orientation) (hn : n ≤ 30) (hs : s < 4 ^ n) :
    ∃ a, sToAnchor s n o = .ok a := by
  rcases sToAnchor_cases s n o with ⟨h, _⟩ | ⟨_, h⟩
  · rcases h with ⟨_, h | h⟩ | ⟨_, h⟩ <;> omega
  · exact h

theorem getPentagon_eq (c : Cell) :
    getPentagon c =
      if 12 ≤ c.origin then .panic .indexOOB
      else if c.res = 1 then .ok (getQuintantVertices (segmentToQuintant c.segment (originAt c.origin)).1)
      else if c.res = 0 then .ok getFaceVertices
      else if c.res < 0 then .panic .fuel
      else sToAnchor c.s (c.res - 1).toNat (segmentToQuintant c.segment (originAt c.origin)).2 >>= fun a =>
        .ok (getPentagonVertices (c.res - 1) (segmentToQuintant c.segment (originAt c.origin)).1 a) := by
  have hF : Gen.FIRST_HILBERT_RESOLUTION = 2 := rfl
  unfold getPentagon
  rewrite [origins_length]
  have e : c.res - Gen.FIRST_HILBERT_RESOLUTION + 1 = c.res - 1 := by omega
  rewrite [e]
  generalize segmentToQuintant c.segment (originAt c.origin) = qo
  obtain ⟨q, o⟩ := qo
  dsimp only
  by_cases h12 : 12 ≤ c.origin
  · rewrite [if_pos h12, if_pos h12]; rfl
  rewrite [if_neg h12, if_neg h12]
  by_cases h1 : c.res = 1
  · rewrite [if_pos (by omega), if_pos h1]; rfl
  rewrite [if_neg (by omega), if_neg h1]
  by_cases h0 : c.res = 0
  · rewrite [if_pos (by omega), if_pos h0]; rfl
  rewrite [if_neg (by omega), if_neg h0]
  by_cases hn : c.res < 0
  · rewrite [if_pos (by omega), if_pos hn]; rfl
  rewrite [if_neg (by omega), if_neg hn]; rfl

/-- number of corners of a cell: 3 at resolution 1 (a quintant triangle), else 5 -/
def corners (res : Int) : Nat := if res = 1 then 3 else 5

/-- `get_pentagon` returns a polygon with 3 corners at resolution 1 and 5 otherwise — whatever the
float coordinates are. -/
theorem getPentagon_length (c : Cell) (p : Poly) (h : getPentagon c = .ok p) :
    p.length = corners c.res := by
  rewrite [getPentagon_eq] at h
  unfold corners
  by_cases h12 : 12 ≤ c.origin
  · rewrite [if_pos h12] at h; cases h
  rewrite [if_neg h12] at h
  by_cases h1 : c.res = 1
  · rewrite [if_pos h1] at h ⊢
    cases Outcome.ok.inj h
    exact getQuintantVertices_length _
  rewrite [if_neg h1] at h ⊢
  by_cases h0 : c.res = 0
  · rewrite [if_pos h0] at h
    cases Outcome.ok.inj h
    exact getFaceVertices_length
  rewrite [if_neg h0] at h
  by_cases hn : c.res < 0
  · rewrite [if_pos hn] at h; cases h
  rewrite [if_neg hn] at h
  obtain ⟨a, _, h⟩ := Outcome.bind_eq_ok _ _ _ h
  cases Outcome.ok.inj h
  exact getPentagonVertices_length _ _ _

theorem getPentagon_valid (c : Cell) (hv : c.Valid) (hr : c.res ≠ -1) : ∃ p, getPentagon c = .ok p := by
  have ho := hv.origin_lt
  rewrite [getPentagon_eq, if_neg (by omega)]
  rcases hv with ⟨h, _⟩ | ⟨h0, _, _, _⟩ | ⟨h1, _, _, _⟩ | ⟨h2, h29, _, _, hS⟩
  · exact absurd h hr
  · rewrite [if_neg (by omega), if_pos h0]; exact ⟨_, rfl⟩
  · rewrite [if_pos h1]; exact ⟨_, rfl⟩
  · rewrite [if_neg (by omega), if_neg (by omega), if_neg (by omega)]
    obtain ⟨a, ha⟩ := sToAnchor_ok c.s (c.res - 1).toNat (segmentToQuintant c.segment (originAt c.origin)).2
      (by omega) hS
    rewrite [ha]
    exact ⟨_, rfl⟩

/-- the point list built by `split_edges` before `PentagonShape::from_vertices` (`polyNew`) -/
def splitPts (vs : Poly) (segments : Nat) : Poly :=
  let n := vs.length
  (List.range n).flatMap (fun i =>
    let v1 := vs.getD i default
    let v2 := vs.getD ((i + 1) % n) default
    v1 :: ((List.range (segments - 1)).map (fun j0 =>
      let t := Float.ofNat (j0 + 1) / Float.ofNat segments
      (⟨v1.x + t * (v2.x - v1.x), v1.y + t * (v2.y - v1.y)⟩ : V2))))

namespace PG
/-- the list of `A5/Model/SplitG.lean` is `splitPts` (same term); its image under `toPair` is the generic twin
(`splitPts_tie`), from which the length and the corner positions of `splitPts` are read off below -/
theorem splitPtsF_eq_splitPts (vs : Poly) (n : Nat) : splitPtsF vs n = A5.splitPts vs n := Eq.trans rfl rfl
end PG

theorem polySplitEdges_eq (vs : Poly) (n : Nat) :
    polySplitEdges vs n = if n ≤ 1 then vs else polyNew (splitPts vs n) := by
  rewrite [← PG.splitPtsF_eq_splitPts]
  exact PG.polySplitEdges_eq_splitPtsF vs n

theorem splitPts_length (vs : Poly) (n : Nat) (hn : 1 ≤ n) : (splitPts vs n).length = vs.length * n := by
  have h := congrArg List.length (PG.splitPts_tie vs n)
  rewrite [PG.splitPtsF_eq_splitPts, List.length_map, PG.splitEdgesG_length _ _ _ n hn, List.length_map] at h
  exact h

theorem polySplitEdges_le_one (vs : Poly) (n : Nat) (hn : n ≤ 1) : polySplitEdges vs n = vs := by
  rewrite [polySplitEdges_eq, if_pos hn]; rfl

theorem polySplitEdges_length_max (vs : Poly) (n : Nat) : (polySplitEdges vs n).length = vs.length * max n 1 := by
  by_cases hn : n ≤ 1
  · rewrite [polySplitEdges_le_one vs n hn, Nat.max_eq_right hn, Nat.mul_one]; rfl
  · rewrite [polySplitEdges_eq, if_neg hn, polyNew_length, splitPts_length vs n (by omega), Nat.max_eq_left (by omega)]
    rfl

theorem splitPts_corner (vs : Poly) (n i : Nat) (hn : 1 ≤ n) (hi : i < vs.length) :
    (splitPts vs n)[i * n]? = vs[i]? := by
  have h := PG.corners_split Float.ofNat 0.0 (vs.map PG.toPair) n i hn (by rewrite [List.length_map]; exact hi)
  rewrite [← PG.splitPts_tie, PG.splitPtsF_eq_splitPts, List.getElem?_map, List.getElem?_map] at h
  exact (Option.map_inj_right fun ⟨_, _⟩ ⟨_, _⟩ e => by cases e; rfl).1 h

/-- the edge subdivision actually used -/
def boundarySegs (res : Int) : Option Nat → Nat
  | some n => n
  | none => max 1 (2 ^ (max (Gen.DEFAULT_SEGMENTS_BASE - res) 0).toNat)

theorem boundarySegs_none (res : Int) : boundarySegs res none = 2 ^ (6 - res).toNat := by
  simp only [boundarySegs, Gen.DEFAULT_SEGMENTS_BASE]
  have e : (max (6 - res) 0).toNat = (6 - res).toNat := by omega
  rewrite [e]
  exact Nat.max_eq_right (Nat.pow_pos (by omega))

theorem cellToBoundary_world (id : Nat) (closed : Bool) (segs : Option Nat) (h : getResolution id = -1) :
    cellToBoundary id closed segs = .ok [] := by
  unfold cellToBoundary
  split
  · rfl
  · rewrite [deserialize_world id h]
    simp only [Outcome.bind_ok, if_true]

/-- only the world cell itself takes the first exit of the id-based calls; it decodes to the world record -/
theorem ne_world_of_deserialize (id : Nat) (h : deserialize id ≠ .ok ⟨0, 0, 0, -1⟩) : id ≠ Gen.WORLD_CELL := by
  intro h0
  rewrite [show id = 0 from h0] at h
  exact h (deserialize_world 0 getResolution_zero)

theorem ne_world_of_decoded (id : Nat) (c : Cell) (hd : deserialize id = .ok c) (hres : c.res ≠ -1) :
    id ≠ Gen.WORLD_CELL :=
  ne_world_of_deserialize id (by rewrite [hd]; exact fun h => hres (congrArg Cell.res (Outcome.ok.inj h)))

/-- `cell_to_boundary` on an id that decodes to a record with a resolution: the three fallible stages
(polygon, projection of the split polygon, longitude unwrapping) and the final reversal -/
theorem cellToBoundary_decoded_eq (id : Nat) (closed : Bool) (segs : Option Nat) (c : Cell)
    (hd : deserialize id = .ok c) (hres : c.res ≠ -1) :
    cellToBoundary id closed segs =
      (getPentagon c >>= fun p =>
        mapOutcome' (fun v => dodecaInverse v c.origin) (polySplitEdges p (boundarySegs c.res segs)) >>= fun sph =>
        normalizeLongitudes (sph.map (fun x => toLonLat x.1 x.2)) >>= fun nb =>
        match nb with
        | [] => .panic .indexOOB
        | first :: _ => .ok (if closed then nb ++ [first] else nb).reverse) := by
  unfold cellToBoundary
  rewrite [if_neg (ne_world_of_decoded id c hd hres), hd]
  simp only [Outcome.bind_ok]
  rewrite [if_neg hres]
  cases segs <;> rfl

/-- Structure of a successful `cell_to_boundary` on a non-world cell: the ring is the reversal of
`nb` (plus its first point when closed), where `nb` has one entry per point of the split polygon. -/
theorem cellToBoundary_ok (id : Nat) (closed : Bool) (segs : Option Nat) (ring : List (Float × Float))
    (c : Cell) (hd : deserialize id = .ok c) (hres : c.res ≠ -1)
    (h : cellToBoundary id closed segs = .ok ring) :
    ∃ (p : Poly) (first : Float × Float) (rest : List (Float × Float)),
      getPentagon c = .ok p ∧
      (first :: rest).length = (polySplitEdges p (boundarySegs c.res segs)).length ∧
      ring = (if closed then (first :: rest) ++ [first] else first :: rest).reverse := by
  rewrite [cellToBoundary_decoded_eq id closed segs c hd hres] at h
  obtain ⟨p, hp, h⟩ := Outcome.bind_eq_ok _ _ _ h
  obtain ⟨sph, hsph, h⟩ := Outcome.bind_eq_ok _ _ _ h
  obtain ⟨nb, hnb, h⟩ := Outcome.bind_eq_ok _ _ _ h
  have hlen : nb.length = (polySplitEdges p (boundarySegs c.res segs)).length := by
    rewrite [normalizeLongitudes_length _ _ hnb, List.length_map, mapOutcome'_length _ _ _ hsph]; rfl
  cases nb with
  | nil => cases h
  | cons first rest => exact ⟨p, first, rest, hp, hlen, (Outcome.ok.inj h).symm⟩

theorem cellToLonLat_ok_deserialize (id : Nat) (p : Float × Float) (h : cellToLonLat id = .ok p) :
    (deserialize id).isOk = true := by
  unfold cellToLonLat at h
  by_cases h0 : id = Gen.WORLD_CELL
  · rewrite [show id = 0 from h0, deserialize_world 0 getResolution_zero]; rfl
  · rewrite [if_neg h0] at h
    obtain ⟨c, hc, _⟩ := Outcome.bind_eq_ok _ _ _ h
    rewrite [hc]; rfl

theorem cellToLonLat_decoded_eq (id : Nat) (c : Cell) (hd : deserialize id = .ok c) (hres : c.res ≠ -1) :
    cellToLonLat id =
      (getPentagon c >>= fun p => dodecaInverse (polyCenter p) c.origin >>= fun tp =>
        .ok (toLonLat tp.1 tp.2)) := by
  unfold cellToLonLat
  rewrite [if_neg (ne_world_of_decoded id c hd hres), hd]
  simp only [Outcome.bind_ok]
  rewrite [if_neg hres]
  rfl

theorem cellToLonLat_world (id : Nat) (h : getResolution id = -1) : cellToLonLat id = .ok (0.0, 0.0) := by
  unfold cellToLonLat
  by_cases h0 : id = Gen.WORLD_CELL
  · rewrite [if_pos h0]; rfl
  · rewrite [if_neg h0, deserialize_world id h]
    simp only [Outcome.bind_ok, if_true]

/-- the closed ring is the open ring with the open ring's *last* point repeated in front (the first
point is pushed at the end and the whole list is then reversed) -/
def closeRing (r : List (Float × Float)) : List (Float × Float) :=
  match r.getLast? with
  | some x => x :: r
  | none => r

theorem cellToBoundary_closed_eq (id : Nat) (segs : Option Nat) :
    cellToBoundary id true segs = (cellToBoundary id false segs >>= fun r => .ok (closeRing r)) := by
  unfold cellToBoundary
  by_cases h0 : id = Gen.WORLD_CELL
  · rewrite [if_pos h0, if_pos h0]; rfl
  rewrite [if_neg h0, if_neg h0]
  cases deserialize id with
  | err e => rfl
  | panic k => rfl
  | ok c =>
    simp only [Outcome.bind_ok]
    by_cases hr : c.res = -1
    · rewrite [if_pos hr, if_pos hr]; rfl
    rewrite [if_neg hr, if_neg hr]
    -- the two calls differ only in the last stage: compare them stage by stage
    simp only [bind_assoc]
    refine congrArg _ (funext fun p => congrArg _ (funext fun sph => congrArg _ (funext fun nb => ?_)))
    cases nb with
    | nil => rfl
    | cons first rest => simp [closeRing, List.reverse_append]

section twin
variable {α : Type} [Add α] [Sub α] [Neg α] [LT α] [DecidableLT α]

/-- `while lon - center < -180 { lon += 360 }` with explicit fuel, over any scalar type -/
def unwrapUpG (c180 c360 : α) : Nat → α → α → Outcome α
  | 0, _, _ => .panic .fuel
  | fuel + 1, lon, center =>
    if lon - center < -c180 then unwrapUpG c180 c360 fuel (lon + c360) center else .ok lon

/-- both loops of `normalize_longitudes`, over any scalar type; same shape as `unwrapLon` -/
def unwrapLonG (c180 c360 : α) : Nat → α → α → Outcome α
  | 0, _, _ => .panic .fuel
  | fuel + 1, lon, center =>
    if lon - center > c180 then unwrapLonG c180 c360 fuel (lon - c360) center
    else if lon - center < -c180 then unwrapUpG c180 c360 fuel (lon + c360) center
    else .ok lon

end twin

theorem unwrapLonUp_eq_twin : ∀ (fuel : Nat) (lon center : Float),
    unwrapLon.unwrapLonUp fuel lon center = unwrapUpG (180.0 : Float) 360.0 fuel lon center := by
  intro fuel
  induction fuel with
  | zero => intro lon center; rfl
  | succ n ih =>
    intro lon center
    unfold unwrapLon.unwrapLonUp unwrapUpG
    rewrite [ih]
    rfl

/-- the Float model of the unwrapping loops IS the generic twin at `Float` with the literals 180 and 360 -/
theorem unwrapLon_eq_twin : ∀ (fuel : Nat) (lon center : Float),
    unwrapLon fuel lon center = unwrapLonG (180.0 : Float) 360.0 fuel lon center := by
  intro fuel
  induction fuel with
  | zero => intro lon center; rfl
  | succ n ih =>
    intro lon center
    unfold unwrapLon unwrapLonG
    rewrite [ih, unwrapLonUp_eq_twin]
    rfl

end A5
