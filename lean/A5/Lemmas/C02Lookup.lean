import A5.Lemmas.LookupSkel
/-! # C02, `Float` skeleton of the direct branch of `lonlat_to_cell`

All floats are arbitrary values; the statements are about the integer skeleton, for every `lon lat : Float`. -/
namespace A5.C02L
open A5

/-- the lattice coordinates handed to `ij_to_s` by `lonlat_to_estimate`: face-plane point `dp`, rotated back by the
quintant, scaled by `2^n`, converted with `faceToIJ` -/
def estLattice (dp : V2) (quintant : Nat) (n : Nat) : Float × Float :=
  let dp : V2 :=
    if quintant != 0 then
      let extra := 2.0 * fc Gen.PI_OVER_5 * Float.ofNat quintant
      let c := (-extra).cos
      let s := (-extra).sin
      ⟨c * dp.x - s * dp.y, s * dp.x + c * dp.y⟩
    else dp
  let scale := Float.ofNat (2 ^ n)
  faceToIJ ⟨dp.x * scale, dp.y * scale⟩

/-- curve depth of resolution `r` -/
def depthOf (r : Int) : Nat := (1 + r - Gen.FIRST_HILBERT_RESOLUTION).toNat

theorem depthOf_eq (r : Int) : depthOf r = (r - 1).toNat := by
  have hF : Gen.FIRST_HILBERT_RESOLUTION = 2 := rfl
  unfold depthOf
  omega

/-- `lonlat_to_estimate` at a curve resolution, in one line -/
theorem lonlatToEstimate_hilbert (lon lat : Float) (r : Int) (h2 : 2 ≤ r) :
    lonlatToEstimate lon lat r =
      (dodecaForward (fromLonLat lon lat).1 (fromLonLat lon lat).2
          (findNearestOrigin (fromLonLat lon lat).1 (fromLonLat lon lat).2).id >>= fun dp =>
        ijToS floatLits (estLattice dp (getQuintantPolar (toPolar dp).2) (depthOf r)).1
            (estLattice dp (getQuintantPolar (toPolar dp).2) (depthOf r)).2 (depthOf r)
            (quintantToSegment (getQuintantPolar (toPolar dp).2)
              (findNearestOrigin (fromLonLat lon lat).1 (fromLonLat lon lat).2)).2 >>= fun s =>
        .ok ⟨(findNearestOrigin (fromLonLat lon lat).1 (fromLonLat lon lat).2).id,
          (quintantToSegment (getQuintantPolar (toPolar dp).2)
            (findNearestOrigin (fromLonLat lon lat).1 (fromLonLat lon lat).2)).1, s, r⟩) := by
  have hF : ¬ r < Gen.FIRST_HILBERT_RESOLUTION := by
    have : Gen.FIRST_HILBERT_RESOLUTION = 2 := rfl
    omega
  unfold lonlatToEstimate
  simp only [if_neg hF]
  rfl

/-- with `seen` non-empty no later answer carries branch 0: the branch tag of a hit is `seen.length` at that moment -/
theorem lookupLoop_branch_ge (lon lat : Float) (r : Int) : ∀ (samples : List (Float × Float)) (seen : List Nat)
    (cells : List (Cell × Float)) (res : LookupResult), lookupLoop lon lat r samples seen cells = .ok res →
    res.branch = -1 ∨ (seen.length : Int) ≤ res.branch := by
  intro samples
  induction samples with
  | nil =>
    intro seen cells res h
    cases cells with
    | nil => cases h
    | cons c0 rest =>
      rewrite [lookupLoop_nil_cons] at h
      obtain ⟨id, _, h⟩ := Outcome.bind_eq_ok _ _ _ h
      cases Outcome.ok.inj h
      exact Or.inl rfl
  | cons smp samples ih =>
    intro seen cells res h
    obtain ⟨slon, slat⟩ := smp
    rewrite [lookupLoop_cons] at h
    obtain ⟨est, _, h⟩ := Outcome.bind_eq_ok _ _ _ h
    obtain ⟨key, _, h⟩ := Outcome.bind_eq_ok _ _ _ h
    by_cases hc : seen.contains key = true
    · rewrite [if_pos hc] at h
      exact ih seen cells res h
    rewrite [if_neg hc] at h
    obtain ⟨d, _, h⟩ := Outcome.bind_eq_ok _ _ _ h
    by_cases hpos : d > 0.0
    · rewrite [if_pos hpos] at h
      obtain ⟨id, _, h⟩ := Outcome.bind_eq_ok _ _ _ h
      cases Outcome.ok.inj h
      exact Or.inr (Int.le_refl _)
    · rewrite [if_neg hpos] at h
      obtain ⟨o, _, h⟩ := Outcome.bind_eq_ok _ _ _ h
      rcases ih _ _ res h with h1 | h1
      · exact Or.inl h1
      · refine Or.inr ?_
        rewrite [List.length_append] at h1
        simp only [List.length_cons, List.length_nil] at h1
        omega

/-- **T2 of C02.**  If the lookup answers `⟨id, 0⟩` (branch 0) then `2 ≤ r ≤ 29`, the estimate
of the query point itself is a cell `c` of resolution `r` with a real face and quintant and a position that fits, the
model's containment test of `c` at the query point is positive, and `id = serialize c`; in the words of
`lonlatToEstimate_hilbert`: `id` encodes (nearest face, segment of the quintant, `ij_to_s` of the scaled lattice
coordinates). -/
theorem lookup_direct_hit_is_roundtrip (lon lat : Float) (r : Int) (id : Nat)
    (h : lonlatToCellB lon lat r = .ok ⟨id, 0⟩) :
    2 ≤ r ∧ r ≤ 29 ∧ ∃ c d, lonlatToEstimate lon lat r = .ok c ∧ EstOK r c ∧ serialize c = .ok id ∧
      cellContainsPoint c lon lat = .ok d ∧ d > 0.0 := by
  obtain ⟨_, _, _, _, hbr⟩ := lonlatToCellB_ok_post lon lat r _ h
  have h2 : 2 ≤ r := by
    rcases hbr with ⟨_, _, hb⟩ | ⟨_, _, hb, _⟩ | ⟨h2, _⟩ | ⟨h2, _⟩
    · simp only at hb; omega
    · simp only at hb; omega
    · exact h2
    · exact h2
  refine ⟨h2, by omega, ?_⟩
  rewrite [lonlatToCellB_inRange lon lat r (by omega) (by omega), if_neg (by omega)] at h
  obtain ⟨tail, hps, _⟩ := probeSamples_eq lon lat (1 + r - 2)
  rewrite [hps, lookupLoop_cons] at h
  obtain ⟨est, he, h⟩ := Outcome.bind_eq_ok _ _ _ h
  obtain ⟨key, hkey, h⟩ := Outcome.bind_eq_ok _ _ _ h
  rewrite [if_neg (by simp)] at h
  obtain ⟨d, hd, h⟩ := Outcome.bind_eq_ok _ _ _ h
  by_cases hpos : d > 0.0
  · rewrite [if_pos hpos, hkey] at h
    cases Outcome.ok.inj h
    exact ⟨est, d, he, lonlatToEstimate_estOK (by omega) he, hkey, hd, hpos⟩
  · rewrite [if_neg hpos] at h
    obtain ⟨o, _, h⟩ := Outcome.bind_eq_ok _ _ _ h
    rcases lookupLoop_branch_ge lon lat r _ _ _ _ h with h1 | h1
    · simp only at h1; omega
    · simp only [List.nil_append, List.length_cons, List.length_nil] at h1
      omega

/-- **Converse.**  For a curve resolution: if the estimate of the point is `c` and the
containment test of `c` accepts the point, then the lookup returns the encoding of `c`, through branch 0.  Applied to the
centre of a cell this is the step "centre inside its own lattice triangle and pentagon ⇒ round trip". -/
theorem roundtrip_of_direct_hit (lon lat : Float) (r : Int) (h2 : 2 ≤ r) (hr : r ≤ 29) (c : Cell) (d : Float)
    (he : lonlatToEstimate lon lat r = .ok c) (hd : cellContainsPoint c lon lat = .ok d) (hpos : d > 0.0) :
    ∃ id, serialize c = .ok id ∧ lonlatToCellB lon lat r = .ok ⟨id, 0⟩ ∧ lonlatToCell lon lat r = .ok id ∧
      Layout id ∧ getResolution id = r := by
  obtain ⟨key, hkey, hlay, hres⟩ := serialize_est r c (lonlatToEstimate_estOK hr he) (by omega) hr
  have hB : lonlatToCellB lon lat r = .ok ⟨key, 0⟩ := by
    rewrite [lonlatToCellB_inRange lon lat r (by omega) hr, if_neg (by omega)]
    obtain ⟨tail, hps, _⟩ := probeSamples_eq lon lat (1 + r - 2)
    rewrite [hps, lookupLoop_cons, he]
    simp only [Outcome.bind_ok]
    rewrite [hkey]
    simp only [Outcome.bind_ok]
    rewrite [if_neg (by simp), hd]
    simp only [Outcome.bind_ok]
    rewrite [if_pos hpos]
    rfl
  refine ⟨key, hkey, hB, ?_, hlay, hres⟩
  rewrite [lonlatToCell_eq, hB]
  rfl

/-- for a valid cell of a curve resolution the encoding is the documented one, so the round trip returns `encNat c` -/
theorem roundtrip_of_direct_hit_valid (lon lat : Float) (c : Cell) (hv : c.Valid) (h2 : 2 ≤ c.res) (d : Float)
    (he : lonlatToEstimate lon lat c.res = .ok c) (hd : cellContainsPoint c lon lat = .ok d) (hpos : d > 0.0) :
    lonlatToCell lon lat c.res = .ok (encNat c) := by
  have h29 : c.res ≤ 29 := by
    rcases hv with ⟨h, _⟩ | ⟨h, _⟩ | ⟨h, _⟩ | ⟨_, h29, _⟩ <;> omega
  obtain ⟨id, hs, _, hl, _⟩ := roundtrip_of_direct_hit lon lat c.res h2 h29 c d he hd hpos
  rewrite [serialize_valid c hv] at hs
  cases Outcome.ok.inj hs
  exact hl

/-- the hypotheses of `roundtrip_of_direct_hit` are jointly satisfiable in shape: an estimate cell of resolution 4 -/
example : EstOK 4 ⟨7, 3, 0x2d, 4⟩ := ⟨rfl, by decide, by decide, by decide⟩
example : depthOf 4 = 3 := by decide
/-- `lookupLoop_branch_ge` on the empty sample list with one recorded miss: the fallback, branch −1 -/
example (lon lat d : Float) : ∃ res, lookupLoop lon lat 4 [] [5] [(⟨7, 3, 0x2d, 4⟩, d)] = .ok res ∧ res.branch = -1 := by
  rewrite [lookupLoop_nil_cons]
  have h : serialize (firstMax ((⟨7, 3, 0x2d, 4⟩ : Cell), d) []).1 = .ok (encNat ⟨7, 3, 0x2d, 4⟩) :=
    serialize_valid _ (by show (⟨7, 3, 0x2d, 4⟩ : Cell).Valid; decide)
  rewrite [h]
  exact ⟨_, rfl, rfl⟩

end A5.C02L
