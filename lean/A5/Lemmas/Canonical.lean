import A5.Spec.Tree
/-! # Canonical covers in the cell tree (pure tree theory, core-only, no ids)

Finite sets of cells are `List Path` with membership semantics.  Regions are compared on the cells of the finest
resolution 29; any resolution at least as fine as all members would do (`sameRegion_iff_at`).

Main theorem `canonical_unique`: two antichains of well-formed cells without complete sibling group that cover
the same region have the same members.  The whole proof is the one lemma `no_member_strictly_below`. -/
namespace A5.Canonical
open A5 A5.Path

/-- `p` is `q` or an ancestor of `q`; read `Below p q` as "below `p` lies `q`" -/
def Below (p q : Path) : Prop := res p ≤ res q ∧ ancestorAt q (res p) = p

instance (p q : Path) : Decidable (Below p q) := by unfold Below; infer_instance

theorem below_refl (p : Path) : Below p p := ⟨Int.le_refl _, ancestorAt_self p _ (Int.le_refl _)⟩

theorem below_trans {p q r : Path} (h1 : Below p q) (h2 : Below q r) : Below p r := by
  refine ⟨Int.le_trans h1.1 h2.1, ?_⟩
  rw [← ancestorAt_ancestorAt r (res q) (res p) h1.1, h2.2, h1.2]

theorem below_eq_of_res_eq {p q : Path} (h : Below p q) (hr : res p = res q) : p = q := by
  have := h.2
  rw [hr, ancestorAt_self q _ (Int.le_refl _)] at this
  exact this.symm

theorem below_antisymm {p q : Path} (h1 : Below p q) (h2 : Below q p) : p = q :=
  below_eq_of_res_eq h1 (Int.le_antisymm h1.1 h2.1)

theorem below_chain {p p' q : Path} (h : Below p q) (h' : Below p' q) : Below p p' ∨ Below p' p := by
  rcases Int.le_total (res p) (res p') with hle | hle
  · left
    refine ⟨hle, ?_⟩
    rw [← h'.2, ancestorAt_ancestorAt q _ _ hle, h.2]
  · right
    refine ⟨hle, ?_⟩
    rw [← h.2, ancestorAt_ancestorAt q _ _ hle, h'.2]

theorem below_ancestorAt (q : Path) (r : Int) (h1 : -1 ≤ r) (h2 : r ≤ res q) : Below (ancestorAt q r) q := by
  have hr := res_ancestorAt q r h1 h2
  exact ⟨by omega, by rw [hr]⟩

theorem below_ancestorAt_iff {p q : Path} (r : Int) (h1 : res p ≤ r) (h2 : r ≤ res q) :
    Below p q ↔ Below p (ancestorAt q r) := by
  have hr := res_ancestorAt q r (Int.le_trans (res_ge p) h1) h2
  constructor
  · intro h
    refine ⟨by omega, ?_⟩
    rw [ancestorAt_ancestorAt q _ _ h1, h.2]
  · intro h
    exact below_trans h (below_ancestorAt q r (Int.le_trans (res_ge p) h1) h2)

theorem below_of_mem_children {P c : Path} (h : c ∈ children P) : Below P c :=
  ⟨by rw [res_children h]; omega, ancestorAt_children h⟩

theorem below_world (x : Path) : Below world x := ⟨res_ge x, by cases x <;> simp [ancestorAt, res]⟩

theorem below_face_deep (f k : Nat) (ds : List Nat) : Below (face f) (deep f k ds) :=
  ⟨by simp only [res]; omega, by simp [ancestorAt, res]⟩

theorem below_parent (p : Path) : Below (parent p) p := by
  cases p with
  | world => exact below_refl _
  | face f => exact below_world _
  | deep f k ds =>
    rw [parent_eq_ancestorAt]
    exact below_ancestorAt _ _ (by simp only [res]; omega) (by omega)

theorem wf_of_below {p q : Path} (hq : WF q) (h : Below p q) : WF p := by
  rw [← h.2]; exact wf_ancestorAt hq _

theorem res_lt_of_below_ne {p q : Path} (h : Below p q) (hne : p ≠ q) : res p < res q :=
  Std.lt_of_le_of_ne h.1 (fun e => hne (below_eq_of_res_eq h e))

theorem below_parent_of_below_ne {b d : Path} (h : Below b d) (hne : b ≠ d) : Below b (parent d) := by
  have hlt := res_lt_of_below_ne h hne
  rw [parent_eq_ancestorAt]
  exact (below_ancestorAt_iff (res d - 1) (by omega) (by omega)).1 h

theorem fan_pos (r : Int) : 0 < fan r := by
  unfold fan; split
  · omega
  · split <;> omega

theorem fanout_pos (n : Nat) (r : Int) : 0 < fanout n r := by
  induction n generalizing r with
  | zero => simp [fanout]
  | succ n ih => simp only [fanout]; exact Nat.mul_pos (fan_pos r) (ih _)

theorem exists_descendant_at {p : Path} (hp : WF p) (r : Int) (h1 : res p ≤ r) (h2 : r ≤ 29) :
    ∃ q, WF q ∧ res q = r ∧ Below p q := by
  have hlen := length_descendantsAt p r h1
  have hpos := fanout_pos (r - res p).toNat (res p)
  cases hd : descendantsAt p r with
  | nil => rw [hd] at hlen; simp only [List.length_nil] at hlen; omega
  | cons q t =>
    have hq : q ∈ descendantsAt p r := by rw [hd]; exact List.mem_cons_self ..
    have hres := res_of_mem_descendantsAt hq
    exact ⟨q, wf_of_mem_descendantsAt hp h2 hq, hres, by omega, ancestorAt_of_mem_descendantsAt hq⟩

theorem exists_finest {p : Path} (hp : WF p) : ∃ q, WF q ∧ res q = 29 ∧ Below p q :=
  exists_descendant_at hp 29 (res_le hp) (by omega)

theorem exists_mem_children (P : Path) : ∃ c, c ∈ children P :=
  List.exists_mem_of_length_pos (by rw [length_children]; exact fan_pos _)

theorem below_cases {P x : Path} (hx : WF x) (h : Below P x) : x = P ∨ ∃ c ∈ children P, Below c x := by
  by_cases e : P = x
  · exact Or.inl e.symm
  · have hlt := res_lt_of_below_ne h e
    have hc := ancestorAt_succ_mem_children hx (res P) (res_ge P) hlt
    rw [h.2] at hc
    exact Or.inr ⟨_, hc, below_ancestorAt x _ (by have := res_ge P; omega) (by omega)⟩

theorem comparable_child {P x : Path} (hx : WF x) (h : Below P x ∨ Below x P) :
    x = P ∨ ∃ c ∈ children P, Below c x ∨ Below x c := by
  rcases h with h | h
  · exact (below_cases hx h).imp_right fun ⟨c, hc, hcx⟩ => ⟨c, hc, Or.inl hcx⟩
  · obtain ⟨c, hc⟩ := exists_mem_children P
    exact Or.inr ⟨c, hc, Or.inr (below_trans h (below_of_mem_children hc))⟩

/-- no two distinct members are comparable: the cells do not overlap -/
def Antichain (A : List Path) : Prop := ∀ p ∈ A, ∀ q ∈ A, Below p q → p = q

/-- `q` lies in the region of `A` -/
def Covers (A : List Path) (q : Path) : Prop := ∃ p ∈ A, Below p q

/-- `A` and `B` cover the same cells of resolution `R` -/
def SameRegionAt (R : Int) (A B : List Path) : Prop := ∀ q, WF q → res q = R → (Covers A q ↔ Covers B q)

/-- `A` and `B` cover the same cells of the finest resolution -/
def SameRegion (A B : List Path) : Prop := SameRegionAt 29 A B

/-- no cell has all of its children in `A` (all 12 base cells / 5 quintants of a face / 4 children) -/
def NoCompleteGroup (A : List Path) : Prop := ¬ ∃ P, WF P ∧ res P ≤ 28 ∧ ∀ c ∈ children P, c ∈ A

structure IsCanonical (A : List Path) : Prop where
  wf : ∀ p ∈ A, WF p
  antichain : Antichain A
  maximal : NoCompleteGroup A

theorem sameRegionAt_refl (R : Int) (A : List Path) : SameRegionAt R A A := fun _ _ _ => Iff.rfl
theorem sameRegionAt_symm {R : Int} {A B : List Path} (h : SameRegionAt R A B) : SameRegionAt R B A :=
  fun q hq hr => (h q hq hr).symm
theorem sameRegionAt_trans {R : Int} {A B C : List Path} (h1 : SameRegionAt R A B) (h2 : SameRegionAt R B C) :
    SameRegionAt R A C := fun q hq hr => (h1 q hq hr).trans (h2 q hq hr)

theorem sameRegion_refl (A : List Path) : SameRegion A A := sameRegionAt_refl 29 A
theorem sameRegion_symm {A B : List Path} (h : SameRegion A B) : SameRegion B A := sameRegionAt_symm h
theorem sameRegion_trans {A B C : List Path} (h1 : SameRegion A B) (h2 : SameRegion B C) : SameRegion A C :=
  sameRegionAt_trans h1 h2

theorem sameRegion_of_mem_iff {A B : List Path} (h : ∀ p, p ∈ A ↔ p ∈ B) : SameRegion A B :=
  fun _ _ _ => ⟨fun ⟨p, hp, hb⟩ => ⟨p, (h p).1 hp, hb⟩, fun ⟨p, hp, hb⟩ => ⟨p, (h p).2 hp, hb⟩⟩

theorem Antichain.eq_of_comparable {A : List Path} (ha : Antichain A) {p q : Path} (hp : p ∈ A) (hq : q ∈ A)
    (h : Below p q ∨ Below q p) : p = q :=
  h.elim (ha p hp q hq) fun h => (ha q hq p hp h).symm

theorem antichain_of_subset {A B : List Path} (h : ∀ x ∈ A, x ∈ B) (hB : Antichain B) : Antichain A :=
  fun p hp q hq hb => hB p (h p hp) q (h q hq) hb

theorem antichain_cons {p : Path} {L : List Path} (hL : Antichain L)
    (key : ∀ y ∈ L, (Below p y ∨ Below y p) → p = y) : Antichain (p :: L) := by
  intro x hx y hy hb
  rcases List.mem_cons.1 hx with e1 | hx'
  · rcases List.mem_cons.1 hy with e2 | hy'
    · rw [e1, e2]
    · rw [e1] at hb ⊢; exact key y hy' (Or.inl hb)
  · rcases List.mem_cons.1 hy with e2 | hy'
    · rw [e2] at hb ⊢; exact (key x hx' (Or.inr hb)).symm
    · exact hL x hx' y hy' hb

theorem not_mem_of_child_mem {A : List Path} (ha : Antichain A) {P c : Path} (hc : c ∈ children P) (hcA : c ∈ A) :
    P ∉ A := by
  intro hP
  have e := ha P hP c hcA (below_of_mem_children hc)
  have := res_children hc
  rw [← e] at this
  omega

theorem covers_cons (p : Path) (L : List Path) (q : Path) : Covers (p :: L) q ↔ Below p q ∨ Covers L q := by
  simp only [Covers, List.mem_cons, exists_eq_or_imp]

theorem covers_append (A B : List Path) (q : Path) : Covers (A ++ B) q ↔ Covers A q ∨ Covers B q := by
  simp only [Covers, List.mem_append, or_and_right, exists_or]

theorem covers_children {P q : Path} (hr : res P ≤ 28) (hq : WF q) (hq29 : res q = 29) :
    Covers (children P) q ↔ Below P q := by
  constructor
  · rintro ⟨c, hc, hb⟩; exact below_trans (below_of_mem_children hc) hb
  · intro h
    rcases below_cases hq h with e | h'
    · rw [e] at hq29; omega
    · exact h'

theorem covers_of_below {A : List Path} {q q' : Path} (h : Covers A q) (hb : Below q q') : Covers A q' := by
  obtain ⟨p, hp, hpq⟩ := h
  exact ⟨p, hp, below_trans hpq hb⟩

theorem covers_ancestorAt_iff {A : List Path} {q : Path} (r : Int) (hA : ∀ p ∈ A, res p ≤ r) (h2 : r ≤ res q) :
    Covers A q ↔ Covers A (ancestorAt q r) :=
  exists_congr fun p => and_congr_right fun hp => below_ancestorAt_iff r (hA p hp) h2

theorem mem_flatMap_descendantsAt_iff {A : List Path} (hA : ∀ p ∈ A, WF p) {r : Int} (hr : r ≤ 29)
    (hfine : ∀ p ∈ A, res p ≤ r) (d : Path) :
    d ∈ A.flatMap (fun p => descendantsAt p r) ↔ WF d ∧ res d = r ∧ Covers A d := by
  rw [List.mem_flatMap]
  constructor
  · rintro ⟨p, hp, hd⟩
    have hrd := res_of_mem_descendantsAt hd
    exact ⟨wf_of_mem_descendantsAt (hA p hp) hr hd, hrd, p, hp, by rw [hrd]; exact hfine p hp,
      ancestorAt_of_mem_descendantsAt hd⟩
  · rintro ⟨hwd, hrd, p, hp, _, ha⟩
    exact ⟨p, hp, (mem_descendantsAt_iff hwd (hfine p hp)).2 ⟨hrd, ha⟩⟩

theorem sameRegion_iff_at {A B : List Path} (R : Int) (hR : R ≤ 29) (hA : ∀ p ∈ A, res p ≤ R)
    (hB : ∀ p ∈ B, res p ≤ R) : SameRegion A B ↔ SameRegionAt R A B := by
  constructor
  · intro h q hq hr
    obtain ⟨f, hf, hf29, hqf⟩ := exists_finest hq
    have e : ancestorAt f R = q := by rw [← hr]; exact hqf.2
    have := h f hf hf29
    rw [covers_ancestorAt_iff R hA (by omega), covers_ancestorAt_iff R hB (by omega), e] at this
    exact this
  · intro h q hq hr
    rw [covers_ancestorAt_iff R hA (by omega), covers_ancestorAt_iff R hB (by omega)]
    by_cases hneg : R < -1
    · -- no member can exist
      constructor
      · rintro ⟨p, hp, _⟩; have := hA p hp; have := res_ge p; omega
      · rintro ⟨p, hp, _⟩; have := hB p hp; have := res_ge p; omega
    · exact h _ (wf_ancestorAt hq R) (res_ancestorAt q R (by omega) (by omega))

/-- KEY LEMMA.  Let `A` be an antichain without complete sibling group and `b` a cell all of whose finest
descendants are covered by `A`.  Then no member of `A` lies strictly below `b`.
(Under a member `d` strictly below `b` some sibling of `d` is missing from `A`, and what covers that sibling is a
member below `b` that is deeper than `d`: induction on the distance of `d` from resolution 30.) -/
theorem no_member_strictly_below {A : List Path} (hwf : ∀ p ∈ A, WF p) (hanti : Antichain A)
    (hmax : NoCompleteGroup A) {b : Path}
    (hcov : ∀ q, WF q → res q = 29 → Below b q → Covers A q)
    {p : Path} (hp : p ∈ A) (hbp : Below b p) : p = b := by
  apply Classical.byContradiction
  intro hne
  have hnotabove : ∀ a ∈ A, ¬ Below a b := by
    intro a ha hab
    have := hanti a ha p hp (below_trans hab hbp)
    subst this
    exact hne (below_antisymm hab hbp)
  suffices key : ∀ (n : Nat) (d : Path), d ∈ A → Below b d → 30 ≤ res d + n → False from
    key 31 p hp hbp (by have := res_ge p; omega)
  intro n
  induction n with
  | zero => intro d hdA _ hn; have := res_le (hwf d hdA); omega
  | succ n ih =>
    intro d hdA hbd hn
    have hdne : b ≠ d := fun e => hnotabove d hdA (e ▸ below_refl b)
    have hlt := res_lt_of_below_ne hbd hdne
    have hdwf := hwf d hdA
    have hd29 := res_le hdwf
    have hdw : d ≠ world := by
      intro e; subst e
      have e1 : res world = -1 := rfl
      have := res_ge b; omega
    have hPwf : WF (parent d) := wf_parent hdwf
    have hdP : d ∈ children (parent d) := mem_children_parent hdwf hdw
    have hresP : res (parent d) = res d - 1 := by have := res_children hdP; omega
    have hbP : Below b (parent d) := below_parent_of_below_ne hbd hdne
    refine hmax ⟨parent d, hPwf, by omega, fun c hc => ?_⟩
    have hcwf : WF c := wf_children hPwf (by omega) hc
    have hresc : res c = res d := by rw [res_children hc]; omega
    have hPc : Below (parent d) c := below_of_mem_children hc
    obtain ⟨f, hf, hf29, hcf⟩ := exists_finest hcwf
    obtain ⟨a, haA, haf⟩ := hcov f hf hf29 (below_trans hbP (below_trans hPc hcf))
    rcases below_chain haf hcf with hac | hca
    · -- `a` above-or-equal `c`
      by_cases hr : res a = res c
      · rw [← below_eq_of_res_eq hac hr]; exact haA
      · exfalso
        have hlt' : res a < res c := by have := hac.1; omega
        have haP : Below a (parent d) := by
          have := (below_ancestorAt_iff (p := a) (q := c) (res (parent d)) (by omega) hPc.1).1 hac
          rwa [hPc.2] at this
        have had := below_trans haP (below_of_mem_children hdP)
        have := hanti a haA d hdA had
        subst this
        omega
    · -- `a` below-or-equal `c`: were it deeper than `d`, the induction hypothesis would apply
      by_cases hr : res c = res a
      · rw [below_eq_of_res_eq hca hr]; exact haA
      · have := hca.1
        exact (ih a haA (below_trans hbP (below_trans hPc hca)) (by omega)).elim

theorem subset_of_sameRegion {A B : List Path} (hA : IsCanonical A) (hB : IsCanonical B) (h : SameRegion A B) :
    ∀ p, p ∈ A → p ∈ B := by
  intro p hp
  have hpwf := hA.wf p hp
  obtain ⟨f, hf, hf29, hpf⟩ := exists_finest hpwf
  obtain ⟨b, hbB, hbf⟩ := (h f hf hf29).1 ⟨p, hp, hpf⟩
  rcases below_chain hbf hpf with hbp | hpb
  · -- `b` is `p` or an ancestor of `p`: all of `b` is covered by `A`, `p ∈ A` lies below `b`
    have : p = b := no_member_strictly_below hA.wf hA.antichain hA.maximal
      (fun q hq hq29 hbq => (h q hq hq29).2 ⟨b, hbB, hbq⟩) hp hbp
    rw [this]; exact hbB
  · -- `b` is `p` or a descendant: all of `p` is covered by `B`, `b ∈ B` lies below `p`
    have : b = p := no_member_strictly_below hB.wf hB.antichain hB.maximal
      (fun q hq hq29 hpq => (h q hq hq29).1 ⟨p, hp, hpq⟩) hbB hpb
    rw [← this]; exact hbB

theorem canonical_unique {A B : List Path} (hwfA : ∀ p ∈ A, WF p) (hwfB : ∀ p ∈ B, WF p)
    (hA : Antichain A) (hB : Antichain B) (hmA : NoCompleteGroup A) (hmB : NoCompleteGroup B)
    (h : SameRegion A B) : ∀ p, p ∈ A ↔ p ∈ B :=
  fun p => ⟨subset_of_sameRegion ⟨hwfA, hA, hmA⟩ ⟨hwfB, hB, hmB⟩ h p,
    subset_of_sameRegion ⟨hwfB, hB, hmB⟩ ⟨hwfA, hA, hmA⟩ (sameRegion_symm h) p⟩

theorem canonical_sameRegion_iff {A B : List Path} (hA : IsCanonical A) (hB : IsCanonical B) :
    SameRegion A B ↔ ∀ p, p ∈ A ↔ p ∈ B :=
  ⟨canonical_unique hA.wf hB.wf hA.antichain hB.antichain hA.maximal hB.maximal, sameRegion_of_mem_iff⟩

theorem canonical_perm {A B : List Path} (hA : IsCanonical A) (hB : IsCanonical B) (hnA : A.Nodup) (hnB : B.Nodup)
    (h : SameRegion A B) : A.Perm B :=
  (List.perm_ext_iff_of_nodup hnA hnB).2 ((canonical_sameRegion_iff hA hB).1 h)

theorem sameRegion_merge {A A' : List Path} {P : Path} (hr : res P ≤ 28) (hall : ∀ c ∈ children P, c ∈ A)
    (hmem : ∀ m, m ∈ A' ↔ m = P ∨ (m ∈ A ∧ m ∉ children P)) : SameRegion A A' := by
  intro q hq hq29
  constructor
  · rintro ⟨a, ha, haq⟩
    by_cases hc : a ∈ children P
    · exact ⟨P, (hmem P).2 (Or.inl rfl), (covers_children hr hq hq29).1 ⟨a, hc, haq⟩⟩
    · exact ⟨a, (hmem a).2 (Or.inr ⟨ha, hc⟩), haq⟩
  · rintro ⟨a, ha, haq⟩
    rcases (hmem a).1 ha with rfl | ⟨haA, _⟩
    · obtain ⟨c, hc, hcq⟩ := (covers_children hr hq hq29).2 haq
      exact ⟨c, hall c hc, hcq⟩
    · exact ⟨a, haA, haq⟩

theorem sameRegion_children {P : Path} (hr : res P ≤ 28) : SameRegion (children P) [P] := fun _ hq hq29 =>
  (covers_children hr hq hq29).trans ⟨fun h => ⟨P, List.mem_singleton_self P, h⟩,
    fun ⟨_, hp, h⟩ => List.mem_singleton.1 hp ▸ h⟩

instance (A : List Path) : Decidable (Antichain A) := by unfold Antichain; infer_instance

/-- a complete group is the group of the parent of one of the members: finitely many candidates -/
theorem noCompleteGroup_iff_parents (A : List Path) :
    NoCompleteGroup A ↔
      ∀ a ∈ A, ¬ (WF (parent a) ∧ res (parent a) ≤ 28 ∧ ∀ c ∈ children (parent a), c ∈ A) := by
  constructor
  · intro h a _ hg; exact h ⟨parent a, hg⟩
  · rintro h ⟨P, hP, hr, hall⟩
    obtain ⟨c, hc⟩ := exists_mem_children P
    exact h c (hall c hc) (parent_unique hc ▸ ⟨hP, hr, hall⟩)

instance (A : List Path) : Decidable (NoCompleteGroup A) :=
  decidable_of_iff _ (noCompleteGroup_iff_parents A).symm

/-- a canonical set: quintant 2 of face 0, three children of quintant 0 of face 0, base cell 7 -/
example : IsCanonical [deep 0 2 [], deep 0 0 [0], deep 0 0 [1], deep 0 0 [3], face 7] :=
  ⟨by decide, by decide, by decide⟩

/-- `canonical_unique` applies to it and a rearrangement -/
example : ∀ p, p ∈ [deep 0 2 [], deep 0 0 [0], deep 0 0 [1], deep 0 0 [3], face 7] ↔
    p ∈ [face 7, deep 0 0 [3], deep 0 0 [1], deep 0 0 [0], deep 0 2 []] :=
  canonical_unique (by decide) (by decide) (by decide) (by decide) (by decide) (by decide)
    (sameRegion_of_mem_iff (fun _ => List.mem_reverse.symm))

/-- the five quintants of face 0 are a non-overlapping set *with* a complete group … -/
example : Antichain (children (face 0)) ∧ ¬ NoCompleteGroup (children (face 0)) := by decide

/-- … covering the same region as the single base cell 0, which is canonical: the hypothesis
`NoCompleteGroup` of `canonical_unique` cannot be dropped. -/
example : SameRegion (children (face 0)) [face 0] := sameRegion_children (by decide)

example : IsCanonical [face 0] := ⟨by decide, by decide, by decide⟩

end A5.Canonical
