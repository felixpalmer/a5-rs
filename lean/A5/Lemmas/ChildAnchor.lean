import A5.Lemmas.HilbertOrient
/-! # Parent ↔ child along the Hilbert walk: digits, anchors, lattice reach (lemmas for C12)

The children of curve position `s` at depth `n` are the positions `4·s + d` (`d < 4`) at depth `n + 1`.  The child's
top-down pass is the parent's followed by ONE more pair step on (parent's least significant shifted digit, `d`)
(`shiftDown_cons`).  Peeling the forward walk at the least significant digit (`listAnchor_cons`) then shows that
(child offset − 2·parent offset, parent flips, child flips) is one of finitely many triples (`stepTriples`), for every
depth, position, pattern and `invertJ`; whence the coordinate bound `B = 2` (`PATTERN`) / `B = 3` (`PATTERN_FLIPPED`)
per level and `B·(2^k − 1)` over `k` levels. -/
namespace A5
open A5.HilbertLocate

theorem shiftDigits_cons (a : Nat) (l : List Nat) (j : Nat) (F : Int × Int) (inv : Bool) (P : List Nat) :
    shiftDigits (a :: l) (j + 2) F inv P = a :: shiftDigits l (j + 1) F inv P := by
  unfold shiftDigits
  simp only [Nat.add_one_ne_zero, if_false, Nat.add_sub_cancel, List.getD_cons_succ,
    (by omega : j + 2 - 1 = j + 1)]
  split <;> split <;> simp only [List.set_cons_succ]

/-- the child's top-down pass expressed through the result `r = (digits, flips)` of the parent's pass:
`Ft` = the flips in force at the parent's last (index 0, no-op) step; the child performs one real step at
index 1 on `d :: digits` with these flips -/
def childPass (inv : Bool) (P : List Nat) (d : Nat) (r : List Nat × (Int × Int)) : List Nat × (Int × Int) :=
  let Ft := mulFlips r.2 (quaternaryToFlips (r.1.getD 0 0))
  let c := shiftDigits (d :: r.1) 1 Ft inv P
  (c, mulFlips (mulFlips Ft (quaternaryToFlips (c.getD 1 0))) (quaternaryToFlips (c.getD 0 0)))

theorem shiftDown_cons {P : List Nat} (hP : ∀ v, P.getD v 0 < 8) (inv : Bool) (d : Nat) {n : Nat} :
    ∀ (j : Nat) (ds : List Nat), Dig4 n ds → ∀ (F : Int × Int),
    shiftDown inv P (j + 2) (d :: ds) F = childPass inv P d (shiftDown inv P (j + 1) ds F) := by
  intro j
  induction j with
  | zero =>
    intro ds hd F
    show (shiftDigits (d :: ds) 1 F inv P, _) = childPass inv P d (ds, mulFlips F (quaternaryToFlips (ds.getD 0 0)))
    unfold childPass
    simp only []
    rewrite [mulFlips_cancel F _ (hd.getD_lt 0)]
    rfl
  | succ j ih =>
    intro ds hd F
    rewrite [shiftDown_succ, shiftDigits_cons, List.getD_cons_succ, ih _ (shiftDigits_dig4 hd (j + 1) F inv hP)]
    rfl

theorem digitsLSB_child (s n d : Nat) (hd : d < 4) : digitsLSB (4 * s + d) (n + 1) = d :: digitsLSB s n := by
  rewrite [digitsLSB_succ, (by omega : (4 * s + d) % 4 = d), (by omega : (4 * s + d) / 4 = s)]
  rfl

theorem flipsProd_cancel_head (p : Nat) (tail : List Nat) (hp : p < 4) :
    mulFlips (flipsProd (p :: tail)) (quaternaryToFlips p) = flipsProd tail := by
  show mulFlips (mulFlips (quaternaryToFlips p) (flipsProd tail)) (quaternaryToFlips p) = flipsProd tail
  rewrite [mulFlips_comm (quaternaryToFlips p), mulFlips_cancel _ p hp]
  rfl

theorem shiftedDigits_child_zero (s d : Nat) (hd : d < 4) (inv fl : Bool) :
    shiftedDigits s 0 inv fl = [] ∧ shiftedDigits (4 * s + d) 1 inv fl = [d] := by
  refine ⟨rfl, ?_⟩
  unfold shiftedDigits
  rewrite [digitsLSB_child s 0 d hd]
  rfl

theorem shiftedDigits_child (s n d : Nat) (hd : d < 4) (inv fl : Bool) :
    shiftedDigits (4 * s + d) (n + 2) inv fl =
      shiftDigits (d :: shiftedDigits s (n + 1) inv fl) 1
        (flipsProd (shiftedDigits s (n + 1) inv fl).tail) inv (hilbertPattern fl) := by
  have hP := isPerm8_hilbertPattern fl
  obtain ⟨⟨hl, h4⟩, hb, _⟩ := shiftUp_shiftDown hP inv (n + 1) (digitsLSB s (n + 1))
    (length_digitsLSB s (n + 1)) (digitsLSB_lt s (n + 1))
  have hdig : Dig4 (n + 1) (digitsLSB s (n + 1)) := ⟨length_digitsLSB s (n + 1), digitsLSB_lt s (n + 1)⟩
  unfold shiftedDigits
  rewrite [digitsLSB_child s (n + 1) d hd, shiftDown_cons hP.invOn8.ltP inv d n _ hdig]
  unfold childPass
  simp only []
  generalize shiftDown inv (hilbertPattern fl) (n + 1) (digitsLSB s (n + 1)) (Gen.NO, Gen.NO) = r at hl h4 hb
  obtain ⟨dg, F⟩ := r
  simp only [] at hl h4 hb ⊢
  subst hb
  cases dg with
  | nil => cases hl
  | cons p tail =>
    rewrite [List.getD_cons_zero, flipsProd_cancel_head p tail (h4 p (List.mem_cons_self ..))]
    rfl

theorem child_digits_cases (s n d : Nat) (hd : d < 4) (inv fl : Bool) :
    ∃ p tail, p < 4 ∧ tail.length = n ∧ (∀ x ∈ tail, x < 4) ∧
      shiftedDigits s (n + 1) inv fl = p :: tail ∧
      shiftedDigits (4 * s + d) (n + 2) inv fl =
        (pairStep (shiftLo inv (flipsProd tail)) (hilbertPattern fl) p d).2 ::
          (pairStep (shiftLo inv (flipsProd tail)) (hilbertPattern fl) p d).1 :: tail ∧
      (pairStep (shiftLo inv (flipsProd tail)) (hilbertPattern fl) p d).1 < 4 ∧
      (pairStep (shiftLo inv (flipsProd tail)) (hilbertPattern fl) p d).2 < 4 := by
  have hc := shiftedDigits_child s n d hd inv fl
  obtain ⟨hl, h4⟩ := shiftedDigits_spec s (n + 1) inv fl
  generalize shiftedDigits s (n + 1) inv fl = sd at hc hl h4
  cases sd with
  | nil => cases hl
  | cons p tail =>
    have hp := h4 p (List.mem_cons_self ..)
    have hP := (isPerm8_hilbertPattern fl).invOn8.ltP
    refine ⟨p, tail, hp, by simpa using hl, fun x hx => h4 x (List.mem_cons_of_mem _ hx), rfl, ?_,
      pairStep_lt _ _ p d (shiftLo_le _ _) hp hd hP⟩
    rewrite [hc, shiftDigits_succ (d :: p :: tail) 0 _ inv _ hp hd hP]
    rfl

theorem accumOffset_cons (k a : Nat) (l : List Nat) : ∀ (off F : Int × Int),
    accumOffset (k + 1) (a :: l) off F =
      (((accumOffset k l off F).1.1 * 2 + (quaternaryToKJ a (accumOffset k l off F).2).1,
        (accumOffset k l off F).1.2 * 2 + (quaternaryToKJ a (accumOffset k l off F).2).2),
        mulFlips (accumOffset k l off F).2 (quaternaryToFlips a)) := by
  induction k with
  | zero => intro off F; rfl
  | succ k ih =>
    intro off F
    rewrite [accumOffset_succ, List.getD_cons_succ, ih, accumOffset_succ]
    rfl

/-- (IJ offset, flips) of the anchor built from a digit list (least significant digit first) -/
def listAnchor (ds : List Nat) : (Int × Int) × (Int × Int) := anchorOf ds.length ds (Gen.NO, Gen.NO)

theorem listAnchor_nil : listAnchor [] = ((0, 0), (1, 1)) := by decide

theorem listAnchor_cons (a : Nat) (l : List Nat) :
    listAnchor (a :: l) =
      ((2 * (listAnchor l).1.1 + (childIJ a (listAnchor l).2).1, 2 * (listAnchor l).1.2 + (childIJ a (listAnchor l).2).2),
        nextF a (listAnchor l).2) := by
  unfold listAnchor anchorOf
  rewrite [List.length_cons, accumOffset_cons]
  refine Prod.ext (Prod.ext ?_ ?_) rfl
  · simp only [kjToIJ, childIJ]; omega
  · simp only [kjToIJ, childIJ]; omega

theorem listAnchor_flips (l : List Nat) : (listAnchor l).2 = flipsProd l := by
  induction l with
  | nil => rewrite [listAnchor_nil]; rfl
  | cons a l ih =>
    rewrite [listAnchor_cons]
    show mulFlips (listAnchor l).2 (quaternaryToFlips a) = mulFlips (quaternaryToFlips a) (flipsProd l)
    rewrite [ih, mulFlips_comm]
    rfl

theorem listAnchor_isFlip (l : List Nat) (h : ∀ x ∈ l, x < 4) : IsFlip (listAnchor l).2 :=
  accumOffset_isFlip l.length l h

theorem internal_eq_listAnchor (s n : Nat) (inv fl : Bool) (hs : s < 4 ^ n) :
    ((sToAnchorInternal s n inv fl).offset, (sToAnchorInternal s n inv fl).flips) =
      listAnchor (shiftedDigits s n inv fl) := by
  rewrite [sToAnchorInternal_eq s n inv fl hs]
  unfold listAnchor
  rewrite [(shiftedDigits_spec s n inv fl).1]
  rfl

/-- `(child offset − 2·parent offset, parent flips, child flips)` for a parent whose least significant shifted digit is
`p`, whose flips before that digit are `F`, and its child `d` -/
def stepData (F : Int × Int) (inv : Bool) (P : List Nat) (p d : Nat) : (Int × Int) × (Int × Int) × (Int × Int) :=
  let st := pairStep (shiftLo inv F) P p d
  let a := childIJ st.1 F
  let b := childIJ p F
  let c := childIJ st.2 (nextF st.1 F)
  ((2 * (a.1 - b.1) + c.1, 2 * (a.2 - b.2) + c.2), nextF p F, nextF st.2 (nextF st.1 F))

def flips4 : List (Int × Int) := [(1, 1), (1, -1), (-1, 1), (-1, -1)]

theorem mem_flips4 (F : Int × Int) (h : IsFlip F) : F ∈ flips4 := by
  rcases h with rfl | rfl | rfl | rfl <;> decide

/-- every possible step triple for the pattern selected by `fl` and the given `invertJ`; the first four entries are
the steps from the digit-less quintant cell (depth 0) to its children -/
def stepTriples (inv fl : Bool) : List ((Int × Int) × (Int × Int) × (Int × Int)) :=
  (List.range 4).map (fun d => (childIJ d (1, 1), ((1 : Int), (1 : Int)), nextF d (1, 1))) ++
  flips4.flatMap (fun F => (List.range 4).flatMap (fun p => (List.range 4).map (fun d =>
    stepData F inv (hilbertPattern fl) p d)))

theorem stepData_mem (F : Int × Int) (hF : IsFlip F) (inv fl : Bool) (p d : Nat) (hp : p < 4) (hd : d < 4) :
    stepData F inv (hilbertPattern fl) p d ∈ stepTriples inv fl := by
  unfold stepTriples
  refine List.mem_append_right _ (List.mem_flatMap.2 ⟨F, mem_flips4 F hF, List.mem_flatMap.2 ⟨p, List.mem_range.2 hp,
    List.mem_map.2 ⟨d, List.mem_range.2 hd, rfl⟩⟩⟩)

theorem listAnchor_delta (tail : List Nat) (p p' d' : Nat) :
    (((listAnchor (d' :: p' :: tail)).1.1 - 2 * (listAnchor (p :: tail)).1.1,
      (listAnchor (d' :: p' :: tail)).1.2 - 2 * (listAnchor (p :: tail)).1.2),
      (listAnchor (p :: tail)).2, (listAnchor (d' :: p' :: tail)).2) =
    ((2 * ((childIJ p' (flipsProd tail)).1 - (childIJ p (flipsProd tail)).1) +
        (childIJ d' (nextF p' (flipsProd tail))).1,
      2 * ((childIJ p' (flipsProd tail)).2 - (childIJ p (flipsProd tail)).2) +
        (childIJ d' (nextF p' (flipsProd tail))).2),
      nextF p (flipsProd tail), nextF d' (nextF p' (flipsProd tail))) := by
  rewrite [listAnchor_cons p tail, listAnchor_cons d' (p' :: tail), listAnchor_cons p' tail, listAnchor_flips tail]
  refine Prod.ext (Prod.ext ?_ ?_) rfl
  · dsimp only; omega
  · dsimp only; omega

theorem listAnchor_step (tail : List Nat) (inv : Bool) (P : List Nat) (p d : Nat) :
    (((listAnchor ((pairStep (shiftLo inv (flipsProd tail)) P p d).2 ::
          (pairStep (shiftLo inv (flipsProd tail)) P p d).1 :: tail)).1.1 - 2 * (listAnchor (p :: tail)).1.1,
      (listAnchor ((pairStep (shiftLo inv (flipsProd tail)) P p d).2 ::
          (pairStep (shiftLo inv (flipsProd tail)) P p d).1 :: tail)).1.2 - 2 * (listAnchor (p :: tail)).1.2),
      (listAnchor (p :: tail)).2,
      (listAnchor ((pairStep (shiftLo inv (flipsProd tail)) P p d).2 ::
          (pairStep (shiftLo inv (flipsProd tail)) P p d).1 :: tail)).2) =
    stepData (flipsProd tail) inv P p d :=
  listAnchor_delta tail p _ _

/-- the step triple of the internal anchors of `s` (depth `n`) and its child `4·s + d` (depth `n + 1`) -/
def internalTriple (s n d : Nat) (inv fl : Bool) : (Int × Int) × (Int × Int) × (Int × Int) :=
  (((sToAnchorInternal (4 * s + d) (n + 1) inv fl).offset.1 - 2 * (sToAnchorInternal s n inv fl).offset.1,
    (sToAnchorInternal (4 * s + d) (n + 1) inv fl).offset.2 - 2 * (sToAnchorInternal s n inv fl).offset.2),
    (sToAnchorInternal s n inv fl).flips, (sToAnchorInternal (4 * s + d) (n + 1) inv fl).flips)

theorem child_lt (s n d : Nat) (hs : s < 4 ^ n) (hd : d < 4) : 4 * s + d < 4 ^ (n + 1) := by
  rewrite [Nat.pow_succ]; omega

theorem internal_step_mem (s n d : Nat) (hs : s < 4 ^ n) (hd : d < 4) (inv fl : Bool) :
    internalTriple s n d inv fl ∈ stepTriples inv fl := by
  have hc := child_lt s n d hs hd
  have eA := internal_eq_listAnchor s n inv fl hs
  have eC := internal_eq_listAnchor (4 * s + d) (n + 1) inv fl hc
  have eA1 := congrArg Prod.fst eA
  have eA2 := congrArg Prod.snd eA
  have eC1 := congrArg Prod.fst eC
  have eC2 := congrArg Prod.snd eC
  dsimp only at eA1 eA2 eC1 eC2
  unfold internalTriple
  rewrite [eA1, eA2, eC1, eC2]
  cases n with
  | zero =>
    have h0 : s = 0 := by rewrite [Nat.pow_zero] at hs; omega
    subst h0
    obtain ⟨z1, z2⟩ := shiftedDigits_child_zero 0 d hd inv fl
    rewrite [z1, z2]
    unfold stepTriples
    refine List.mem_append_left _ (List.mem_map.2 ⟨d, List.mem_range.2 hd, ?_⟩)
    rewrite [listAnchor_cons, listAnchor_nil]
    refine Prod.ext (Prod.ext ?_ ?_) rfl
    · show _ = _ - _; dsimp only; omega
    · show _ = _ - _; dsimp only; omega
  | succ n =>
    obtain ⟨p, tail, hp, _, h4, e1, e2, _, _⟩ := child_digits_cases s n d hd inv fl
    rewrite [e1, e2, listAnchor_step tail inv (hilbertPattern fl) p d]
    have hF : IsFlip (flipsProd tail) := by
      rewrite [← listAnchor_flips]; exact listAnchor_isFlip tail h4
    exact stepData_mem _ hF inv fl p d hp hd

/-- the two stages of `finalAnchor` -/
def stageAnchor (n : Nat) (inv fl : Bool) (a : Anchor) : Anchor :=
  let a := if fl then flipStage a else a
  if inv then invertStage n a else a

theorem finalAnchor_eq_stage (s n : Nat) (inv fl : Bool) :
    finalAnchor s n inv fl = stageAnchor n inv fl (sToAnchorInternal s n inv fl) := rfl

/-- the effect of the stages on a step triple `(Δ, parent flips, child flips)` -/
def finalDelta (inv fl : Bool) (t : (Int × Int) × (Int × Int) × (Int × Int)) : Int × Int :=
  let Δ1 : Int × Int :=
    if fl then (t.1.2 + (flipComp t.2.2).1 - 2 * (flipComp t.2.1).1, t.1.1 + (flipComp t.2.2).2 - 2 * (flipComp t.2.1).2)
    else t.1
  if inv then (Δ1.1, -(Δ1.1 + Δ1.2)) else Δ1

theorem stage_delta (n : Nat) (inv fl : Bool) (A C : Anchor) :
    ((stageAnchor (n + 1) inv fl C).offset.1 - 2 * (stageAnchor n inv fl A).offset.1,
      (stageAnchor (n + 1) inv fl C).offset.2 - 2 * (stageAnchor n inv fl A).offset.2) =
    finalDelta inv fl ((C.offset.1 - 2 * A.offset.1, C.offset.2 - 2 * A.offset.2), A.flips, C.flips) := by
  have hp : (2 : Int) ^ (n + 1) = 2 * 2 ^ n := by rw [pow_succ, mul_comm]
  unfold stageAnchor finalDelta
  cases fl <;> cases inv <;> simp only [if_true, if_false, Bool.false_eq_true]
  · simp only [invertStage, hp]
    refine Prod.ext (by dsimp only) (by dsimp only; omega)
  · simp only [flipStage_offset]
    refine Prod.ext ?_ ?_ <;> (dsimp only; omega)
  · simp only [invertStage, flipStage_offset, hp]
    refine Prod.ext ?_ ?_ <;> (dsimp only; omega)

/-- child offset − 2·parent offset for the FINAL anchors (after the `flipIJ` / `invertJ` stages) -/
def finalStep (s n d : Nat) (inv fl : Bool) : Int × Int :=
  ((finalAnchor (4 * s + d) (n + 1) inv fl).offset.1 - 2 * (finalAnchor s n inv fl).offset.1,
    (finalAnchor (4 * s + d) (n + 1) inv fl).offset.2 - 2 * (finalAnchor s n inv fl).offset.2)

theorem finalStep_eq (s n d : Nat) (inv fl : Bool) :
    finalStep s n d inv fl = finalDelta inv fl (internalTriple s n d inv fl) := by
  unfold finalStep internalTriple
  rewrite [finalAnchor_eq_stage, finalAnchor_eq_stage]
  exact stage_delta n inv fl _ _

/-- **one step, final anchors**: the offset difference is `finalDelta` of one of the finitely many step triples -/
theorem final_step_mem (s n d : Nat) (hs : s < 4 ^ n) (hd : d < 4) (inv fl : Bool) :
    ∃ t ∈ stepTriples inv fl, finalStep s n d inv fl = finalDelta inv fl t :=
  ⟨_, internal_step_mem s n d hs hd inv fl, finalStep_eq s n d inv fl⟩

/-- `|v.1| ≤ B`, `|v.2| ≤ B`, `|v.1 + v.2| ≤ B`: the closed lattice hexagon of radius `B` -/
def HexLe (B : Int) (v : Int × Int) : Prop :=
  -B ≤ v.1 ∧ v.1 ≤ B ∧ -B ≤ v.2 ∧ v.2 ≤ B ∧ -B ≤ v.1 + v.2 ∧ v.1 + v.2 ≤ B

instance (B : Int) (v : Int × Int) : Decidable (HexLe B v) := by unfold HexLe; infer_instance

theorem HexLe.cast {K : Type} [Field K] [LinearOrder K] [IsStrictOrderedRing K] {B : Int} {v : Int × Int}
    (h : HexLe B v) :
    -(B : K) ≤ v.1 ∧ (v.1 : K) ≤ B ∧ -(B : K) ≤ v.2 ∧ (v.2 : K) ≤ B ∧
      -(B : K) ≤ (v.1 : K) + v.2 ∧ (v.1 : K) + v.2 ≤ B := by
  obtain ⟨h1, h2, h3, h4, h5, h6⟩ := h
  exact ⟨by exact_mod_cast h1, by exact_mod_cast h2, by exact_mod_cast h3, by exact_mod_cast h4,
    by exact_mod_cast h5, by exact_mod_cast h6⟩

/-- the reach constant: 2 for `PATTERN`, 3 for `PATTERN_FLIPPED` -/
def reachB (fl : Bool) : Int := if fl then 3 else 2

namespace C12

/-- `O_child − 2·O_parent` of the INTERNAL anchors (before the orientation stages) -/
def internalDeltaSet (inv fl : Bool) : List (Int × Int) :=
  match inv, fl with
  | false, false => [(0, 0), (1, 0), (0, 1), (1, 1), (2, 0), (-1, 1), (-1, 2), (-2, 1), (1, -1), (0, -1), (1, -2),
      (-1, 0), (-1, -1), (-2, 0), (2, -1)]
  | true, false => [(0, 0), (1, 0), (0, 1), (1, 1), (-1, 1), (-1, 2), (-2, 2), (2, -1), (1, -1), (0, -1), (1, -2),
      (-1, 0), (-1, -1), (2, -2), (-2, 1)]
  | false, true => [(0, 0), (1, 0), (0, 1), (1, 1), (1, 2), (-1, 1), (1, -1), (0, -1), (1, -2), (-1, 2), (-1, 0),
      (-1, -1), (-1, -2)]
  | true, true => [(0, 0), (1, 0), (0, 1), (1, 1), (-1, 1), (-1, 3), (1, -1), (0, -1), (1, -2), (-1, 2), (-1, 0),
      (-1, -1), (1, -3)]

/-- `O_child − 2·O_parent` of the anchors returned by `s_to_anchor` (after the `flipIJ` / `invertJ` stages).
Orientations 0, 1: `(false, false)`; 4, 5: `(true, false)`; 2, 3: `(false, true)`; `(true, true)` does not occur. -/
def childDeltaSet (inv fl : Bool) : List (Int × Int) :=
  match inv, fl with
  | false, false => [(0, 0), (1, 0), (0, 1), (1, 1), (2, 0), (-1, 1), (-1, 2), (-2, 1), (1, -1), (0, -1), (1, -2),
      (-1, 0), (-1, -1), (-2, 0), (2, -1)]
  | true, false => [(0, 0), (1, -1), (0, -1), (1, -2), (-1, 0), (-1, -1), (-2, 0), (2, -1), (1, 0), (0, 1), (1, 1),
      (-1, 1), (-1, 2), (2, 0), (-2, 1)]
  | false, true => [(0, 0), (1, 0), (0, 2), (2, 1), (-2, 2), (-1, 1), (0, 1), (1, -1), (0, -1), (-1, 0), (0, -2),
      (-2, -1), (2, -2)]
  | true, true => [(0, 0), (1, -1), (0, -2), (-1, 0), (0, -1), (1, 0), (0, 1), (-1, 1), (0, 2)]

theorem stepTriples_sets : ∀ inv fl : Bool, ∀ t ∈ stepTriples inv fl,
    t.1 ∈ internalDeltaSet inv fl ∧ finalDelta inv fl t ∈ childDeltaSet inv fl := by decide +kernel

theorem deltaSets_hexLe : ∀ inv fl : Bool,
    (∀ v ∈ internalDeltaSet inv fl, HexLe (reachB fl) v) ∧ (∀ v ∈ childDeltaSet inv fl, HexLe (reachB fl) v) := by
  decide +kernel

end C12

theorem internal_step_delta (s n d : Nat) (hs : s < 4 ^ n) (hd : d < 4) (inv fl : Bool) :
    (internalTriple s n d inv fl).1 ∈ C12.internalDeltaSet inv fl :=
  (C12.stepTriples_sets inv fl _ (internal_step_mem s n d hs hd inv fl)).1

theorem final_step_delta (s n d : Nat) (hs : s < 4 ^ n) (hd : d < 4) (inv fl : Bool) :
    finalStep s n d inv fl ∈ C12.childDeltaSet inv fl := by
  rewrite [finalStep_eq]
  exact (C12.stepTriples_sets inv fl _ (internal_step_mem s n d hs hd inv fl)).2

theorem internal_step_hexLe (s n d : Nat) (hs : s < 4 ^ n) (hd : d < 4) (inv fl : Bool) :
    HexLe (reachB fl) (internalTriple s n d inv fl).1 :=
  (C12.deltaSets_hexLe inv fl).1 _ (internal_step_delta s n d hs hd inv fl)

theorem final_step_hexLe (s n d : Nat) (hs : s < 4 ^ n) (hd : d < 4) (inv fl : Bool) :
    HexLe (reachB fl) (finalStep s n d inv fl) :=
  (C12.deltaSets_hexLe inv fl).2 _ (final_step_delta s n d hs hd inv fl)

/-- offset of the descendant minus `2^k` times the offset of the ancestor, final anchors -/
def finalReach (s n k t : Nat) (inv fl : Bool) : Int × Int :=
  ((finalAnchor (s * 4 ^ k + t) (n + k) inv fl).offset.1 - 2 ^ k * (finalAnchor s n inv fl).offset.1,
    (finalAnchor (s * 4 ^ k + t) (n + k) inv fl).offset.2 - 2 ^ k * (finalAnchor s n inv fl).offset.2)

theorem desc_lt (s n k t : Nat) (hs : s < 4 ^ n) (ht : t < 4 ^ k) : s * 4 ^ k + t < 4 ^ (n + k) := by
  rewrite [Nat.pow_add]
  have : (s + 1) * 4 ^ k ≤ 4 ^ n * 4 ^ k := Nat.mul_le_mul_right _ hs
  rewrite [Nat.add_mul, Nat.one_mul] at this
  omega

theorem desc_succ (s k t : Nat) : s * 4 ^ (k + 1) + t = 4 * (s * 4 ^ k + t / 4) + t % 4 := by
  rewrite [Nat.pow_succ, ← Nat.mul_assoc]
  omega

theorem adjustS_desc (rev : Bool) (n k s t : Nat) (hs : s < 4 ^ n) (ht : t < 4 ^ k) :
    adjustS rev (n + k) (s * 4 ^ k + t) = adjustS rev n s * 4 ^ k + adjustS rev k t := by
  unfold adjustS
  cases rev <;> simp only [if_true, if_false, Bool.false_eq_true]
  obtain ⟨r, hr⟩ : ∃ r, 4 ^ n = s + 1 + r := ⟨4 ^ n - s - 1, by omega⟩
  have e : 4 ^ n - s - 1 = r := by omega
  rewrite [e, Nat.pow_add, hr, Nat.add_mul, Nat.add_mul, Nat.one_mul]
  generalize s * 4 ^ k = a
  generalize r * 4 ^ k = b
  omega

/-- position of the child after the optional reversal: the reversed curve visits the children in the order `3 - d` -/
theorem adjustS_child (rev : Bool) (n s d : Nat) (hs : s < 4 ^ n) (hd : d < 4) :
    adjustS rev (n + 1) (4 * s + d) = 4 * adjustS rev n s + (if rev then 3 - d else d) := by
  have h := adjustS_desc rev n 1 s d hs hd
  unfold adjustS at h ⊢
  cases rev <;> simp only [if_true, if_false, Bool.false_eq_true, Nat.pow_one] at h ⊢
  omega

/-- one more level: the reach doubles and the step is added -/
theorem HexLe.step {A B : Int} {r δ : Int × Int} (hr : HexLe A r) (hδ : HexLe B δ) :
    HexLe (2 * A + B) (2 * r.1 + δ.1, 2 * r.2 + δ.2) := by
  unfold HexLe at *
  dsimp only
  omega

theorem final_descendant_bounded (s n : Nat) (hs : s < 4 ^ n) (inv fl : Bool) : ∀ (k t : Nat), t < 4 ^ k →
    HexLe (reachB fl * (2 ^ k - 1)) (finalReach s n k t inv fl) := by
  intro k
  induction k with
  | zero =>
    intro t ht
    have h0 : t = 0 := by rewrite [Nat.pow_zero] at ht; omega
    subst h0
    unfold finalReach HexLe
    simp only [Nat.mul_one, Nat.add_zero, pow_zero, one_mul, sub_self, mul_zero]
    omega
  | succ k ih =>
    intro t ht
    have ht4 : t / 4 < 4 ^ k := by rewrite [Nat.pow_succ] at ht; omega
    have h := (ih (t / 4) ht4).step (final_step_hexLe (s * 4 ^ k + t / 4) (n + k) (t % 4) (desc_lt s n k _ hs ht4)
      (Nat.mod_lt _ (by decide)) inv fl)
    have e : finalReach s n (k + 1) t inv fl =
        (2 * (finalReach s n k (t / 4) inv fl).1 + (finalStep (s * 4 ^ k + t / 4) (n + k) (t % 4) inv fl).1,
          2 * (finalReach s n k (t / 4) inv fl).2 + (finalStep (s * 4 ^ k + t / 4) (n + k) (t % 4) inv fl).2) := by
      unfold finalReach finalStep
      rewrite [desc_succ s k t, pow_succ, ← Nat.add_assoc n k 1]
      refine Prod.ext ?_ ?_ <;> (show _ - _ = _; dsimp only; ring)
    rewrite [e, show reachB fl * (2 ^ (k + 1) - 1) = 2 * (reachB fl * (2 ^ k - 1)) + reachB fl by rw [pow_succ]; ring]
    exact h

end A5
