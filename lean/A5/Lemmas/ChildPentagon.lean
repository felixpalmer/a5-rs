import A5.Lemmas.ChildAnchor
import A5.Lemmas.PentagonCentre
/-! # Parent ↔ child pentagons, part 1: the finite step table with `k`, and the centre reach (planar C12)

`A5/Lemmas/ChildAnchor.lean` records, for one parent → child step of the Hilbert walk, the triple
(child offset − 2·parent offset, parent flips, child flips).  The pentagon `get_pentagon_vertices` draws for an anchor
also depends on the anchor's `k` (through `A5.PG.needsReflect`).  This file

* extends the finite table by the two `k`s (`Quad`, `families`, `stepQuads`) and proves the membership lemma for the
  internal anchors (`internal_family_mem`, `internal_quad_mem`), then carries it through the `flipIJ` / `invertJ` stages
  and the curve reversal to the public `sToAnchor` (`child_quad_mem`, `children_family_mem`);
* expresses the planar offset `centreQ ac / 2 − centreQ ap` (parent frame: child lattice units are half the parent's)
  by the table entry alone, with NO `BASIS_INVERSE·BASIS` defect (`centre_diff`);
* proves **T-reach**: `dist²(centreQ ac / 2, centreQ ap) < 0.64 · area(parent pentagon)` for every depth, orientation,
  position and child `d < 4` of a pentagon parent (curve depth `≥ 1`) — with the sharp constant: the maximum of
  `dist / √area` over the table is `0.64905…` (`reach_table`: `dist² < 0.4213·area`; `reach_table_sharp`: some quad of
  every orientation class has `dist² > 0.4212·area`).  Depth 0 → 1, where the parent cell is the quintant TRIANGLE, is
  `root_centre_reach` (maximum `0.6142…`). -/
namespace A5.CP
open A5 A5.HilbertLocate A5.PG

/-- `(Δ, parent flips, child flips)` as in `stepData` -/
abbrev Triple := (Int × Int) × (Int × Int) × (Int × Int)
/-- a step triple together with `(parent k, child k)` -/
abbrev Quad := Triple × Nat × Nat

/-- step from the digit-less quintant cell (depth 0, `k = 0`) to its child `d` -/
def rootQuad (d : Nat) : Quad := ((childIJ d (1, 1), ((1 : Int), (1 : Int)), nextF d (1, 1)), 0, d)

/-- step from a parent whose least significant shifted digit is `p` (that is its `k`), whose flips before that digit
are `F`, to its child `d`; the child's `k` is its least significant shifted digit -/
def stepDataK (F : Int × Int) (inv : Bool) (P : List Nat) (p d : Nat) : Quad :=
  (stepData F inv P p d, p, (pairStep (shiftLo inv F) P p d).2)

/-- the family of the four children of the digit-less quintant cell (depth 0) -/
def rootFamily : List Quad := (List.range 4).map rootQuad

/-- the possible families of four children of a parent of depth `≥ 1`: one family per `(F, p)` -/
def families (inv fl : Bool) : List (List Quad) :=
  flips4.flatMap (fun F => (List.range 4).map (fun p => (List.range 4).map (fun d =>
    stepDataK F inv (hilbertPattern fl) p d)))

/-- every possible step quad of a parent of depth `≥ 1` (64 entries) -/
def stepQuads (inv fl : Bool) : List Quad := (families inv fl).flatten

/-- forgetting the `k`s gives the step triples of `ChildAnchor` -/
theorem stepQuads_triples : ∀ inv fl : Bool, (rootFamily ++ stepQuads inv fl).map Prod.fst = stepTriples inv fl := by
  decide +kernel

/-- the step quad of the internal anchors of `s` (depth `n`) and its child `4·s + d` (depth `n + 1`) -/
def internalQuad (s n d : Nat) (inv fl : Bool) : Quad :=
  (internalTriple s n d inv fl, (sToAnchorInternal s n inv fl).k, (sToAnchorInternal (4 * s + d) (n + 1) inv fl).k)

theorem internal_k (s n : Nat) (inv fl : Bool) (hs : s < 4 ^ n) :
    (sToAnchorInternal s n inv fl).k = (shiftedDigits s n inv fl).getD 0 0 := by
  rewrite [sToAnchorInternal_eq s n inv fl hs]; rfl

theorem internalTriple_eq (s n d : Nat) (inv fl : Bool) (hs : s < 4 ^ n) (hd : d < 4) :
    internalTriple s n d inv fl =
      (((listAnchor (shiftedDigits (4 * s + d) (n + 1) inv fl)).1.1 - 2 * (listAnchor (shiftedDigits s n inv fl)).1.1,
        (listAnchor (shiftedDigits (4 * s + d) (n + 1) inv fl)).1.2 - 2 * (listAnchor (shiftedDigits s n inv fl)).1.2),
        (listAnchor (shiftedDigits s n inv fl)).2, (listAnchor (shiftedDigits (4 * s + d) (n + 1) inv fl)).2) := by
  have hc := child_lt s n d hs hd
  have eA := internal_eq_listAnchor s n inv fl hs
  have eC := internal_eq_listAnchor (4 * s + d) (n + 1) inv fl hc
  have eA1 := congrArg Prod.fst eA
  have eA2 := congrArg Prod.snd eA
  have eC1 := congrArg Prod.fst eC
  have eC2 := congrArg Prod.snd eC
  dsimp only at eA1 eA2 eC1 eC2
  unfold internalTriple
  rewrite [eA1, eA2, eC1, eC2]
  rfl

theorem internalQuad_root (d : Nat) (hd : d < 4) (inv fl : Bool) : internalQuad 0 0 d inv fl = rootQuad d := by
  obtain ⟨z1, z2⟩ := shiftedDigits_child_zero 0 d hd inv fl
  unfold internalQuad rootQuad
  rewrite [internalTriple_eq 0 0 d inv fl (by decide) hd, internal_k 0 0 inv fl (by decide),
    internal_k (4 * 0 + d) (0 + 1) inv fl (child_lt 0 0 d (by decide) hd), z1, z2, listAnchor_cons, listAnchor_nil]
  refine Prod.ext (Prod.ext (Prod.ext ?_ ?_) rfl) rfl
  · show _ - _ = _; dsimp only; omega
  · show _ - _ = _; dsimp only; omega

theorem internalQuad_step (s n d : Nat) (hs : s < 4 ^ (n + 1)) (hd : d < 4) (inv fl : Bool) (p : Nat) (tail : List Nat)
    (e : shiftedDigits s (n + 1) inv fl = p :: tail) :
    internalQuad s (n + 1) d inv fl = stepDataK (flipsProd tail) inv (hilbertPattern fl) p d := by
  obtain ⟨p', tail', _, _, _, e1, e2, _, _⟩ := child_digits_cases s n d hd inv fl
  obtain ⟨rfl, rfl⟩ := List.cons.inj (e.symm.trans e1)
  unfold internalQuad stepDataK
  rewrite [internalTriple_eq s (n + 1) d inv fl hs hd, internal_k s (n + 1) inv fl hs,
    internal_k (4 * s + d) (n + 1 + 1) inv fl (child_lt s (n + 1) d hs hd), e1, e2,
    listAnchor_step tail inv (hilbertPattern fl) p d]
  rfl

/-- depth 0 → 1: the four step quads of the quintant cell are the `rootFamily` -/
theorem internal_family_root (inv fl : Bool) :
    (List.range 4).map (fun d => internalQuad 0 0 d inv fl) = rootFamily :=
  List.map_congr_left (fun d hd => internalQuad_root d (List.mem_range.1 hd) inv fl)

/-- **one step, internal anchors, all four children at once**: the list of the four step quads of a parent of depth
`n + 1 ≥ 1` is one of the finitely many `families` -/
theorem internal_family_mem (s n : Nat) (hs : s < 4 ^ (n + 1)) (inv fl : Bool) :
    (List.range 4).map (fun d => internalQuad s (n + 1) d inv fl) ∈ families inv fl := by
  obtain ⟨hl, h4⟩ := shiftedDigits_spec s (n + 1) inv fl
  generalize e : shiftedDigits s (n + 1) inv fl = sd at hl h4
  cases sd with
  | nil => cases hl
  | cons p tail =>
    have hp := h4 p (List.mem_cons_self ..)
    have hF : IsFlip (flipsProd tail) := by
      rewrite [← listAnchor_flips]; exact listAnchor_isFlip tail (fun x hx => h4 x (List.mem_cons_of_mem _ hx))
    have : (List.range 4).map (fun d => internalQuad s (n + 1) d inv fl) =
        (List.range 4).map (fun d => stepDataK (flipsProd tail) inv (hilbertPattern fl) p d) :=
      List.map_congr_left (fun d hd => internalQuad_step s n d hs (List.mem_range.1 hd) inv fl p tail e)
    rewrite [this]
    unfold families
    exact List.mem_flatMap.2 ⟨_, mem_flips4 _ hF, List.mem_map.2 ⟨p, List.mem_range.2 hp, rfl⟩⟩

theorem internal_quad_mem (s n d : Nat) (hs : s < 4 ^ (n + 1)) (hd : d < 4) (inv fl : Bool) :
    internalQuad s (n + 1) d inv fl ∈ stepQuads inv fl :=
  List.mem_flatten.2 ⟨_, internal_family_mem s n hs inv fl,
    List.mem_map.2 ⟨d, List.mem_range.2 hd, rfl⟩⟩

/-- the `invertJ` stage negates the first flip; the `flipIJ` stage leaves the flips alone; both leave `k` alone -/
def stageFlips (inv : Bool) (F : Int × Int) : Int × Int := if inv then (-F.1, F.2) else F

theorem stageAnchor_flips (n : Nat) (inv fl : Bool) (a : Anchor) :
    (stageAnchor n inv fl a).flips = stageFlips inv a.flips := by
  unfold stageAnchor stageFlips
  cases fl <;> cases inv <;> rfl

theorem stageAnchor_k (n : Nat) (inv fl : Bool) (a : Anchor) : (stageAnchor n inv fl a).k = a.k := by
  unfold stageAnchor
  cases fl <;> cases inv <;> rfl

/-- the effect of the stages on a step quad -/
def finalQuad (inv fl : Bool) (q : Quad) : Quad :=
  ((finalDelta inv fl q.1, stageFlips inv q.1.2.1, stageFlips inv q.1.2.2), q.2.1, q.2.2)

/-- the quad `(O_c − 2·O_p, flips_p, flips_c, k_p, k_c)` of two anchors -/
def anchorQuad (ap ac : Anchor) : Quad :=
  (((ac.offset.1 - 2 * ap.offset.1, ac.offset.2 - 2 * ap.offset.2), ap.flips, ac.flips), ap.k, ac.k)

theorem finalAnchor_quad (s n d : Nat) (inv fl : Bool) :
    anchorQuad (finalAnchor s n inv fl) (finalAnchor (4 * s + d) (n + 1) inv fl) =
      finalQuad inv fl (internalQuad s n d inv fl) := by
  unfold anchorQuad finalQuad internalQuad
  rewrite [finalAnchor_eq_stage, finalAnchor_eq_stage, stage_delta, stageAnchor_flips, stageAnchor_flips,
    stageAnchor_k, stageAnchor_k]
  rfl

def finalFamilies (inv fl : Bool) : List (List Quad) := (families inv fl).map (List.map (finalQuad inv fl))
def finalQuads (inv fl : Bool) : List Quad := (stepQuads inv fl).map (finalQuad inv fl)

/-- **one step, public `s_to_anchor`, one child.**  For every depth `1 ≤ n < 30` (the parent is a pentagon cell),
orientation, position `s < 4^n` and child `d < 4` both anchors exist, have `±1` flips, and their quad is one of the
finitely many `finalQuads`. -/
theorem child_quad_mem (n o s d : Nat) (hn : n + 2 ≤ 30) (hs : s < 4 ^ (n + 1)) (hd : d < 4) :
    ∃ ap ac, sToAnchor s (n + 1) o = .ok ap ∧ sToAnchor (4 * s + d) (n + 2) o = .ok ac ∧
      IsFlip ap.flips ∧ IsFlip ac.flips ∧ anchorQuad ap ac ∈ finalQuads (oriInvertJ o) (oriFlipIJ o) := by
  have hc := child_lt s (n + 1) d hs hd
  have hs' := adjustS_lt (oriReverse o) (n + 1) s hs
  have hc' := adjustS_lt (oriReverse o) (n + 2) _ hc
  refine ⟨_, _, sToAnchor_eq s (n + 1) o (by omega) hs, sToAnchor_eq (4 * s + d) (n + 2) o hn hc,
    finalAnchor_isFlip _ (n + 1) _ _ hs', finalAnchor_isFlip _ (n + 2) _ _ hc', ?_⟩
  rewrite [adjustS_child _ (n + 1) s d hs hd, finalAnchor_quad]
  exact List.mem_map.2 ⟨_, internal_quad_mem _ n _ hs' (by split <;> omega) _ _, rfl⟩

/-- **one step, public `s_to_anchor`, all four children at once.**  The parent anchor and the list `kids` of the four
child anchors exist, and there is one of the finitely many `finalFamilies` each of whose four quads is the quad of the
parent with one of the kids (in curve order, or in reversed order for the reversing orientations). -/
theorem children_family_mem (n o s : Nat) (hn : n + 2 ≤ 30) (hs : s < 4 ^ (n + 1)) :
    ∃ ap, sToAnchor s (n + 1) o = .ok ap ∧ IsFlip ap.flips ∧ ∃ kids : List Anchor, kids.length = 4 ∧
      (∀ d, d < 4 → sToAnchor (4 * s + d) (n + 2) o = .ok (kids.getD d default)) ∧ (∀ ac ∈ kids, IsFlip ac.flips) ∧
      ∃ fam ∈ finalFamilies (oriInvertJ o) (oriFlipIJ o), ∀ q ∈ fam, ∃ ac ∈ kids, anchorQuad ap ac = q := by
  have hs' := adjustS_lt (oriReverse o) (n + 1) s hs
  refine ⟨_, sToAnchor_eq s (n + 1) o (by omega) hs, finalAnchor_isFlip _ (n + 1) _ _ hs',
    (List.range 4).map (fun d => finalAnchor (adjustS (oriReverse o) (n + 2) (4 * s + d)) (n + 2) (oriInvertJ o) (oriFlipIJ o)),
    by simp, ?_, ?_, ?_⟩
  · intro d hd
    rewrite [sToAnchor_eq (4 * s + d) (n + 2) o hn (child_lt s (n + 1) d hs hd)]
    have hc : d = 0 ∨ d = 1 ∨ d = 2 ∨ d = 3 := by omega
    rcases hc with rfl | rfl | rfl | rfl <;> rfl
  · intro ac hac
    obtain ⟨d, hd, rfl⟩ := List.mem_map.1 hac
    have hd := List.mem_range.1 hd
    exact finalAnchor_isFlip _ (n + 2) _ _ (adjustS_lt _ (n + 2) _ (child_lt s (n + 1) d hs hd))
  · refine ⟨((List.range 4).map (fun d => internalQuad (adjustS (oriReverse o) (n + 1) s) (n + 1) d (oriInvertJ o) (oriFlipIJ o))).map
        (finalQuad (oriInvertJ o) (oriFlipIJ o)), List.mem_map.2 ⟨_, internal_family_mem _ n hs' _ _, rfl⟩, ?_⟩
    intro q hq
    obtain ⟨q0, hq0, rfl⟩ := List.mem_map.1 hq
    obtain ⟨j, hj, rfl⟩ := List.mem_map.1 hq0
    have hj := List.mem_range.1 hj
    refine ⟨_, List.mem_map.2 ⟨if oriReverse o then 3 - j else j, List.mem_range.2 (by split <;> omega), rfl⟩, ?_⟩
    rewrite [adjustS_child _ (n + 1) s _ hs (by split <;> omega)]
    have e : (if oriReverse o = true then 3 - (if oriReverse o = true then 3 - j else j) else
        (if oriReverse o = true then 3 - j else j)) = j := by
      cases oriReverse o <;> simp only [if_true, if_false, Bool.false_eq_true]
      omega
    rewrite [e]
    exact finalAnchor_quad _ (n + 1) j _ _

/-- `child_quad_mem` on a concrete cell (orientation 3: reverse + flipIJ; parent 6 at depth 2, child 26 at depth 3) -/
example : ∃ ap ac, sToAnchor 6 2 3 = .ok ap ∧ sToAnchor 26 3 3 = .ok ac ∧ anchorQuad ap ac ∈ finalQuads false true := by
  obtain ⟨ap, ac, h1, h2, _, _, h5⟩ := child_quad_mem 1 3 6 2 (by decide) (by decide) (by decide)
  exact ⟨ap, ac, h1, h2, h5⟩

/-- `needsReflect` as a function of `k` and the flips (it does not look at the offset) -/
def reflK (k : Nat) (F : Int × Int) : Bool := needsReflect ⟨k, (0, 0), F⟩

theorem needsReflect_eq (a : Anchor) : needsReflect a = reflK a.k a.flips := rfl

/-- `BASIS * Δ / 2`: half the face-plane image of an integer lattice vector -/
def halfBasis (Δ : Int × Int) : ℚ × ℚ :=
  ((basisQ.1 * (Δ.1 : ℚ) + basisQ.2.1 * (Δ.2 : ℚ)) / 2, (basisQ.2.2.1 * (Δ.1 : ℚ) + basisQ.2.2.2 * (Δ.2 : ℚ)) / 2)

/-- child centre (scaled to the parent's frame) minus parent centre, as a function of the step quad -/
def relCentre (q : Quad) : ℚ × ℚ :=
  ((localC q.1.2.2 (reflK q.2.2 q.1.2.2) mQ wQ).1 / 2 + (halfBasis q.1.1).1 - (localC q.1.2.1 (reflK q.2.1 q.1.2.1) mQ wQ).1,
   (localC q.1.2.2 (reflK q.2.2 q.1.2.2) mQ wQ).2 / 2 + (halfBasis q.1.1).2 - (localC q.1.2.1 (reflK q.2.1 q.1.2.1) mQ wQ).2)

/-- **the centre offset has no defect term**: in the parent's frame (child lattice units are half the parent's) the
vector from the parent's centre to the child's centre depends only on the step quad; the translations by
`BASIS * offset` cancel exactly. -/
theorem centre_diff (ap ac : Anchor) (hp : IsFlip ap.flips) (hc : IsFlip ac.flips) :
    ((centreQ ac).1 / 2 - (centreQ ap).1, (centreQ ac).2 / 2 - (centreQ ap).2) = relCentre (anchorQuad ap ac) := by
  rewrite [centreQ_eq_place ap hp, centreQ_eq_place ac hc, centre_seedQ, needsReflect_eq, needsReflect_eq]
  unfold relCentre anchorQuad halfBasis placeG offsetT
  dsimp only
  generalize localC ac.flips (reflK ac.k ac.flips) mQ wQ = lc
  generalize localC ap.flips (reflK ap.k ap.flips) mQ wQ = lp
  generalize basisQ = b
  obtain ⟨b0, b1, b2, b3⟩ := b
  refine Prod.ext ?_ ?_ <;> (dsimp only; push_cast; ring)

/-- squared length of the centre offset -/
def reachSq (q : Quad) : ℚ := (relCentre q).1 * (relCentre q).1 + (relCentre q).2 * (relCentre q).2

/-- planar area of every cell pentagon, in its own lattice frame (`areaG` is the trapezoid sum, twice the area) -/
def pentArea : ℚ := areaG 0 seedQ / 2

/-- the finite check: over all step quads of the three orientation classes that occur, the squared centre offset is
below `0.4213 · area` (`√0.4213 < 0.6491`) -/
theorem reach_table : ∀ inv fl : Bool, ¬(fl = true ∧ inv = true) → ∀ q ∈ finalQuads inv fl,
    reachSq q < 4213 / 10000 * pentArea := by decide +kernel

/-- … and the constant is sharp to the fourth digit: in each class some quad exceeds `0.4212 · area`
(`√0.4212 > 0.6489`) -/
theorem reach_table_sharp : ∀ inv fl : Bool, ¬(fl = true ∧ inv = true) → ∃ q ∈ finalQuads inv fl,
    4212 / 10000 * pentArea < reachSq q := by decide +kernel

/-- squared planar distance between the child's centre, scaled to the parent's frame, and the parent's centre -/
def centreDistSq (ap ac : Anchor) : ℚ :=
  ((centreQ ac).1 / 2 - (centreQ ap).1) * ((centreQ ac).1 / 2 - (centreQ ap).1) +
    ((centreQ ac).2 / 2 - (centreQ ap).2) * ((centreQ ac).2 / 2 - (centreQ ap).2)

/-- **T-reach** (planar C12, exact arithmetic on the runtime constants).  For every curve depth `1 ≤ n+1 < 30`, every
orientation `o < 6`, every position `s < 4^(n+1)` and every child `d < 4`: both anchors exist and the squared distance
between the child pentagon's centre (in the parent's lattice frame, i.e. scaled by 1/2) and the parent pentagon's
centre is `< 0.4213 ·` the parent pentagon's area, i.e. the distance is `< 0.6491·√area < 0.8·√area`. -/
theorem child_centre_reach (n o s d : Nat) (hn : n + 2 ≤ 30) (ho : o < 6) (hs : s < 4 ^ (n + 1)) (hd : d < 4) :
    ∃ ap ac, sToAnchor s (n + 1) o = .ok ap ∧ sToAnchor (4 * s + d) (n + 2) o = .ok ac ∧
      centreDistSq ap ac < 4213 / 10000 * (areaG 0 (pentagonQ ap) / 2) ∧
      centreDistSq ap ac < 64 / 100 * (areaG 0 (pentagonQ ap) / 2) := by
  obtain ⟨ap, ac, h1, h2, hp, hc, hm⟩ := child_quad_mem n o s d hn hs hd
  have hr := reach_table _ _ (fun hh => flags_exclusive o ho hh) _ hm
  have e : centreDistSq ap ac = reachSq (anchorQuad ap ac) := by
    unfold centreDistSq reachSq
    rewrite [← centre_diff ap ac hp hc]
    rfl
  have ha : areaG 0 (pentagonQ ap) / 2 = pentArea := by rewrite [pentagonQ_area ap]; rfl
  have hpos : 0 < pentArea := by
    have := seed_area_facts.1
    unfold pentArea; linarith
  refine ⟨ap, ac, h1, h2, ?_⟩
  rewrite [e, ha]
  exact ⟨hr, by linarith⟩

/-- non-vacuity / sharpness on a concrete cell, evaluated independently of the table: orientation 0, parent position 1
at depth 1, child `4·1 + 3 = 7` at depth 2: the ratio `dist² / area` exceeds `0.4212` (distance `> 0.6489·√area`) -/
example : sToAnchor 1 1 0 = .ok ⟨1, (1, 0), (1, -1)⟩ ∧ sToAnchor 7 2 0 = .ok ⟨2, (0, 1), (1, 1)⟩ ∧
    4212 / 10000 * (areaG 0 (pentagonQ ⟨1, (1, 0), (1, -1)⟩) / 2) < centreDistSq ⟨1, (1, 0), (1, -1)⟩ ⟨2, (0, 1), (1, 1)⟩ ∧
    centreDistSq ⟨1, (1, 0), (1, -1)⟩ ⟨2, (0, 1), (1, 1)⟩ < 4213 / 10000 * (areaG 0 (pentagonQ ⟨1, (1, 0), (1, -1)⟩) / 2) := by
  decide +kernel

/-- the theorem instantiated at a reversing, inverting orientation (4), depth 2 → 3 -/
example : ∃ ap ac, sToAnchor 11 2 4 = .ok ap ∧ sToAnchor 46 3 4 = .ok ac ∧
    centreDistSq ap ac < 64 / 100 * (areaG 0 (pentagonQ ap) / 2) := by
  obtain ⟨ap, ac, h1, h2, _, h4⟩ := child_centre_reach 1 4 11 2 (by decide) (by decide) (by decide) (by decide)
  exact ⟨ap, ac, h1, h2, h4⟩

/-! ## depth 0 → 1: the parent is the quintant triangle

The cell of curve depth 0 (resolution 1) is not drawn by `get_pentagon_vertices` but is the quintant triangle
`(u, v, w)` (`get_quintant_vertices`); its centre is the mean of the three vertices.  (Taking instead the pentagon of the
depth-0 anchor `⟨0, (0,0), (1,1)⟩` as "parent" the ratio would be 0.917: the bound 0.8 does NOT hold for that fictitious
parent, see `root_pentagon_reach_fails`.) -/

/-- the same list as `PG.triQ` (`PlacedPentagon.lean`, not imported here) -/
def quintantTriQ : List (ℚ × ℚ) := [ratPair Gen.Runtime.U, ratPair Gen.Runtime.V, ratPair Gen.Runtime.W]

/-- `x = .ok a` with `P a`, decidably -/
def OkSat {α : Type} (x : Outcome α) (P : α → Prop) : Prop :=
  match x with
  | .ok a => P a
  | _ => False

instance {α : Type} (x : Outcome α) (P : α → Prop) [DecidablePred P] : Decidable (OkSat x P) := by
  unfold OkSat; split <;> infer_instance

theorem OkSat.elim {α : Type} {x : Outcome α} {P : α → Prop} (h : OkSat x P) : ∃ a, x = .ok a ∧ P a := by
  unfold OkSat at h
  split at h
  · exact ⟨_, rfl, h⟩
  · exact h.elim

/-- squared distance between a depth-1 child's centre (scaled by 1/2) and the centre of the quintant triangle -/
def rootDistSq (ac : Anchor) : ℚ :=
  ((centreQ ac).1 / 2 - (centreG 0 3 quintantTriQ).1) * ((centreQ ac).1 / 2 - (centreG 0 3 quintantTriQ).1) +
    ((centreQ ac).2 / 2 - (centreG 0 3 quintantTriQ).2) * ((centreQ ac).2 / 2 - (centreG 0 3 quintantTriQ).2)

theorem root_reach_table : ∀ o ∈ List.range 6, ∀ d ∈ List.range 4,
    OkSat (sToAnchor d 1 o) (fun ac => rootDistSq ac < 3773 / 10000 * (areaG 0 quintantTriQ / 2)) := by decide +kernel

/-- **T-reach, depth 0 → 1** (the parent is the quintant triangle): distance `< 0.6143·√area` (`0.6143² > 0.3773`). -/
theorem root_centre_reach (o d : Nat) (ho : o < 6) (hd : d < 4) :
    ∃ ac, sToAnchor (4 * 0 + d) 1 o = .ok ac ∧ rootDistSq ac < 3773 / 10000 * (areaG 0 quintantTriQ / 2) := by
  rewrite [show 4 * 0 + d = d by omega]
  exact (root_reach_table o (List.mem_range.2 ho) d (List.mem_range.2 hd)).elim

/-- the pentagon of the depth-0 anchor is NOT the shape of the depth-0 cell, and the reach bound fails for it:
child 2 of orientation 0 is `> 0.9·√area` away from its centre -/
theorem root_pentagon_reach_fails : sToAnchor 0 0 0 = .ok ⟨0, (0, 0), (1, 1)⟩ ∧ sToAnchor 2 1 0 = .ok ⟨2, (0, 1), (1, 1)⟩ ∧
    81 / 100 * (areaG 0 (pentagonQ ⟨0, (0, 0), (1, 1)⟩) / 2) < centreDistSq ⟨0, (0, 0), (1, 1)⟩ ⟨2, (0, 1), (1, 1)⟩ := by
  decide +kernel

end A5.CP
