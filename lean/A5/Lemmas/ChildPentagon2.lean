import A5.Lemmas.ConvexPolygon
/-! # Parent ↔ child pentagons, part 2: every child pentagon shares interior area with its parent (planar C12)

Polygons and `StrictIn` are those of `ConvexPolygon.lean`.

**T-overlap** (`child_overlaps_parent`): for every depth `1 ≤ n+1 < 30`, orientation, position and child there is a
point strictly inside both the parent pentagon `pentagonQ ap` and the child pentagon scaled to the parent's frame
`halfPent ac = scaleG' (pentagonQ ac) (1/2)`.

How: the two pentagons, with the parent's translation `BASIS * offset` removed, depend only on the normalised step quad
`normQ q = (parent flips, parent reflected?, Δ, child flips, child reflected?)`; over all orientations there are 48 of
them.  `pieceData` lists for each a convex polygon (integer coordinates in units of 2⁻¹⁶) lying in parent ∩ child: the
Sutherland–Hodgman clip of the child by the parent, shrunk by 1/512 about its vertex mean and rounded.  Nothing about
where it comes from is used: `piece_table` CHECKS in exact arithmetic (kernel evaluation) that every vertex lies in both
pentagons, that the polygon is strictly convex and clockwise, and that the midpoint of one of its diagonals is strictly
inside both pentagons (`piece_tableZ`, on integer coordinates).  The same pieces are used for the coverage theorem in
part 3. -/
namespace A5.CP
open A5 A5.HilbertLocate A5.PG

/-- `(parent flips, parent reflected?, Δ, child flips, child reflected?)`: all the two pentagons depend on -/
abbrev NQuad := (Int × Int) × Bool × (Int × Int) × (Int × Int) × Bool

def normQ (q : Quad) : NQuad := (q.1.2.1, reflK q.2.1 q.1.2.1, q.1.1, q.1.2.2, reflK q.2.2 q.1.2.2)

/-- the parent pentagon with the parent's offset removed -/
def parentPentN (x : NQuad) : List Pt := localPent x.1 x.2.1

/-- the child pentagon in the parent's frame (scaled by 1/2) with the parent's offset removed -/
def childPentN (x : NQuad) : List Pt :=
  (localPent x.2.2.2.1 x.2.2.2.2).map (fun v => (v.1 / 2 + (halfBasis x.2.2.1).1, v.2 / 2 + (halfBasis x.2.2.1).2))

/-- the child pentagon in the parent's frame: child lattice units are half the parent's -/
def halfPent (a : Anchor) : List Pt := scaleG' (pentagonQ a) (1 / 2)

theorem parent_frame (ap ac : Anchor) :
    pentagonQ ap = (parentPentN (normQ (anchorQuad ap ac))).map (shift (basisMul ap.offset)) := pentagonQ_eq ap

theorem child_frame (ap ac : Anchor) :
    halfPent ac = (childPentN (normQ (anchorQuad ap ac))).map (shift (basisMul ap.offset)) := by
  unfold halfPent scaleG' childPentN normQ
  rewrite [pentagonQ_eq ac, List.map_map, List.map_map]
  refine List.map_congr_left (fun v _ => ?_)
  unfold anchorQuad halfBasis shift basisMul offsetT
  generalize basisQ = b
  obtain ⟨b0, b1, b2, b3⟩ := b
  refine Prod.ext ?_ ?_ <;> (dsimp only [Function.comp]; push_cast; ring)

def P (a b : Int) : Int × Int := (a, b)
def N (f1 f2 : Int) (r : Bool) (d1 d2 c1 c2 : Int) (rc : Bool) : NQuad := ((f1, f2), r, (d1, d2), (c1, c2), rc)
def E (f1 f2 : Int) (r : Bool) (d1 d2 c1 c2 : Int) (rc : Bool) (l : List (Int × Int)) : NQuad × List (Int × Int) :=
  (N f1 f2 r d1 d2 c1 c2 rc, l)

/-- for each of the 48 normalised quads a convex polygon inside parent ∩ child (units of 2⁻¹⁶; produced by clipping,
shrinking by 1/512 and rounding; CHECKED by `piece_table`) -/
def pieceData : List (NQuad × List (Int × Int)) := [
  E 1 1 false 0 0 1 1 false [P 26 11, P 6547 12288, P 20238 14696, P 26759 2418, P 13718 (-2397)],
  E 1 1 false 1 0 1 (-1) false [P 40477 (-2), P 27436 (-4817), P 13745 (-2410), P 26786 2405],
  E 1 1 false 1 1 (-1) 1 true [P 33972 17108, P 47013 12293, P 40492 15, P 26801 2423, P 20280 14700],
  E 1 1 false 2 0 1 (-1) true [P 47028 12317, P 33986 17132, P 40507 29409, P 49366 12728],
  E 1 (-1) false (-1) 1 1 1 false [P 26 (-29425), P 13067 (-24610), P 26759 (-27018), P 13718 (-31833)],
  E 1 (-1) false 0 1 1 (-1) false [P 40477 (-29438), P 33957 (-41716), P 20265 (-44123), P 13744 (-31846), P 26786 (-27031)],
  E 1 (-1) false (-1) 2 (-1) (-1) true [P 6532 (-46535), P (-6510) (-41720), P 11 (-29443), P 13703 (-31850), P 20223 (-44128)],
  E 1 (-1) false (-2) 1 1 1 true [P (-6524) (-41744), P 6517 (-46559), P (-3) (-58837), P (-8863) (-42156)],
  E 1 1 true 0 0 1 1 false [P 13717 (-2406), P 26 2, P 25645 4506, P 26759 2409],
  E 1 1 true 1 0 1 (-1) false [P 26790 2399, P 40482 (-9), P 33961 (-12286), P 20269 (-14694), P 13749 (-2416)],
  E 1 1 true 0 1 1 1 true [P 33970 (-12317), P 47011 (-17132), P 40490 (-29409), P 26799 (-27002), P 20278 (-14724)],
  E 1 1 true 1 1 (-1) 1 true [P 26792 2413, P 25678 4510, P 27442 4821, P 40483 6],
  E (-1) 1 true 0 0 (-1) 1 true [P (-6534) 17111, P 6507 12296, P (-13) 18, P (-13705) 2426, P (-20225) 14703],
  E (-1) 1 true 1 (-1) (-1) (-1) false [P (-13714) 31826, P (-22) 29419, P (-6542) 17141, P (-20234) 14734, P (-26755) 27011],
  E (-1) 1 true 0 (-1) (-1) 1 false [P (-26786) 27022, P (-40478) 29429, P (-14859) 33934, P (-13745) 31837],
  E (-1) 1 true 1 (-2) 1 1 true [P (-13712) 31841, P (-14826) 33938, P (-13061) 34248, P (-20) 29433],
  E 1 (-1) true 0 0 1 (-1) true [P 6534 (-17111), P (-6507) (-12296), P 13 (-18), P 13705 (-2426), P 20225 (-14703)],
  E 1 (-1) true (-1) 1 1 1 false [P 13714 (-31826), P 22 (-29419), P 6542 (-17141), P 20234 (-14734), P 26755 (-27011)],
  E 1 (-1) true 0 1 1 (-1) false [P 26786 (-27022), P 40478 (-29429), P 14859 (-33934), P 13745 (-31837)],
  E 1 (-1) true (-1) 2 (-1) (-1) true [P 13712 (-31841), P 14826 (-33938), P 13061 (-34248), P 20 (-29433)],
  E (-1) (-1) true 0 0 (-1) (-1) false [P (-13717) 2406, P (-26) (-2), P (-25645) (-4506), P (-26759) (-2409)],
  E (-1) (-1) true (-1) 0 (-1) 1 false [P (-26790) (-2399), P (-40482) 9, P (-33961) 12286, P (-20269) 14694, P (-13749) 2416],
  E (-1) (-1) true 0 (-1) (-1) (-1) true [P (-33970) 12317, P (-47011) 17132, P (-40490) 29409, P (-26799) 27002, P (-20278) 14724],
  E (-1) (-1) true (-1) (-1) 1 (-1) true [P (-26792) (-2413), P (-25678) (-4510), P (-27442) (-4821), P (-40483) (-6)],
  E (-1) (-1) false 0 0 (-1) (-1) false [P (-26) (-11), P (-6547) (-12288), P (-20238) (-14696), P (-26759) (-2418), P (-13718) 2397],
  E (-1) (-1) false (-1) 0 (-1) 1 false [P (-40477) 2, P (-27436) 4817, P (-13745) 2410, P (-26786) (-2405)],
  E (-1) (-1) false (-1) (-1) 1 (-1) true [P (-33972) (-17108), P (-47013) (-12293), P (-40492) (-15), P (-26801) (-2423), P (-20280) (-14700)],
  E (-1) (-1) false (-2) 0 (-1) 1 true [P (-47028) (-12317), P (-33986) (-17132), P (-40507) (-29409), P (-49366) (-12728)],
  E (-1) 1 false 1 (-1) (-1) (-1) false [P (-26) 29425, P (-13067) 24610, P (-26759) 27018, P (-13718) 31833],
  E (-1) 1 false 0 (-1) (-1) 1 false [P (-40477) 29438, P (-33957) 41716, P (-20265) 44123, P (-13744) 31846, P (-26786) 27031],
  E (-1) 1 false 1 (-2) 1 1 true [P (-6532) 46535, P 6510 41720, P (-11) 29443, P (-13703) 31850, P (-20223) 44128],
  E (-1) 1 false 2 (-1) (-1) (-1) true [P 6524 41744, P (-6517) 46559, P 3 58837, P 8863 42156],
  E 1 1 false 1 0 1 1 true [P 33972 17108, P 47013 12293, P 40492 15, P 26801 2423, P 20280 14700],
  E 1 1 false 2 1 (-1) (-1) true [P 47028 12317, P 33986 17132, P 40507 29409, P 49366 12728],
  E 1 (-1) false (-2) 2 (-1) 1 true [P (-6524) (-41744), P 6517 (-46559), P (-3) (-58837), P (-8863) (-42156)],
  E 1 (-1) false (-1) 1 1 (-1) true [P 6532 (-46535), P (-6510) (-41720), P 11 (-29443), P 13703 (-31850), P 20223 (-44128)],
  E 1 1 true 1 0 1 1 true [P 26792 2413, P 25678 4510, P 27442 4821, P 40483 6],
  E 1 1 true 0 2 (-1) 1 true [P 33970 (-12317), P 47011 (-17132), P 40490 (-29409), P 26799 (-27002), P 20278 (-14724)],
  E (-1) 1 true 1 (-1) (-1) 1 true [P (-13712) 31841, P (-14826) 33938, P (-13061) 34248, P (-20) 29433],
  E (-1) 1 true 0 (-1) 1 1 true [P (-6534) 17111, P 6507 12296, P (-13) 18, P (-13705) 2426, P (-20225) 14703],
  E 1 (-1) true (-1) 1 1 (-1) true [P 13712 (-31841), P 14826 (-33938), P 13061 (-34248), P 20 (-29433)],
  E 1 (-1) true 0 1 (-1) (-1) true [P 6534 (-17111), P (-6507) (-12296), P 13 (-18), P 13705 (-2426), P 20225 (-14703)],
  E (-1) (-1) true (-1) 0 (-1) (-1) true [P (-26792) (-2413), P (-25678) (-4510), P (-27442) (-4821), P (-40483) (-6)],
  E (-1) (-1) true 0 (-2) 1 (-1) true [P (-33970) 12317, P (-47011) 17132, P (-40490) 29409, P (-26799) 27002, P (-20278) 14724],
  E (-1) (-1) false (-1) 0 (-1) (-1) true [P (-33972) (-17108), P (-47013) (-12293), P (-40492) (-15), P (-26801) (-2423), P (-20280) (-14700)],
  E (-1) (-1) false (-2) (-1) 1 1 true [P (-47028) (-12317), P (-33986) (-17132), P (-40507) (-29409), P (-49366) (-12728)],
  E (-1) 1 false 2 (-2) 1 (-1) true [P 6524 41744, P (-6517) 46559, P 3 58837, P 8863 42156],
  E (-1) 1 false 1 (-1) (-1) 1 true [P (-6532) 46535, P 6510 41720, P (-11) 29443, P (-13703) 31850, P (-20223) 44128]]

def HasPiece (q : Quad) : Prop := normQ q ∈ pieceData.map Prod.fst
instance (q : Quad) : Decidable (HasPiece q) := by unfold HasPiece; infer_instance

/-- every step quad of every orientation class that occurs is covered by the data -/
theorem norm_mem_classes : ∀ c ∈ oriClasses, ∀ q ∈ finalQuads c.1 c.2, HasPiece q := by decide +kernel

/-- what each entry certifies: the polygon is strictly convex and clockwise, all its vertices lie in the (closed)
parent pentagon and in the (closed) child pentagon, and some point is strictly inside both -/
def PieceOK (x : NQuad × List (Int × Int)) : Prop :=
  StrictConvexCW (x.2.map (toQ 16)) ∧
  (∀ v ∈ x.2.map (toQ 16), InClosed (parentPentN x.1) v ∧ InClosed (childPentN x.1) v) ∧
  ∃ w, StrictIn (parentPentN x.1) w ∧ StrictIn (childPentN x.1) w

/-! ### the check on integer coordinates

The parent pentagon has integer coordinates in units of `2⁻⁵⁵`; the child pentagon in the parent's frame is halved, so
it has integer coordinates in units of `2⁻⁵⁶`; a piece vertex `p · 2⁻¹⁶` is `up m p` in units of `2⁻⁽¹⁶⁺ᵐ⁾`: `up 39`
against the parent, `up 40` against the child.  The midpoint of a diagonal is `diag · 2⁻¹⁷`, hence `up 38` and `up 39`. -/

def up (m : Nat) (p : Int × Int) : PtZ := (p.1 * 2 ^ m, p.2 * 2 ^ m)

theorem toQ_up (k m : Nat) (p : Int × Int) : toQ (k + m) (up m p) = toQ k p := by
  unfold toQ up qOf
  refine Prod.ext ?_ ?_ <;> (simp only [Prod.map]; push_cast; rewrite [pow_add]; field_simp)

def parentZ (x : NQuad) : List PtZ := localPentZ x.1 x.2.1
def childZ (x : NQuad) : List PtZ := translate (localPentZ x.2.2.2.1 x.2.2.2.2) (basisMulZ x.2.2.1)

theorem childPentN_toQ (x : NQuad) : childPentN x = (childZ x).map (toQ 56) := by
  unfold childPentN childZ translate
  rewrite [localPent_toQ, List.map_map, List.map_map]
  refine List.map_congr_left fun v _ => ?_
  have hb : halfBasis x.2.2.1 = ((toQ 55 (basisMulZ x.2.2.1)).1 / 2, (toQ 55 (basisMulZ x.2.2.1)).2 / 2) :=
    basisMul_toQ x.2.2.1 ▸ rfl
  rewrite [hb]
  unfold toQ qOf
  refine Prod.ext ?_ ?_ <;> (simp only [Function.comp, Prod.map]; push_cast; ring)

/-- the sum of two opposite vertices: half of it, the midpoint of a diagonal, is the interior point that is checked -/
def diag (l : List (Int × Int)) : Int × Int :=
  ((l.getD 0 (0, 0)).1 + (l.getD 2 (0, 0)).1, (l.getD 0 (0, 0)).2 + (l.getD 2 (0, 0)).2)

def PieceOKZ (x : NQuad × List (Int × Int)) : Prop :=
  StrictConvexCWZ x.2 ∧
  (∀ v ∈ x.2, InClosedZ (parentZ x.1) (up 39 v) ∧ InClosedZ (childZ x.1) (up 40 v)) ∧
  StrictInZ (parentZ x.1) (up 38 (diag x.2)) ∧ StrictInZ (childZ x.1) (up 39 (diag x.2))
instance (x : NQuad × List (Int × Int)) : Decidable (PieceOKZ x) := by unfold PieceOKZ; infer_instance

set_option maxRecDepth 8192 in
theorem piece_tableZ : ∀ x ∈ pieceData, PieceOKZ x := by decide +kernel

theorem piece_table (x : NQuad × List (Int × Int)) (hx : x ∈ pieceData) : PieceOK x := by
  obtain ⟨h1, h2, h3, h4⟩ := piece_tableZ x hx
  have ep : parentPentN x.1 = (parentZ x.1).map (toQ 55) := localPent_toQ _ _
  refine ⟨h1.rat 16, ?_, toQ 17 (diag x.2), ?_, ?_⟩
  · intro v hv
    obtain ⟨p, hp, rfl⟩ := List.mem_map.1 hv
    rewrite [ep, childPentN_toQ]
    exact ⟨toQ_up 16 39 p ▸ (h2 p hp).1.rat 55, toQ_up 16 40 p ▸ (h2 p hp).2.rat 56⟩
  · rewrite [ep]; exact toQ_up 17 38 _ ▸ h3.rat 55
  · rewrite [childPentN_toQ]; exact toQ_up 17 39 _ ▸ h4.rat 56

/-- **T-overlap** (planar C12, exact arithmetic on the runtime constants).  For every curve depth `1 ≤ n+1 < 30`,
orientation `o < 6`, position `s < 4^(n+1)` and child `d < 4` there is a point strictly inside both the parent's
pentagon and the child's pentagon (scaled by 1/2 into the parent's lattice frame): the two share interior area. -/
theorem child_overlaps_parent (n o s d : Nat) (hn : n + 2 ≤ 30) (ho : o < 6) (hs : s < 4 ^ (n + 1)) (hd : d < 4) :
    ∃ ap ac, sToAnchor s (n + 1) o = .ok ap ∧ sToAnchor (4 * s + d) (n + 2) o = .ok ac ∧
      ∃ w : ℚ × ℚ, StrictIn (pentagonQ ap) w ∧ StrictIn (scaleG' (pentagonQ ac) (1 / 2)) w := by
  obtain ⟨ap, ac, h1, h2, _, _, hm⟩ := child_quad_mem n o s d hn hs hd
  obtain ⟨x, hx, e⟩ := List.mem_map.1
    (norm_mem_classes _ (mem_oriClasses _ _ fun hh => flags_exclusive o ho hh) _ hm)
  obtain ⟨_, _, w, w1, w2⟩ := piece_table x hx
  rewrite [e] at w1 w2
  refine ⟨ap, ac, h1, h2, shift (basisMul ap.offset) w, ?_, ?_⟩
  · rewrite [parent_frame ap ac]; exact w1.shift _
  · show StrictIn (halfPent ac) _
    rewrite [child_frame ap ac]; exact w2.shift _

/-- instance at a reversing, inverting orientation (4), depth 2 → 3 -/
example : ∃ ap ac, sToAnchor 11 2 4 = .ok ap ∧ sToAnchor 46 3 4 = .ok ac ∧
    ∃ w : ℚ × ℚ, StrictIn (pentagonQ ap) w ∧ StrictIn (scaleG' (pentagonQ ac) (1 / 2)) w :=
  child_overlaps_parent 1 4 11 2 (by decide) (by decide) (by decide) (by decide)

/-- the hypotheses are not vacuous and the predicate is not trivial, evaluated independently of the table: orientation 0,
parent 1 (depth 1), child 7 (depth 2): the point `(0.62, -0.35)` is strictly inside both pentagons, while the child's own
centre is NOT inside the parent (pentagons do not nest) -/
example : sToAnchor 1 1 0 = .ok ⟨1, (1, 0), (1, -1)⟩ ∧ sToAnchor 7 2 0 = .ok ⟨2, (0, 1), (1, 1)⟩ ∧
    StrictIn (pentagonQ ⟨1, (1, 0), (1, -1)⟩) (62 / 100, -35 / 100) ∧
    StrictIn (scaleG' (pentagonQ ⟨2, (0, 1), (1, 1)⟩) (1 / 2)) (62 / 100, -35 / 100) ∧
    ¬ StrictIn (pentagonQ ⟨1, (1, 0), (1, -1)⟩) ((centreQ ⟨2, (0, 1), (1, 1)⟩).1 / 2, (centreQ ⟨2, (0, 1), (1, 1)⟩).2 / 2) := by
  decide +kernel

end A5.CP
