import A5.Lemmas.ChildPentagon2
/-! # Parent ↔ child pentagons, part 3: the four children cover more than half of their parent (planar C12)

**T-cover** (`children_cover_parent`).  For every curve depth `1 ≤ n+1 < 30`, orientation and position there are convex
polygons ("pieces") with rational vertices such that
* every piece is strictly convex and clockwise (`StrictConvexCW`), all its vertices lie in the closed parent pentagon
  and in the closed pentagon of ONE of the four children (scaled into the parent's frame) — so, the pentagons being
  convex (`pentagonQ_convex`), the piece is a subset of parent ∩ child;
* any two pieces are separated by a line (`LineSep`: one piece in the closed right half-plane, the other in the closed
  left half-plane of a non-degenerate line) — so their interiors are disjoint;
* the areas of the pieces sum to more than `0.579 ·` the parent's area (in particular more than half).
This is the statement `CoverCert … ∧ area bound`; that it implies "area(parent ∩ ⋃ children) > ½ area(parent)" is
elementary measure theory which is not formalised here.

The pieces are those of part 2 (`pieceData`, one per normalised step quad, checked by `piece_table`); this file adds, for
each of the 16 normalised families of four children, six separating lines (`sepData`; like the pieces they are only
CHECKED here, by kernel evaluation in exact arithmetic: `family_table`).  The measured true coverage is 0.58197 resp.
0.68059 of the parent's area depending on the family; the certificate (pieces shrunk by 1/512) proves `> 0.579`.
Depth 0 → 1 (parent = quintant triangle): `root_children_cover` (coverage `> 0.787`). -/
namespace A5.CP
open A5 A5.HilbertLocate A5.PG

/-- `Q` lies in the closed right half-plane and `R` in the closed left half-plane of the non-degenerate line `l` -/
def SepBy (l : Pt × Pt) (Q R : List Pt) : Prop :=
  l.1 ≠ l.2 ∧ (∀ v ∈ Q, cross l.1 l.2 v ≤ 0) ∧ (∀ v ∈ R, 0 ≤ cross l.1 l.2 v)
instance (l : Pt × Pt) (Q R : List Pt) : Decidable (SepBy l Q R) := by unfold SepBy; infer_instance

/-- the vertex sets (hence the convex hulls) of `Q` and `R` are separated by a line: disjoint interiors -/
def LineSep (Q R : List Pt) : Prop := ∃ l : Pt × Pt, SepBy l Q R

/-- the coverage certificate: convex pieces inside `parent ∩ child` (for some child each), pairwise separated -/
def CoverCert (parent : List Pt) (children pieces : List (List Pt)) : Prop :=
  (∀ Q ∈ pieces, StrictConvexCW Q ∧ (∀ v ∈ Q, InClosed parent v) ∧ ∃ C ∈ children, ∀ v ∈ Q, InClosed C v) ∧
  pieces.Pairwise LineSep

theorem SepBy.shift {l : Pt × Pt} {Q R : List Pt} (h : SepBy l Q R) (t : Pt) :
    SepBy (shift t l.1, shift t l.2) (Q.map (shift t)) (R.map (shift t)) :=
  ⟨fun e => h.1 (shift_injective t e), List.forall_mem_map.2 fun v hv => by rewrite [cross_shift]; exact h.2.1 v hv,
    List.forall_mem_map.2 fun v hv => by rewrite [cross_shift]; exact h.2.2 v hv⟩

theorem LineSep.shift {Q R : List Pt} (h : LineSep Q R) (t : Pt) : LineSep (Q.map (shift t)) (R.map (shift t)) := by
  obtain ⟨l, hl⟩ := h
  exact ⟨_, hl.shift t⟩

/-- four pieces with the six lines separating `(0,1) (0,2) (0,3) (1,2) (1,3) (2,3)` -/
def sepCheck : List (List Pt) → List (Pt × Pt) → Prop
  | [q0, q1, q2, q3], [l01, l02, l03, l12, l13, l23] =>
    SepBy l01 q0 q1 ∧ SepBy l02 q0 q2 ∧ SepBy l03 q0 q3 ∧ SepBy l12 q1 q2 ∧ SepBy l13 q1 q3 ∧ SepBy l23 q2 q3
  | _, _ => False

instance (ps : List (List Pt)) (ls : List (Pt × Pt)) : Decidable (sepCheck ps ls) := by
  unfold sepCheck; split <;> infer_instance

theorem sepCheck_pairwise {ps : List (List Pt)} {ls : List (Pt × Pt)} (h : sepCheck ps ls) : ps.Pairwise LineSep := by
  unfold sepCheck at h
  split at h
  · obtain ⟨a, b, c, d, e, f⟩ := h
    simp only [List.pairwise_cons, List.mem_cons, List.not_mem_nil, or_false, forall_eq_or_imp, forall_eq,
      List.Pairwise.nil, and_true, false_imp_iff, implies_true]
    exact ⟨⟨⟨_, a⟩, ⟨_, b⟩, ⟨_, c⟩⟩, ⟨⟨_, d⟩, ⟨_, e⟩⟩, ⟨_, f⟩⟩
  · exact h.elim

def L (a b c d : Int) : (Int × Int) × (Int × Int) := ((a, b), (c, d))
def lineQ (l : (Int × Int) × (Int × Int)) : Pt × Pt := (toQ 16 l.1, toQ 16 l.2)

/-- for each of the 16 normalised families (the four normalised quads of the children of one parent, in curve order)
six separating lines through two points each (units of 2⁻¹⁶), for the pairs `(0,1) (0,2) (0,3) (1,2) (1,3) (2,3)` of
the children's pieces -/
def sepData : List (List NQuad × List ((Int × Int) × (Int × Int))) := [
  ([
    N 1 1 false 0 0 1 1 false, N 1 1 false 1 0 1 (-1) false, N 1 1 false 1 1 (-1) 1 true, N 1 1 false 2 0 1 (-1) true],
   [
    L 26759 2418 13718 (-2397), L 20238 14696 26759 2418, L 20238 14696 26759 2418, L 26786 2405 40477 (-2),
    L 13745 (-2410) 26786 2405, L 33972 17108 47013 12293]),
  ([
    N 1 (-1) false (-1) 1 1 1 false, N 1 (-1) false 0 1 1 (-1) false, N 1 (-1) false (-1) 2 (-1) (-1) true,
    N 1 (-1) false (-2) 1 1 1 true],
   [
    L 26759 (-27018) 13718 (-31833), L 13718 (-31833) 26 (-29425), L 26759 (-27018) 13718 (-31833),
    L 20265 (-44123) 13744 (-31846), L 20265 (-44123) 13744 (-31846), L 6532 (-46535) (-6510) (-41720)]),
  ([
    N 1 1 true 0 0 1 1 false, N 1 1 true 1 0 1 (-1) false, N 1 1 true 0 1 1 1 true, N 1 1 true 1 1 (-1) 1 true],
   [
    L 26759 2409 13717 (-2406), L 13717 (-2406) 26 2, L 25645 4506 26759 2409, L 33961 (-12286) 20269 (-14694),
    L 26790 2399 40482 (-9), L 33970 (-12317) 47011 (-17132)]),
  ([
    N (-1) 1 true 0 0 (-1) 1 true, N (-1) 1 true 1 (-1) (-1) (-1) false, N (-1) 1 true 0 (-1) (-1) 1 false,
    N (-1) 1 true 1 (-2) 1 1 true],
   [
    L (-20225) 14703 (-6534) 17111, L (-20225) 14703 (-6534) 17111, L (-6534) 17111 6507 12296,
    L (-26755) 27011 (-13714) 31826, L (-13714) 31826 (-22) 29419, L (-14859) 33934 (-13745) 31837]),
  ([
    N 1 (-1) true 0 0 1 (-1) true, N 1 (-1) true (-1) 1 1 1 false, N 1 (-1) true 0 1 1 (-1) false,
    N 1 (-1) true (-1) 2 (-1) (-1) true],
   [
    L 20225 (-14703) 6534 (-17111), L 20225 (-14703) 6534 (-17111), L 6534 (-17111) (-6507) (-12296),
    L 26755 (-27011) 13714 (-31826), L 13714 (-31826) 22 (-29419), L 14859 (-33934) 13745 (-31837)]),
  ([
    N (-1) (-1) true 0 0 (-1) (-1) false, N (-1) (-1) true (-1) 0 (-1) 1 false,
    N (-1) (-1) true 0 (-1) (-1) (-1) true, N (-1) (-1) true (-1) (-1) 1 (-1) true],
   [
    L (-26759) (-2409) (-13717) 2406, L (-13717) 2406 (-26) (-2), L (-25645) (-4506) (-26759) (-2409),
    L (-33961) 12286 (-20269) 14694, L (-26790) (-2399) (-40482) 9, L (-33970) 12317 (-47011) 17132]),
  ([
    N (-1) (-1) false 0 0 (-1) (-1) false, N (-1) (-1) false (-1) 0 (-1) 1 false,
    N (-1) (-1) false (-1) (-1) 1 (-1) true, N (-1) (-1) false (-2) 0 (-1) 1 true],
   [
    L (-26759) (-2418) (-13718) 2397, L (-20238) (-14696) (-26759) (-2418), L (-20238) (-14696) (-26759) (-2418),
    L (-26786) (-2405) (-40477) 2, L (-13745) 2410 (-26786) (-2405), L (-33972) (-17108) (-47013) (-12293)]),
  ([
    N (-1) 1 false 1 (-1) (-1) (-1) false, N (-1) 1 false 0 (-1) (-1) 1 false, N (-1) 1 false 1 (-2) 1 1 true,
    N (-1) 1 false 2 (-1) (-1) (-1) true],
   [
    L (-26759) 27018 (-13718) 31833, L (-13718) 31833 (-26) 29425, L (-26759) 27018 (-13718) 31833,
    L (-20265) 44123 (-13744) 31846, L (-20265) 44123 (-13744) 31846, L (-6532) 46535 6510 41720]),
  ([
    N 1 1 false 0 0 1 1 false, N 1 1 false 1 0 1 (-1) false, N 1 1 false 1 0 1 1 true, N 1 1 false 2 1 (-1) (-1) true],
   [
    L 26759 2418 13718 (-2397), L 20238 14696 26759 2418, L 20238 14696 26759 2418, L 26786 2405 40477 (-2),
    L 13745 (-2410) 26786 2405, L 33972 17108 47013 12293]),
  ([
    N 1 (-1) false (-2) 2 (-1) 1 true, N 1 (-1) false (-1) 1 1 (-1) true, N 1 (-1) false (-1) 1 1 1 false,
    N 1 (-1) false 0 1 1 (-1) false],
   [
    L (-6524) (-41744) 6517 (-46559), L (-6524) (-41744) 6517 (-46559), L (-6524) (-41744) 6517 (-46559),
    L 11 (-29443) 13703 (-31850), L 13703 (-31850) 20223 (-44128), L 26759 (-27018) 13718 (-31833)]),
  ([
    N 1 1 true 0 0 1 1 false, N 1 1 true 1 0 1 (-1) false, N 1 1 true 1 0 1 1 true, N 1 1 true 0 2 (-1) 1 true],
   [
    L 26759 2409 13717 (-2406), L 25645 4506 26759 2409, L 13717 (-2406) 26 2, L 26790 2399 40482 (-9),
    L 33961 (-12286) 20269 (-14694), L 40483 6 26792 2413]),
  ([
    N (-1) 1 true 1 (-1) (-1) 1 true, N (-1) 1 true 1 (-1) (-1) (-1) false, N (-1) 1 true 0 (-1) (-1) 1 false,
    N (-1) 1 true 0 (-1) 1 1 true],
   [
    L (-20) 29433 (-13712) 31841, L (-13712) 31841 (-14826) 33938, L (-20) 29433 (-13712) 31841,
    L (-26755) 27011 (-13714) 31826, L (-6542) 17141 (-20234) 14734, L (-26786) 27022 (-40478) 29429]),
  ([
    N 1 (-1) true (-1) 1 1 (-1) true, N 1 (-1) true (-1) 1 1 1 false, N 1 (-1) true 0 1 1 (-1) false,
    N 1 (-1) true 0 1 (-1) (-1) true],
   [
    L 20 (-29433) 13712 (-31841), L 13712 (-31841) 14826 (-33938), L 20 (-29433) 13712 (-31841),
    L 26755 (-27011) 13714 (-31826), L 6542 (-17141) 20234 (-14734), L 26786 (-27022) 40478 (-29429)]),
  ([
    N (-1) (-1) true 0 0 (-1) (-1) false, N (-1) (-1) true (-1) 0 (-1) 1 false,
    N (-1) (-1) true (-1) 0 (-1) (-1) true, N (-1) (-1) true 0 (-2) 1 (-1) true],
   [
    L (-26759) (-2409) (-13717) 2406, L (-25645) (-4506) (-26759) (-2409), L (-13717) 2406 (-26) (-2),
    L (-26790) (-2399) (-40482) 9, L (-33961) 12286 (-20269) 14694, L (-40483) (-6) (-26792) (-2413)]),
  ([
    N (-1) (-1) false 0 0 (-1) (-1) false, N (-1) (-1) false (-1) 0 (-1) 1 false,
    N (-1) (-1) false (-1) 0 (-1) (-1) true, N (-1) (-1) false (-2) (-1) 1 1 true],
   [
    L (-26759) (-2418) (-13718) 2397, L (-20238) (-14696) (-26759) (-2418), L (-20238) (-14696) (-26759) (-2418),
    L (-26786) (-2405) (-40477) 2, L (-13745) 2410 (-26786) (-2405), L (-33972) (-17108) (-47013) (-12293)]),
  ([
    N (-1) 1 false 2 (-2) 1 (-1) true, N (-1) 1 false 1 (-1) (-1) 1 true, N (-1) 1 false 1 (-1) (-1) (-1) false,
    N (-1) 1 false 0 (-1) (-1) 1 false],
   [
    L 6524 41744 (-6517) 46559, L 6524 41744 (-6517) 46559, L 6524 41744 (-6517) 46559, L (-11) 29443 (-13703) 31850,
    L (-13703) 31850 (-20223) 44128, L (-26759) 27018 (-13718) 31833])]

def pieceI (x : NQuad) : List (Int × Int) := (pieceData.lookup x).getD []
def pieceOf (x : NQuad) : List Pt := (pieceI x).map (toQ 16)

def HasSep (fam : List Quad) : Prop := fam.map normQ ∈ sepData.map Prod.fst
instance (fam : List Quad) : Decidable (HasSep fam) := by unfold HasSep; infer_instance

theorem fam_mem_classes : ∀ c ∈ oriClasses, ∀ fam ∈ finalFamilies c.1 c.2, HasSep fam := by decide +kernel

/-- what is checked for each family: the recorded pieces are entries of `pieceData`, the six lines separate them, and
their areas sum to more than `0.579` of a pentagon's area (`fanArea2` and `areaG` are both twice the area) -/
def FamOK (x : List NQuad × List ((Int × Int) × (Int × Int))) : Prop :=
  (∀ y ∈ x.1, (y, pieceI y) ∈ pieceData) ∧
  sepCheck (x.1.map pieceOf) (x.2.map lineQ) ∧
  579 / 1000 * areaG 0 seedQ < ((x.1.map pieceOf).map fanArea2).sum

instance (x : List NQuad × List ((Int × Int) × (Int × Int))) : Decidable (FamOK x) := by unfold FamOK; infer_instance

set_option maxRecDepth 8192 in
theorem family_table : ∀ x ∈ sepData, FamOK x := by decide +kernel

/-- **T-cover** (planar C12, exact arithmetic on the runtime constants).  For every curve depth `1 ≤ n+1 < 30`,
orientation `o < 6` and position `s < 4^(n+1)`: the parent anchor `ap` and the four child anchors `kids` exist, and there
are pairwise line-separated strictly convex pieces, each inside the parent pentagon and inside one of the four child
pentagons (scaled by 1/2 into the parent's lattice frame), whose areas sum to more than `0.579` of the parent
pentagon's area — the children together cover more than half of the parent. -/
theorem children_cover_parent (n o s : Nat) (hn : n + 2 ≤ 30) (ho : o < 6) (hs : s < 4 ^ (n + 1)) :
    ∃ ap, sToAnchor s (n + 1) o = .ok ap ∧ ∃ kids : List Anchor, kids.length = 4 ∧
      (∀ d, d < 4 → sToAnchor (4 * s + d) (n + 2) o = .ok (kids.getD d default)) ∧
      ∃ pieces : List (List (ℚ × ℚ)),
        CoverCert (pentagonQ ap) (kids.map (fun ac => scaleG' (pentagonQ ac) (1 / 2))) pieces ∧
        579 / 1000 * areaG 0 (pentagonQ ap) < (pieces.map fanArea2).sum ∧
        1 / 2 * areaG 0 (pentagonQ ap) < (pieces.map fanArea2).sum := by
  obtain ⟨ap, h1, hp, kids, hl, hk, _, fam, hfam, hq⟩ := children_family_mem n o s hn hs
  have hex : ¬(oriFlipIJ o = true ∧ oriInvertJ o = true) := fun hh => flags_exclusive o ho hh
  have hsep : HasSep fam := fam_mem_classes (_, _) (mem_oriClasses _ _ hex) fam hfam
  obtain ⟨x, hx, ex⟩ := List.mem_map.1 hsep
  obtain ⟨c1, c2, c3⟩ := family_table x hx
  refine ⟨ap, h1, kids, hl, hk, (x.1.map pieceOf).map (List.map (shift (basisMul ap.offset))), ⟨?_, ?_⟩, ?_⟩
  · intro Q hQ
    obtain ⟨Q0, hQ0, rfl⟩ := List.mem_map.1 hQ
    obtain ⟨y, hy, rfl⟩ := List.mem_map.1 hQ0
    obtain ⟨k1, k2, _⟩ := piece_table _ (c1 y hy)
    rewrite [ex] at hy
    obtain ⟨q, hqf, rfl⟩ := List.mem_map.1 hy
    obtain ⟨ac, hac, rfl⟩ := hq q hqf
    refine ⟨k1.shift _, ?_, _, List.mem_map.2 ⟨ac, hac, rfl⟩, ?_⟩
    · intro v hv
      obtain ⟨v0, hv0, rfl⟩ := List.mem_map.1 hv
      rewrite [parent_frame ap ac]
      exact (k2 v0 hv0).1.shift _
    · intro v hv
      obtain ⟨v0, hv0, rfl⟩ := List.mem_map.1 hv
      show InClosed (halfPent ac) _
      rewrite [child_frame ap ac]
      exact (k2 v0 hv0).2.shift _
  · exact List.Pairwise.map _ (fun a b hab => hab.shift _) (sepCheck_pairwise c2)
  · have ea : ((x.1.map pieceOf).map (List.map (shift (basisMul ap.offset)))).map fanArea2 =
        (x.1.map pieceOf).map fanArea2 := by
      rewrite [List.map_map]
      exact List.map_congr_left (fun Q _ => fanArea2_shift Q _)
    have hpos := seed_area_facts.1
    rewrite [ea, pentagonQ_area ap]
    exact ⟨c3, by linarith⟩

/-- instance at a reversing, inverting orientation (4), depth 2 → 3 -/
example : ∃ ap, sToAnchor 11 2 4 = .ok ap ∧ ∃ kids : List Anchor, kids.length = 4 ∧
    (∀ d, d < 4 → sToAnchor (4 * 11 + d) 3 4 = .ok (kids.getD d default)) ∧
    ∃ pieces : List (List (ℚ × ℚ)),
      CoverCert (pentagonQ ap) (kids.map (fun ac => scaleG' (pentagonQ ac) (1 / 2))) pieces ∧
      1 / 2 * areaG 0 (pentagonQ ap) < (pieces.map fanArea2).sum := by
  obtain ⟨ap, h1, kids, h2, h3, pieces, h4, _, h6⟩ := children_cover_parent 1 4 11 (by decide) (by decide) (by decide)
  exact ⟨ap, h1, kids, h2, h3, pieces, h4, h6⟩

/-- the two area formulas agree on the seed pentagon, and the certificate is not vacuous: the recorded pieces of the
first family have total area between `0.677` and `0.681` of a pentagon's -/
example : fanArea2 seedQ = areaG 0 seedQ ∧
    677 / 1000 * areaG 0 seedQ < (((sepData.getD 0 ([], [])).1.map pieceOf).map fanArea2).sum ∧
    (((sepData.getD 0 ([], [])).1.map pieceOf).map fanArea2).sum < 681 / 1000 * areaG 0 seedQ := by decide +kernel

/-- the four depth-1 anchors of orientation `o` -/
def rootKids (o : Nat) : List Anchor :=
  (List.range 4).map (fun d => finalAnchor (adjustS (oriReverse o) 1 d) 1 (oriInvertJ o) (oriFlipIJ o))

/-- for each orientation `o = 0..5`: the four pieces (one per child, inside quintant triangle ∩ child) and six
separating lines, units of 2⁻¹⁶ -/
def rootData : List (List (List (Int × Int)) × List ((Int × Int) × (Int × Int))) := [
  ([
    [P 20239 14695, P 26759 2417, P 13718 (-2398), P 26 10],
    [P 13744 (-2418), P 26786 2397, P 40477 (-11), P 33957 (-12288), P 20265 (-14696)],
    [P 40490 (-29410), P 20278 (-14725), P 33970 (-12318), P 40490 (-14725)],
    [P 40490 16, P 26799 2423, P 20278 14701, P 33970 17108, P 40490 14701]],
   [
    L 26759 2417 13718 (-2398), L 26759 2417 13718 (-2398), L 20239 14695 26759 2417,
    L 33957 (-12288) 20265 (-14696), L 26786 2397 40477 (-11), L 20278 (-14725) 33970 (-12318)]),
  ([
    [P 40490 16, P 26799 2423, P 20278 14701, P 33970 17108, P 40490 14701],
    [P 40490 (-29410), P 20278 (-14725), P 33970 (-12318), P 40490 (-14725)],
    [P 13744 (-2418), P 26786 2397, P 40477 (-11), P 33957 (-12288), P 20265 (-14696)],
    [P 20239 14695, P 26759 2417, P 13718 (-2398), P 26 10]],
   [
    L 40490 16 26799 2423, L 40490 16 26799 2423, L 26799 2423 20278 14701, L 20278 (-14725) 33970 (-12318),
    L 20278 (-14725) 33970 (-12318), L 13744 (-2418) 26786 2397]),
  ([
    [P 20239 14695, P 26759 2417, P 13718 (-2398), P 26 10],
    [P 13744 (-2418), P 26786 2397, P 40477 (-11), P 33957 (-12288), P 20265 (-14696)],
    [P 40490 16, P 26799 2423, P 20278 14701, P 33970 17108, P 40490 14701],
    [P 40490 (-29410), P 20278 (-14725), P 33970 (-12318), P 40490 (-14725)]],
   [
    L 26759 2417 13718 (-2398), L 20239 14695 26759 2417, L 26759 2417 13718 (-2398), L 26786 2397 40477 (-11),
    L 33957 (-12288) 20265 (-14696), L 40490 16 26799 2423]),
  ([
    [P 40490 (-29410), P 20278 (-14725), P 33970 (-12318), P 40490 (-14725)],
    [P 40490 16, P 26799 2423, P 20278 14701, P 33970 17108, P 40490 14701],
    [P 13744 (-2418), P 26786 2397, P 40477 (-11), P 33957 (-12288), P 20265 (-14696)],
    [P 20239 14695, P 26759 2417, P 13718 (-2398), P 26 10]],
   [
    L 20278 (-14725) 33970 (-12318), L 20278 (-14725) 33970 (-12318), L 20278 (-14725) 33970 (-12318),
    L 40490 16 26799 2423, L 26799 2423 20278 14701, L 13744 (-2418) 26786 2397]),
  ([
    [P 40490 16, P 26799 2423, P 20278 14701, P 33970 17108, P 40490 14701],
    [P 20239 14695, P 26759 2417, P 13718 (-2398), P 26 10],
    [P 13744 (-2418), P 26786 2397, P 40477 (-11), P 33957 (-12288), P 20265 (-14696)],
    [P 40490 (-29410), P 20278 (-14725), P 33970 (-12318), P 40490 (-14725)]],
   [
    L 26799 2423 20278 14701, L 40490 16 26799 2423, L 40490 16 26799 2423, L 26759 2417 13718 (-2398),
    L 26759 2417 13718 (-2398), L 33957 (-12288) 20265 (-14696)]),
  ([
    [P 40490 (-29410), P 20278 (-14725), P 33970 (-12318), P 40490 (-14725)],
    [P 13744 (-2418), P 26786 2397, P 40477 (-11), P 33957 (-12288), P 20265 (-14696)],
    [P 20239 14695, P 26759 2417, P 13718 (-2398), P 26 10],
    [P 40490 16, P 26799 2423, P 20278 14701, P 33970 17108, P 40490 14701]],
   [
    L 20278 (-14725) 33970 (-12318), L 20278 (-14725) 33970 (-12318), L 20278 (-14725) 33970 (-12318),
    L 13744 (-2418) 26786 2397, L 26786 2397 40477 (-11), L 20239 14695 26759 2417])]

/-- what is checked for orientation `o`: the coverage certificate, the area bound `> 0.787`, and for each child a
recorded piece whose vertex mean is strictly inside the triangle and the child -/
def RootOK (o : Nat) (x : List (List (Int × Int)) × List ((Int × Int) × (Int × Int))) : Prop :=
  (∀ Q ∈ x.1.map (List.map (toQ 16)), StrictConvexCW Q ∧ (∀ v ∈ Q, InClosed quintantTriQ v) ∧
    ∃ C ∈ (rootKids o).map halfPent, ∀ v ∈ Q, InClosed C v) ∧
  sepCheck (x.1.map (List.map (toQ 16))) (x.2.map lineQ) ∧
  787 / 1000 * areaG 0 quintantTriQ < ((x.1.map (List.map (toQ 16))).map fanArea2).sum ∧
  ∀ C ∈ (rootKids o).map halfPent, ∃ Q ∈ x.1.map (List.map (toQ 16)), StrictIn quintantTriQ (mean Q) ∧ StrictIn C (mean Q)

instance (o : Nat) (x : List (List (Int × Int)) × List ((Int × Int) × (Int × Int))) : Decidable (RootOK o x) := by
  unfold RootOK; infer_instance

set_option maxRecDepth 8192 in
theorem root_table : ∀ o ∈ List.range 6, RootOK o (rootData.getD o ([], [])) := by decide +kernel

theorem quintantTri_convex : StrictConvexCW quintantTriQ ∧ 0 < areaG 0 quintantTriQ := by decide +kernel

/-- **T-overlap and T-cover, depth 0 → 1.**  The depth-0 cell of a quintant is the quintant triangle `(u, v, w)`.  For
every orientation its four children (pentagons of depth 1, scaled by 1/2) each share interior area with the triangle,
and together they cover more than `0.787` of it (certificate as in `children_cover_parent`). -/
theorem root_children_cover (o : Nat) (ho : o < 6) :
    ∃ kids : List Anchor, kids.length = 4 ∧ (∀ d, d < 4 → sToAnchor (4 * 0 + d) 1 o = .ok (kids.getD d default)) ∧
      (∀ ac ∈ kids, ∃ w : ℚ × ℚ, StrictIn quintantTriQ w ∧ StrictIn (scaleG' (pentagonQ ac) (1 / 2)) w) ∧
      ∃ pieces : List (List (ℚ × ℚ)),
        CoverCert quintantTriQ (kids.map (fun ac => scaleG' (pentagonQ ac) (1 / 2))) pieces ∧
        787 / 1000 * areaG 0 quintantTriQ < (pieces.map fanArea2).sum := by
  obtain ⟨c1, c2, c3, c4⟩ := root_table o (List.mem_range.2 ho)
  refine ⟨rootKids o, by simp [rootKids], ?_, ?_, _, ⟨c1, sepCheck_pairwise c2⟩, c3⟩
  · intro d hd
    rewrite [show 4 * 0 + d = d by omega, sToAnchor_eq d 1 o (by decide) (by omega)]
    have hc : d = 0 ∨ d = 1 ∨ d = 2 ∨ d = 3 := by omega
    rcases hc with rfl | rfl | rfl | rfl <;> rfl
  · intro ac hac
    obtain ⟨Q, _, h1, h2⟩ := c4 _ (List.mem_map.2 ⟨ac, hac, rfl⟩)
    exact ⟨_, h1, h2⟩

end A5.CP
