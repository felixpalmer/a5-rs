import A5.Spec.Layout
/-! The bit codec against the documented layout: the checked integer primitives inside their range; `get_resolution` is
`resFrom`; `serialize` is `encNat` on every record with a face origin and a resolution in `0..29` (one theorem, the resolution
a variable); `deserialize` on every id; the layout predicate is the image of the encoder.  The arithmetic of the id is in
`field_arith`, about a marker position `k` and a field width `m` that are variables (with `or_marker` for the `|||` and
`div_pow_mod_two_of_mod` for the bits below the marker). -/
namespace A5

theorem u64Add_ok (a b : Nat) (h : a + b < 2 ^ 64) : u64Add a b = .ok (a + b) := if_pos h
theorem u64Mul_ok (a b : Nat) (h : a * b < 2 ^ 64) : u64Mul a b = .ok (a * b) := if_pos h
theorem u32Sub_ok (a b : Nat) (h : b ≤ a) : u32Sub a b = .ok (a - b) := if_pos h
theorem u64Shl_ok (a n : Nat) (h : n < 64) (h2 : a * 2 ^ n < 2 ^ 64) : u64Shl a n = .ok (a * 2 ^ n) := by
  rewrite [u64Shl, if_pos h, Nat.shiftLeft_eq, Nat.mod_eq_of_lt h2]; rfl
theorem u64Shr_ok (a n : Nat) (h : n < 64) : u64Shr a n = .ok (a / 2 ^ n) := by
  rewrite [u64Shr, if_pos h, Nat.shiftRight_eq_div_pow]; rfl

theorem i32Sub_ok (a b : Int) (h : -2147483648 ≤ a - b ∧ a - b ≤ 2147483647) : i32Sub a b = .ok (a - b) :=
  if_pos (decide_eq_true h)

theorem i32Add_ok (a b : Int) (h : -2147483648 ≤ a + b ∧ a + b ≤ 2147483647) : i32Add a b = .ok (a + b) :=
  if_pos (decide_eq_true h)

/-- `markerPos` without the case distinction (truncated subtraction), so that `omega` sees it as linear -/
theorem markerPos_eq (n : Nat) : markerPos n = 57 - n - (n - 2) := by
  unfold markerPos; split <;> omega

theorem loop_eq_resFrom (id : Nat) : ∀ n : Nat, n ≤ 30 → ∀ sh, (n ≥ 1 → sh = id / 2 ^ markerPos (n - 1)) →
    getResolutionLoop (n + 1) ((n : Int) - 1) sh = resFrom id n := by
  intro n
  induction n with
  | zero => intro _ sh _; rfl
  | succ n ih =>
    intro hn sh hsh
    have hsh' : sh = id / 2 ^ markerPos n := hsh (by omega)
    subst hsh'
    unfold getResolutionLoop resFrom
    by_cases hb : id / 2 ^ markerPos n % 2 = 1
    · rewrite [if_neg (by omega), if_pos hb]; omega
    · rewrite [if_pos ⟨by omega, by omega⟩, if_neg hb,
        show ((n + 1 : Nat) : Int) - 1 - 1 = (n : Int) - 1 by omega]
      refine ih (by omega) _ (fun hn1 => ?_)
      -- the loop shifts by one bit below resolution 2 and by two above: the distance between consecutive markers
      rewrite [Nat.shiftRight_eq_div_pow, Nat.div_div_eq_div_mul, ← Nat.pow_add]
      refine congrArg (fun e => id / 2 ^ e) ?_
      have := markerPos_eq n
      have := markerPos_eq (n - 1)
      by_cases h2 : (n : Int) - 1 < Gen.FIRST_HILBERT_RESOLUTION
      · rewrite [if_pos h2]; simp only [Gen.FIRST_HILBERT_RESOLUTION] at h2; omega
      · rewrite [if_neg h2]; simp only [Gen.FIRST_HILBERT_RESOLUTION] at h2; omega

theorem getResolution_eq (id : Nat) : getResolution id = resFrom id 30 :=
  loop_eq_resFrom id 30 (by omega) (id >>> 1) (fun _ => Nat.shiftRight_eq_div_pow id 1)

theorem div_pow_mod_two_of_mod (id a b : Nat) (hab : a < b) (h : id % 2 ^ b = 0) :
    id / 2 ^ a % 2 = 0 := by
  obtain ⟨q, rfl⟩ := Nat.dvd_of_mod_eq_zero h
  obtain ⟨k, rfl⟩ : ∃ k, b = a + (k + 1) := ⟨b - a - 1, by omega⟩
  have e : 2 ^ (a + (k + 1)) * q = 2 ^ a * (2 * (2 ^ k * q)) := by
    rw [Nat.pow_add, Nat.pow_succ, Nat.mul_assoc, Nat.mul_comm (2 ^ k) 2, Nat.mul_assoc]
  rw [e, Nat.mul_div_cancel_left _ (Nat.pow_pos (by omega)), Nat.mul_mod_right]

theorem resFrom_of_marker (id r : Nat) (h0 : id % 2 ^ markerPos r = 0)
    (h1 : id / 2 ^ markerPos r % 2 = 1) : ∀ n, r < n → n ≤ 30 → resFrom id n = (r : Int) := by
  intro n
  induction n with
  | zero => intro h; omega
  | succ n ih =>
    intro hrn hn
    simp only [resFrom]
    by_cases hnr : n = r
    · subst hnr; rewrite [if_pos h1]; rfl
    · have := div_pow_mod_two_of_mod id (markerPos n) (markerPos r)
        (by have := markerPos_eq r; have := markerPos_eq n; omega) h0
      rewrite [if_neg (by omega)]
      exact ih (by omega) (by omega)

theorem getResolution_of_marker (id r : Nat) (hr : r ≤ 29) (h0 : id % 2 ^ markerPos r = 0)
    (h1 : id / 2 ^ markerPos r % 2 = 1) : getResolution id = (r : Int) := by
  rewrite [getResolution_eq]
  exact resFrom_of_marker id r h0 h1 30 (by omega) (by omega)

theorem resFrom_zero : ∀ n, resFrom 0 n = -1 := by
  intro n
  induction n with
  | zero => rfl
  | succ n ih => simp only [resFrom, Nat.zero_div, Nat.zero_mod]; rewrite [if_neg (by omega)]; exact ih

theorem resFrom_range (id : Nat) : ∀ n, -1 ≤ resFrom id n ∧ resFrom id n < (n : Int) := by
  intro n
  induction n with
  | zero => simp only [resFrom]; omega
  | succ n ih => simp only [resFrom]; split <;> omega

theorem getResolution_range (id : Nat) : -1 ≤ getResolution id ∧ getResolution id ≤ 29 := by
  rewrite [getResolution_eq]
  have := resFrom_range id 30
  omega

theorem firstQuintant_lt : ∀ o, o < 12 → firstQuintant o < 5 := by decide +kernel

/-- the six leading bits of a res ≥ 1 cell: the `else` branch of `top6` -/
def rot (o seg : Nat) : Nat := 5 * o + (seg + 5 - firstQuintant o) % 5

theorem rot_lt (o seg : Nat) (ho : o < 12) : rot o seg < 60 := by
  unfold rot; omega

theorem rot_div (o seg : Nat) : rot o seg / 5 = o := by
  unfold rot; omega

theorem rot_unrot (o seg : Nat) (ho : o < 12) (hs : seg < 5) : (rot o seg + firstQuintant o) % 5 = seg := by
  have hf := firstQuintant_lt o ho
  unfold rot; omega

theorem unrot_rot (t : Nat) (ht : t < 60) :
    rot (t / 5) ((t + firstQuintant (t / 5)) % 5) = t := by
  have hf := firstQuintant_lt (t / 5) (by omega)
  unfold rot; omega

theorem or_marker (x k : Nat) (h : x % 2 ^ (k + 1) = 0) : x ||| 2 ^ k = x + 2 ^ k := by
  obtain ⟨q, rfl⟩ : ∃ q, x = 2 ^ (k + 1) * q :=
    ⟨x / 2 ^ (k+1), by have := Nat.div_add_mod x (2 ^ (k + 1)); omega⟩
  rw [Nat.mul_comm, ← Nat.shiftLeft_eq,
    ← Nat.shiftLeft_add_eq_or_of_lt (Nat.pow_lt_pow_right (by omega) (by omega))]

theorem two_pow_two_mul (d : Nat) : 2 ^ (2 * d) = 4 ^ d := Nat.pow_mul 2 2 d

/-- An id `t·2^(k+1+m) + s·2^(k+1) + 2^k` with marker position `k` and a field `s` of width `m`: the field and the marker
stay below the leading part; without the marker the low `k+1` bits are zero (so `|||` adds it); the marker is the lowest
set bit; the leading part and the field are read back by division. -/
theorem field_arith (k m t s : Nat) (hs : s < 2 ^ m) :
    s * 2 ^ (k + 1) + 2 ^ k < 2 ^ (k + 1 + m) ∧
    (t * 2 ^ (k + 1 + m) + s * 2 ^ (k + 1)) % 2 ^ (k + 1) = 0 ∧
    (t * 2 ^ (k + 1 + m) + s * 2 ^ (k + 1) + 2 ^ k) % 2 ^ k = 0 ∧
    (t * 2 ^ (k + 1 + m) + s * 2 ^ (k + 1) + 2 ^ k) / 2 ^ k % 2 = 1 ∧
    (t * 2 ^ (k + 1 + m) + s * 2 ^ (k + 1) + 2 ^ k) / 2 ^ (k + 1 + m) = t ∧
    (t * 2 ^ (k + 1 + m) + s * 2 ^ (k + 1) + 2 ^ k) % 2 ^ (k + 1 + m) / 2 ^ (k + 1) = s := by
  have hA : 0 < 2 ^ k := Nat.pow_pos (by omega)
  generalize hAe : 2 ^ k = A at *
  have e1 : 2 ^ (k + 1) = 2 * A := by rw [Nat.pow_succ, hAe, Nat.mul_comm]
  have e2 : 2 ^ (k + 1 + m) = 2 * A * 2 ^ m := by rw [Nat.pow_add, e1]
  rw [e2, e1]
  generalize 2 ^ m = M at *
  have hlt : s * (2 * A) + A < 2 * A * M := by
    have := Nat.mul_le_mul_left (2 * A) (show s + 1 ≤ M from hs)
    rw [Nat.mul_add] at this
    rw [Nat.mul_comm s]; omega
  have hid : t * (2 * A * M) + s * (2 * A) + A = A * (2 * (t * M + s) + 1) := by
    simp only [Nat.mul_add, Nat.mul_one]
    simp only [Nat.mul_assoc, Nat.mul_comm, Nat.mul_left_comm]
  refine ⟨hlt, ?_, ?_, ?_, ?_, ?_⟩
  · rw [Nat.mul_comm t, Nat.mul_assoc, Nat.mul_comm s, ← Nat.mul_add, Nat.mul_mod_right]
  · rw [hid, Nat.mul_mod_right]
  · rw [hid, Nat.mul_div_cancel_left _ hA]; omega
  · rw [Nat.add_assoc, Nat.mul_comm t, Nat.mul_add_div (by omega), Nat.div_eq_of_lt hlt]; rfl
  · rw [Nat.add_assoc, Nat.mul_comm t, Nat.mul_add_mod, Nat.mod_eq_of_lt hlt, Nat.mul_comm s,
      Nat.mul_add_div (by omega), Nat.div_eq_of_lt (by omega)]; rfl

/-- **`serialize` on any record with a face origin and a resolution in `0..29`**, whatever the segment (a `usize` that
leaves room for `+ 5`) and whatever `s`: the documented arithmetic, or the error for a curve position that does not fit
its `2·(r-1)` bits.  Below resolution 2 the field `s`, at resolution 0 also the segment, is ignored. -/
theorem serialize_eq (o seg s : Nat) (r : Int) (ho : o < 12) (hseg : seg + 5 < 2 ^ 64)
    (h0 : 0 ≤ r) (h29 : r ≤ 29) :
    serialize ⟨o, seg, s, r⟩ =
      if 2 ≤ r ∧ 4 ^ (r - 1).toNat ≤ s then .err .sTooLarge else .ok (encNat ⟨o, seg, s, r⟩) := by
  have hf := firstQuintant_lt o ho
  -- `rot o seg` is written out so that the `rewrite` below finds it in the unfolded `serialize`
  have hI : (if r = 0 then u64Shl o 58 else u64Shl (5 * o + (seg + 5 - firstQuintant o) % 5) 58)
      = .ok (top6 ⟨o, seg, s, r⟩ * 2 ^ 58) ∧ top6 ⟨o, seg, s, r⟩ < 64 := by
    have hq : (seg + 5 - firstQuintant o) % 5 < 5 := Nat.mod_lt _ (by omega)
    unfold top6
    dsimp only
    split
    · exact ⟨u64Shl_ok _ _ (by omega) (by omega), by omega⟩
    · exact ⟨u64Shl_ok _ _ (by omega) (by omega), by omega⟩
  have hE : encNat ⟨o, seg, s, r⟩ = top6 ⟨o, seg, s, r⟩ * 2 ^ 58 +
      (if r ≥ 2 then s * 2 ^ (60 - 2 * r.toNat) else 0) + 2 ^ markerPos r.toNat := if_neg (by show ¬ r = -1; omega)
  rewrite [hE]
  clear hE
  generalize top6 ⟨o, seg, s, r⟩ = T at hI
  obtain ⟨hI, hT⟩ := hI
  unfold serialize
  dsimp only
  -- `rewrite` (unlike `dsimp`) also reaches the constants inside the `Decidable` instances of the `ite`s, so that the
  -- later `if_pos` / `if_neg` find their instances
  rewrite [show Gen.MAX_RESOLUTION = 30 from rfl, show Gen.FIRST_HILBERT_RESOLUTION = 2 from rfl,
    show Gen.HILBERT_START_BIT = 58 from rfl,
    if_neg (show ¬ r ≥ 30 by omega), if_neg (show ¬ r < -1 by omega), if_neg (show ¬ r = -1 by omega),
    if_neg (show ¬ o ≥ numOrigins from Nat.not_le.mpr ho), u64Add_ok _ _ hseg, Outcome.bind_ok,
    u32Sub_ok _ _ (by omega), Outcome.bind_ok, hI, Outcome.bind_ok]
  clear hI hf hseg ho
  obtain ⟨n, rfl⟩ : ∃ n : Nat, r = (n : Int) := ⟨r.toNat, by omega⟩
  have hn29 : n ≤ 29 := by omega
  clear h0 h29
  have hk := markerPos_eq n
  rewrite [Int.toNat_natCast]
  generalize markerPos n = k at hk
  have h3 := Nat.pow_lt_pow_right (a := 2) (by omega) (show k < 64 by omega)
  -- marker at bit `k`; the field above it has `57 - k` bits (none at resolution 0, one unused at 1, `2(n-1)` from 2 on)
  by_cases hn : n < 2
  · obtain ⟨-, h5, -, -, -, -⟩ := field_arith k (57 - k) T 0 (Nat.pow_pos (by omega))
    rewrite [show k + 1 + (57 - k) = 58 by omega, Nat.zero_mul, Nat.add_zero] at h5
    rewrite [if_neg (show ¬ (n : Int) ≥ 2 by omega), Outcome.bind_ok, if_pos (show (n : Int) < 2 by omega),
      u32Sub_ok _ _ (show n + 1 ≤ 58 by omega),
      Outcome.bind_ok, show 58 - (n + 1) = k by omega, u64Shl_ok _ _ (by omega) (by omega), Outcome.bind_ok,
      Nat.one_mul, or_marker _ _ h5, if_neg (show ¬ (2 ≤ (n : Int) ∧ _) from fun h => by omega),
      if_neg (show ¬ (n : Int) ≥ 2 by omega), Nat.add_zero]
    rfl
  · have hn2 : (n : Int) ≥ 2 := by omega
    have hk' : k = 59 - 2 * n := by omega
    clear hk
    have hP : 2 ^ (2 * (n - 1)) < 2 ^ 64 := Nat.pow_lt_pow_right (by omega) (by omega)
    rewrite [if_pos hn2, show ((n : Int) - 2 + 1).toNat = n - 1 by omega, show (1 + (n : Int) - 2).toNat = n - 1 by omega,
      show ((n : Int) - 1).toNat = n - 1 by omega, u64Shl_ok 1 _ (by omega) (by omega), Outcome.bind_ok, Nat.one_mul,
      ← two_pow_two_mul]
    by_cases hs : 2 ^ (2 * (n - 1)) ≤ s
    · rewrite [if_pos hs, if_pos (show 2 ≤ (n : Int) ∧ 2 ^ (2 * (n - 1)) ≤ s from ⟨hn2, hs⟩)]; rfl
    · obtain ⟨h1, h5, -, -, -, -⟩ := field_arith k (2 * (n - 1)) T s (by omega)
      rewrite [show k + 1 + 2 * (n - 1) = 58 by omega] at h1 h5
      have h4 := Nat.pow_pos (n := k) (show 0 < 2 by omega)
      rewrite [if_neg hs, if_neg (show ¬ (2 ≤ (n : Int) ∧ 2 ^ (2 * (n - 1)) ≤ s) from fun h => hs h.2),
        u32Sub_ok _ _ (by omega), Outcome.bind_ok,
        show 58 - 2 * (n - 1) = k + 1 by omega, u64Shl_ok _ _ (by omega) (by omega), Outcome.bind_ok,
        u64Add_ok _ _ (by omega), Outcome.bind_ok, if_neg (show ¬ (n : Int) < 2 by omega), u32Sub_ok _ _ (by omega),
        Outcome.bind_ok, show 58 - (2 * (n - 1) + 1) = k by omega, u64Shl_ok _ _ (by omega) (by omega),
        Outcome.bind_ok, Nat.one_mul, or_marker _ _ h5, show 60 - 2 * n = k + 1 by omega, if_pos hn2]
      rfl

theorem serialize_ok (o seg s : Nat) (r : Int) (ho : o < 12) (hseg : seg + 5 < 2 ^ 64) (h0 : 0 ≤ r) (h29 : r ≤ 29)
    (hs : r < 2 ∨ s < 4 ^ (r - 1).toNat) : serialize ⟨o, seg, s, r⟩ = .ok (encNat ⟨o, seg, s, r⟩) := by
  rewrite [serialize_eq o seg s r ho hseg h0 h29]
  exact if_neg (fun h => by omega)

theorem serialize_res_too_large (c : Cell) (h : c.res ≥ 30) : serialize c = .err .resTooLarge := if_pos h

theorem serialize_res_negative (c : Cell) (h : c.res < -1) : serialize c = .err .resNegative := by
  unfold serialize; rewrite [if_neg (by simp only [Gen.MAX_RESOLUTION]; omega), if_pos h]; rfl

theorem serialize_world (o seg s : Nat) : serialize ⟨o, seg, s, -1⟩ = .ok 0 := rfl

theorem serialize_valid (c : Cell) (h : c.Valid) : serialize c = .ok (encNat c) := by
  obtain ⟨o, seg, s, r⟩ := c
  rcases h with ⟨h1, h2, h3, h4⟩ | ⟨h1, h2, h3, h4⟩ | ⟨h1, h2, h3, h4⟩ | ⟨h1, h2, h3, h4, h5⟩
  · simp only at h1; subst h1; rfl
  all_goals simp only at h1 h2 h3 h4
  · exact serialize_ok o seg s r h2 (by omega) (by omega) (by omega) (by omega)
  · exact serialize_ok o seg s r h2 (by omega) (by omega) (by omega) (by omega)
  · exact serialize_ok o seg s r h3 (by omega) (by omega) (by omega) (Or.inr h5)

theorem serialize_never_panics (c : Cell) (ho : c.origin < 12) (hseg : c.segment + 5 < 2 ^ 64) :
    (serialize c).isPanic = false := by
  obtain ⟨o, seg, s, r⟩ := c
  by_cases h30 : r ≥ 30
  · rewrite [serialize_res_too_large _ h30]; rfl
  by_cases hneg : r < -1
  · rewrite [serialize_res_negative _ hneg]; rfl
  by_cases hm1 : r = -1
  · subst hm1; rfl
  · rewrite [serialize_eq o seg s r ho hseg (by omega) (by omega)]; split <;> rfl

theorem and_removal_mask (id : Nat) : id &&& Gen.REMOVAL_MASK = id % 2 ^ 58 :=
  Nat.and_two_pow_sub_one_eq_mod id 58

theorem deserialize_world (id : Nat) (hr : getResolution id = -1) :
    deserialize id = .ok ⟨0, 0, 0, -1⟩ := by
  simp only [deserialize, hr, if_true]

theorem deserialize_res0 (id : Nat) (hr : getResolution id = 0) :
    deserialize id = if id / 2 ^ 58 ≥ 12 then .err .badOrigin else .ok ⟨id / 2 ^ 58, 0, 0, 0⟩ := by
  simp only [deserialize, hr, numOrigins, Gen.ORIGIN_ORDER, List.length, Gen.FIRST_HILBERT_RESOLUTION,
    Nat.shiftRight_eq_div_pow]
  simp only [Int.reduceNeg, Int.reduceEq, Int.reduceLT, if_true, if_false, Nat.reduceAdd]
  by_cases h : id / 2 ^ 58 ≥ 12
  · rewrite [if_pos h, if_pos h]; rfl
  · rewrite [if_neg h, if_neg h]; rfl

theorem deserialize_pos (id : Nat) (r : Int) (h1 : 1 ≤ r) (h29 : r ≤ 29) (hr : getResolution id = r) :
    deserialize id = if id / 2 ^ 58 / 5 ≥ 12 then .err .badOrigin
      else .ok ⟨id / 2 ^ 58 / 5, (id / 2 ^ 58 + firstQuintant (id / 2 ^ 58 / 5)) % 5,
                if r < 2 then 0 else id % 2 ^ 58 / 2 ^ (60 - 2 * r.toNat), r⟩ := by
  simp only [deserialize, hr, numOrigins, Gen.ORIGIN_ORDER, List.length, Gen.FIRST_HILBERT_RESOLUTION,
    Gen.HILBERT_START_BIT, Nat.shiftRight_eq_div_pow, and_removal_mask, Nat.reduceAdd]
  rewrite [if_neg (by omega), if_neg (by omega)]
  by_cases h : id / 2 ^ 58 / 5 ≥ 12
  · rewrite [if_pos h, if_pos h]; rfl
  · rewrite [if_neg h, if_neg h, Outcome.bind_ok]
    by_cases h2 : r < 2
    · rewrite [if_pos h2, if_pos h2]; rfl
    · rewrite [if_neg h2, if_neg h2, u32Sub_ok _ _ (by omega), Outcome.bind_ok,
        show 58 - 2 * (r - 2 + 1).toNat = 60 - 2 * r.toNat by omega]
      rfl

theorem deserialize_spec (id : Nat) :
    deserialize id = .err .badOrigin ∨ ∃ c, deserialize id = .ok c ∧ c.res = getResolution id ∧ c.Valid := by
  have hrange := getResolution_range id
  by_cases hm1 : getResolution id = -1
  · exact Or.inr ⟨_, deserialize_world id hm1, hm1.symm, Or.inl ⟨hm1.symm ▸ rfl, rfl, rfl, rfl⟩⟩
  by_cases h0 : getResolution id = 0
  · rewrite [deserialize_res0 id h0]
    by_cases hb : id / 2 ^ 58 ≥ 12
    · exact Or.inl (if_pos hb)
    · exact Or.inr ⟨_, if_neg hb, h0.symm, Or.inr (Or.inl ⟨rfl, Nat.lt_of_not_le hb, rfl, rfl⟩)⟩
  rewrite [deserialize_pos id _ (by omega) (by omega) rfl]
  by_cases hb : id / 2 ^ 58 / 5 ≥ 12
  · exact Or.inl (if_pos hb)
  refine Or.inr ⟨_, if_neg hb, rfl, ?_⟩
  have hseg := Nat.mod_lt (id / 2 ^ 58 + firstQuintant (id / 2 ^ 58 / 5)) (show 0 < 5 by omega)
  by_cases h2 : getResolution id < 2
  · rewrite [if_pos h2]
    exact Or.inr (Or.inr (Or.inl ⟨by show getResolution id = 1; omega, Nat.lt_of_not_le hb, hseg, rfl⟩))
  · rewrite [if_neg h2]
    refine Or.inr (Or.inr (Or.inr ⟨Int.not_lt.mp h2, hrange.2, Nat.lt_of_not_le hb, hseg, ?_⟩))
    -- the extracted field fits its `2·(r-1)` bits: `(id % 2^58) / 2^(60-2r) < 2^58 / 2^(60-2r)`
    show id % 2 ^ 58 / 2 ^ (60 - 2 * (getResolution id).toNat) < 4 ^ (getResolution id - 1).toNat
    refine Nat.div_lt_of_lt_mul ?_
    rewrite [← two_pow_two_mul, ← Nat.pow_add,
      show 60 - 2 * (getResolution id).toNat + 2 * (getResolution id - 1).toNat = 58 by omega]
    exact Nat.mod_lt _ (Nat.pow_pos (by omega))

theorem deserialize_ok (id : Nat) (c : Cell) (h : deserialize id = .ok c) : c.res = getResolution id ∧ c.Valid := by
  rcases deserialize_spec id with he | ⟨c', hc, hr, hv⟩
  · rewrite [he] at h; cases h
  · rewrite [hc] at h; cases Outcome.ok.inj h; exact ⟨hr, hv⟩

theorem deserialize_ok_valid' (id : Nat) (c : Cell) (h : deserialize id = .ok c) : c.Valid := (deserialize_ok id c h).2

theorem deserialize_ok_valid (id : Nat) (c : Cell) (_hid : id < 2 ^ 64) (h : deserialize id = .ok c) :
    c.Valid := deserialize_ok_valid' id c h

theorem deserialize_res (id : Nat) (c : Cell) (h : deserialize id = .ok c) : c.res = getResolution id :=
  (deserialize_ok id c h).1

theorem deserialize_cases (id : Nat) : (∃ c, deserialize id = .ok c) ∨ deserialize id = .err .badOrigin := by
  rcases deserialize_spec id with he | ⟨c, hc, _⟩
  · exact Or.inr he
  · exact Or.inl ⟨c, hc⟩

theorem deserialize_never_panics' (id : Nat) : (deserialize id).isPanic = false := by
  rcases deserialize_spec id with he | ⟨c, hc, _⟩ <;> (rewrite [‹deserialize id = _›]; rfl)

theorem deserialize_never_panics (id : Nat) (_hid : id < 2 ^ 64) : (deserialize id).isPanic = false :=
  deserialize_never_panics' id

theorem encNat_world : encNat ⟨0, 0, 0, -1⟩ = 0 := rfl

theorem encNat_res0 (o seg s : Nat) : encNat ⟨o, seg, s, 0⟩ = o * 2 ^ 58 + 2 ^ 57 := by
  simp only [encNat, top6, markerPos, Int.reduceNeg, Int.reduceEq, Int.reduceToNat, if_true, if_false,
    ge_iff_le, Int.reduceLE, Nat.reduceLeDiff, Nat.sub_zero, Nat.add_zero]

theorem encNat_res1 (o seg s : Nat) : encNat ⟨o, seg, s, 1⟩ = rot o seg * 2 ^ 58 + 2 ^ 56 := by
  simp only [encNat, top6, markerPos, rot, Int.reduceNeg, Int.reduceEq, Int.reduceToNat, if_false,
    ge_iff_le, Int.reduceLE, Nat.reduceLeDiff, Nat.reduceSub, Nat.add_zero]

theorem encNat_hilbert (o seg s r : Nat) (h2 : 2 ≤ r) :
    encNat ⟨o, seg, s, (r : Int)⟩ = rot o seg * 2 ^ 58 + s * 2 ^ (60 - 2 * r) + 2 ^ (59 - 2 * r) := by
  simp only [encNat, top6, markerPos, rot, Int.toNat_natCast]
  rewrite [if_neg (show ¬ ((r : Int) = -1) by omega), if_neg (show ¬ ((r : Int) = 0) by omega),
    if_pos (show (r : Int) ≥ 2 by omega), if_pos (show r ≥ 2 by omega)]
  rfl

theorem getResolution_zero : getResolution 0 = -1 := (getResolution_eq 0).trans (resFrom_zero 30)

theorem enc_spec (c : Cell) (h : c.Valid) :
    Layout (encNat c) ∧ getResolution (encNat c) = c.res ∧ deserialize (encNat c) = .ok c := by
  obtain ⟨o, seg, s, r⟩ := c
  rcases h with ⟨h1, h2, h3, h4⟩ | ⟨h1, h2, h3, h4⟩ | ⟨h1, h2, h3, h4⟩ | ⟨h1, h2, h3, h4, h5⟩
  · simp only at h1 h2 h3 h4; subst h1 h2 h3 h4
    exact ⟨Or.inl rfl, getResolution_zero, deserialize_world 0 getResolution_zero⟩
  · simp only at h1 h2 h3 h4; subst h1 h3 h4
    rewrite [encNat_res0]
    have hr : getResolution (o * 2 ^ 58 + 2 ^ 57) = 0 :=
      getResolution_of_marker _ 0 (by omega) (show _ % 2 ^ 57 = 0 by omega) (show _ / 2 ^ 57 % 2 = 1 by omega)
    refine ⟨Or.inr (Or.inl ⟨o, h2, rfl⟩), hr, ?_⟩
    rewrite [deserialize_res0 _ hr, show (o * 2 ^ 58 + 2 ^ 57) / 2 ^ 58 = o by omega, if_neg (by omega)]
    rfl
  · simp only at h1 h2 h3 h4; subst h1 h4
    rewrite [encNat_res1]
    have ht := rot_lt o seg h2
    have hr : getResolution (rot o seg * 2 ^ 58 + 2 ^ 56) = 1 :=
      getResolution_of_marker _ 1 (by omega) (show _ % 2 ^ 56 = 0 by omega) (show _ / 2 ^ 56 % 2 = 1 by omega)
    refine ⟨Or.inr (Or.inr (Or.inl ⟨_, ht, rfl⟩)), hr, ?_⟩
    rewrite [deserialize_pos _ 1 (by omega) (by omega) hr, show (rot o seg * 2 ^ 58 + 2 ^ 56) / 2 ^ 58 = rot o seg by omega,
      rot_div, if_neg (by omega), rot_unrot o seg h2 h3]
    rfl
  · simp only at h1 h2 h3 h4 h5
    obtain ⟨n, rfl⟩ : ∃ n : Nat, r = (n : Int) := ⟨r.toNat, by omega⟩
    rewrite [show ((n : Int) - 1).toNat = n - 1 by omega] at h5
    rewrite [encNat_hilbert o seg s n (by omega)]
    have ht := rot_lt o seg h3
    -- marker at bit `59 - 2n` below a field of `2(n-1)` bits
    obtain ⟨-, -, a, b, c, d⟩ := field_arith (59 - 2 * n) (2 * (n - 1)) (rot o seg) s (two_pow_two_mul _ ▸ h5)
    rewrite [show 59 - 2 * n + 1 + 2 * (n - 1) = 58 by omega, show 59 - 2 * n + 1 = 60 - 2 * n by omega] at a b c d
    generalize hid : rot o seg * 2 ^ 58 + s * 2 ^ (60 - 2 * n) + 2 ^ (59 - 2 * n) = id at a b c d ⊢
    have hm : markerPos n = 59 - 2 * n := if_pos (by omega)
    have hr : getResolution id = (n : Int) :=
      getResolution_of_marker id n (by omega) (by rewrite [hm]; exact a) (by rewrite [hm]; exact b)
    refine ⟨Or.inr (Or.inr (Or.inr ⟨n, _, s, by omega, by omega, ht, h5, hid.symm⟩)), hr, ?_⟩
    rewrite [deserialize_pos id n (by omega) (by omega) hr, c, Int.toNat_natCast, d, rot_div, if_neg (by omega),
      if_neg (by omega), rot_unrot o seg h3 h4]
    rfl

theorem getResolution_enc (c : Cell) (h : c.Valid) : getResolution (encNat c) = c.res := (enc_spec c h).2.1

theorem deserialize_enc (c : Cell) (h : c.Valid) : deserialize (encNat c) = .ok c := (enc_spec c h).2.2

theorem layout_enc (c : Cell) (h : c.Valid) : Layout (encNat c) := (enc_spec c h).1

theorem encNat_injective (c c' : Cell) (h : c.Valid) (h' : c'.Valid) (e : encNat c = encNat c') : c = c' :=
  Outcome.ok.inj ((deserialize_enc c h).symm.trans (e ▸ deserialize_enc c' h'))

theorem Layout.lt (id : Nat) (h : Layout id) : id < 2 ^ 64 := by
  rcases h with rfl | ⟨f, hf, rfl⟩ | ⟨t, ht, rfl⟩ | ⟨r, t, s, h2, h29, ht, hs, rfl⟩
  · omega
  · omega
  · omega
  · have := (field_arith (59 - 2 * r) (2 * (r - 1)) t s (two_pow_two_mul _ ▸ hs)).1
    rewrite [show 59 - 2 * r + 1 + 2 * (r - 1) = 58 by omega, show 59 - 2 * r + 1 = 60 - 2 * r by omega] at this
    omega

theorem encNat_lt (c : Cell) (h : c.Valid) : encNat c < 2 ^ 64 := Layout.lt _ (layout_enc c h)

theorem exists_enc_of_layout (id : Nat) (h : Layout id) : ∃ c, c.Valid ∧ encNat c = id := by
  rcases h with rfl | ⟨f, hf, rfl⟩ | ⟨t, ht, rfl⟩ | ⟨r, t, s, h2, h29, ht, hs, rfl⟩
  · exact ⟨⟨0, 0, 0, -1⟩, Or.inl ⟨rfl, rfl, rfl, rfl⟩, rfl⟩
  · exact ⟨⟨f, 0, 0, 0⟩, Or.inr (Or.inl ⟨rfl, hf, rfl, rfl⟩), encNat_res0 f 0 0⟩
  · refine ⟨⟨t / 5, (t + firstQuintant (t / 5)) % 5, 0, 1⟩,
      Or.inr (Or.inr (Or.inl ⟨rfl, by show t / 5 < 12; omega, Nat.mod_lt _ (by omega), rfl⟩)), ?_⟩
    rewrite [encNat_res1, unrot_rot t ht]; rfl
  · refine ⟨⟨t / 5, (t + firstQuintant (t / 5)) % 5, s, (r : Int)⟩,
      Or.inr (Or.inr (Or.inr ⟨by show (2 : Int) ≤ r; omega, by show (r : Int) ≤ 29; omega,
        by show t / 5 < 12; omega, Nat.mod_lt _ (by omega),
        by show s < 4 ^ ((r : Int) - 1).toNat; rewrite [show ((r : Int) - 1).toNat = r - 1 by omega]; exact hs⟩)), ?_⟩
    rewrite [encNat_hilbert _ _ _ _ h2, unrot_rot t ht]; rfl

theorem deserialize_layout (id : Nat) (h : Layout id) :
    ∃ c, c.Valid ∧ deserialize id = .ok c ∧ encNat c = id := by
  obtain ⟨c, hv, rfl⟩ := exists_enc_of_layout id h
  exact ⟨c, hv, deserialize_enc c hv, rfl⟩

theorem layout_iff_enc (id : Nat) : Layout id ↔ ∃ c, c.Valid ∧ encNat c = id :=
  ⟨exists_enc_of_layout id, fun ⟨c, hv, e⟩ => e ▸ layout_enc c hv⟩

end A5
