import A5.Lemmas.Siblings
import A5.Lemmas.HierRefineParent
import A5.Lemmas.Canonical
import A5.Model.Compact
/-! # The sort key of `compact` on tree paths (core-only)

`pkey p` is the closed form of `hierarchyKey (enc p)` (`hierarchyKey_enc`):

    world          ↦ 2^57 + 1            (directly above face 0)
    face f         ↦ 5f·2^58 + 2^57      (the id of the face, with `5f` instead of `f` in the six leading bits)
    deep f k ds    ↦ enc (deep f k ds)   (the id itself)

The key is injective, lists the children of a cell in increasing order and puts every cell (world and faces
included) strictly between its first and its last child.  What lies between the first and the last child of `P` is
`P`, a descendant of `P`, **or an ancestor of `P` of resolution ≤ 0** (`pkey_between`): the face key lies inside the
id block of quintant `(f,0)`, the world key inside that of quintant `(0,0)`.  So subtrees are contiguous in key order
only among cells of resolution ≥ 1.

Namespace `A5.CompactKey` states the same facts with `firstChild` / `lastChild` written out by cases. -/
namespace A5.CompactMax
open A5 A5.Path A5.Canonical
open A5.Order (child W mark blockBase lo hi)

/-- `hierarchy_key` (`compact.rs`) as a function of the path, see `hierarchyKey_enc` -/
def pkey : Path → Nat
  | world => 2 ^ 57 + 1
  | face f => 5 * f * 2 ^ 58 + 2 ^ 57
  | deep f k ds => enc (deep f k ds)

theorem pkey_deep (f k : Nat) (ds : List Nat) : pkey (deep f k ds) = enc (deep f k ds) := rfl
theorem pkey_face (f : Nat) : pkey (face f) = 5 * f * 2 ^ 58 + 2 ^ 57 := rfl
theorem pkey_world : pkey world = 2 ^ 57 + 1 := rfl

theorem hierarchyKey_enc {p : Path} (hp : WF p) : hierarchyKey (enc p) = pkey p := by
  cases p with
  | world => decide +kernel
  | face f =>
    have hf : f < 12 := hp
    unfold hierarchyKey
    simp only [getResolution_enc_path hp]
    simp only [res, pkey, Gen.HILBERT_START_BIT]
    rewrite [if_neg (by omega), if_pos trivial, and_removal_mask, Nat.shiftRight_eq_div_pow, Nat.shiftLeft_eq,
      Order.enc_face]
    have e2 : (f * 2 ^ 58 + 2 ^ 57) / 2 ^ 58 = f := by omega
    have e3 : (f * 2 ^ 58 + 2 ^ 57) % 2 ^ 58 = 2 ^ 57 := by omega
    have e4 : 5 * f * 2 ^ 58 % 2 ^ 64 = 5 * f * 2 ^ 58 := Nat.mod_eq_of_lt (by omega)
    rewrite [e2, e3, e4]
    exact or_marker _ 57 (Nat.mul_mod_left _ _)
  | deep f k ds =>
    unfold hierarchyKey
    simp only [getResolution_enc_path hp]
    have : res (deep f k ds) = 1 + (ds.length : Int) := rfl
    rewrite [this, if_neg (by omega), if_neg (by omega)]
    rfl

theorem enc_deep_bounds {f k : Nat} {ds : List Nat} (hp : WF (deep f k ds)) :
    (5 * f + k) * 2 ^ 58 + 2 ≤ enc (deep f k ds) ∧ enc (deep f k ds) + 2 ≤ (5 * f + k) * 2 ^ 58 + 2 ^ 58 := by
  obtain ⟨_, _, hd, hl⟩ := hp
  have h := Order.tail_bounds 0 ds hd (by omega)
  rw [Nat.zero_add, Order.W_zero] at h
  rw [Order.enc_deep]
  omega

theorem enc_deep_even {f k : Nat} {ds : List Nat} (hp : WF (deep f k ds)) : enc (deep f k ds) % 2 = 0 := by
  obtain ⟨_, _, hd, hl⟩ := hp
  rw [Order.enc_deep, Order.W_succ _ hl, Nat.mul_left_comm]
  by_cases h0 : ds.length = 0
  · rw [h0, Order.mark_zero]; omega
  · rw [Order.mark_pos_eq _ (by omega) hl]; omega

theorem face_key_ne_deep (f' : Nat) {f k : Nat} {ds : List Nat} (hp : WF (deep f k ds)) :
    5 * f' * 2 ^ 58 + 2 ^ 57 ≠ enc (deep f k ds) := by
  intro e
  by_cases h0 : ds.length = 0
  · have : ds = [] := List.eq_nil_of_length_eq_zero h0
    subst this
    rw [Order.enc_quintant] at e
    omega
  · have h1 := Order.lo_le_enc hp (by simp only [res]; omega)
    rw [← e] at h1
    have := Order.face_not_in_block f k ds hp (by omega) (5 * f')
    rw [Order.enc_face] at this
    exact this h1

theorem pkey_inj {p q : Path} (hp : WF p) (hq : WF q) (h : pkey p = pkey q) : p = q := by
  cases p with
  | world =>
    cases q with
    | world => rfl
    | face g => rw [pkey_world, pkey_face] at h; omega
    | deep g j es => rw [pkey_world, pkey_deep] at h; have := enc_deep_even hq; omega
  | face f =>
    cases q with
    | world => rw [pkey_world, pkey_face] at h; omega
    | face g => rw [pkey_face, pkey_face] at h; have : f = g := by omega
                rw [this]
    | deep g j es => rw [pkey_face, pkey_deep] at h; exact absurd h (face_key_ne_deep f hq)
  | deep f k ds =>
    cases q with
    | world => rw [pkey_world, pkey_deep] at h; have := enc_deep_even hp; omega
    | face g => rw [pkey_face, pkey_deep] at h; exact absurd h.symm (face_key_ne_deep g hp)
    | deep g j es => exact enc_injective hp hq h

theorem child_zero_mem (P : Path) : child P 0 ∈ children P :=
  Order.child_mem_children P 0 (fan_pos _)

theorem child_last_mem (P : Path) : child P (fan (res P) - 1) ∈ children P :=
  Order.child_mem_children P _ (by have := fan_pos (res P); omega)

theorem pkey_child_lt {P : Path} (hP : WF P) {i j : Nat} (hij : i < j) :
    pkey (child P i) < pkey (child P j) := by
  cases P with
  | world => show pkey (face i) < pkey (face j); rw [pkey_face, pkey_face]; omega
  | face f =>
    show pkey (deep f i []) < pkey (deep f j [])
    rw [pkey_deep, pkey_deep, Order.enc_quintant, Order.enc_quintant]; omega
  | deep f k ds =>
    obtain ⟨_, _, _, hl⟩ := hP
    show enc (child (deep f k ds) i) < enc (child (deep f k ds) j)
    rw [Order.enc_child_deep f k ds i hl, Order.enc_child_deep f k ds j hl]
    have := Nat.mul_lt_mul_of_lt_of_le hij (Nat.le_refl (W (ds.length + 1))) (Order.W_pos _)
    omega

theorem pkey_parent_between {P : Path} (hP : WF P) (hr : res P ≤ 28) :
    pkey (child P 0) < pkey P ∧ pkey P < pkey (child P (fan (res P) - 1)) := by
  cases P with
  | world =>
    rw [Order.fan_world]
    show pkey (face 0) < pkey world ∧ pkey world < pkey (face (12 - 1))
    rw [pkey_face, pkey_face, pkey_world]; omega
  | face f =>
    rw [Order.fan_face]
    show pkey (deep f 0 []) < pkey (face f) ∧ pkey (face f) < pkey (deep f (5 - 1) [])
    rw [pkey_deep, pkey_deep, Order.enc_quintant, Order.enc_quintant, pkey_face]; omega
  | deep f k ds =>
    rw [Order.fan_deep]
    exact Order.parent_between_children (deep f k ds) hP (by simp only [res]; omega) hr

theorem pkey_between {P x : Path} (hP : WF P) (hr : res P ≤ 28) (hx : WF x)
    (h1 : pkey (child P 0) ≤ pkey x) (h2 : pkey x ≤ pkey (child P (fan (res P) - 1))) :
    Below P x ∨ (res x ≤ 0 ∧ Below x P) := by
  cases P with
  | world => exact Or.inl (below_world x)
  | face f =>
    rw [Order.fan_face] at h2
    have e1 : pkey (child (face f) 0) = (5 * f + 0) * 2 ^ 58 + 2 ^ 56 := Order.enc_quintant f 0
    have e2 : pkey (child (face f) (5 - 1)) = (5 * f + (5 - 1)) * 2 ^ 58 + 2 ^ 56 := Order.enc_quintant f _
    rw [e1] at h1; rw [e2] at h2
    cases x with
    | world => exact Or.inr ⟨by decide, below_world _⟩
    | face g =>
      rw [pkey_face] at h1 h2
      have : g = f := by omega
      rw [this]; exact Or.inl (below_refl _)
    | deep g j es =>
      rw [pkey_deep] at h1 h2
      have hb := enc_deep_bounds hx
      obtain ⟨_, hj, _, _⟩ := hx
      have : g = f := by omega
      rw [this]; exact Or.inl (below_face_deep f j es)
  | deep f k ds =>
    rw [Order.fan_deep] at h2
    obtain ⟨hf, hk, hd, hl⟩ := id hP
    have hres : res (deep f k ds) = 1 + (ds.length : Int) := rfl
    rw [hres] at hr
    -- both children lie in `[base + 2, base + W - 2]`, the id interval of the subtree of `P`
    have b0 := Order.enc_append_bounds f k ds [0] (by simp) (by simp only [List.length_singleton]; omega)
    have b3 := Order.enc_append_bounds f k ds [4 - 1] (by simp) (by simp only [List.length_singleton]; omega)
    have k1 : pkey (child (deep f k ds) 0) = enc (deep f k (ds ++ [0])) := rfl
    have k2 : pkey (child (deep f k ds) (4 - 1)) = enc (deep f k (ds ++ [4 - 1])) := rfl
    rw [k1] at h1; rw [k2] at h2
    cases x with
    | world => exact Or.inr ⟨by decide, below_world _⟩
    | face g =>
      rw [pkey_face] at h1 h2
      have hbl := Order.value_mul_W_le ds hd (by omega)
      have hW := Order.W_pos ds.length
      simp only [blockBase] at b0 b3
      have : g = f := by omega
      rw [this]; exact Or.inr ⟨Int.le_refl 0, below_face_deep f k ds⟩
    | deep g j es =>
      rw [pkey_deep] at h1 h2
      exact Or.inl (Order.ancestor_of_enc_bounds hP hx (by rw [hres]; omega) (by simp only [res]; omega)
        (by simp only [lo]; omega) (by simp only [hi]; omega))

end A5.CompactMax

namespace A5.CompactKey
open A5 A5.Path

/-- the same function as `CompactMax.pkey` (`pkey_eq`) -/
def pkey : Path → Nat
  | world => 2 ^ 57 + 1
  | face f => 5 * f * 2 ^ 58 + 2 ^ 57
  | deep f k ds => enc (deep f k ds)

/-- the child with the smallest id -/
def firstChild : Path → Path
  | world => face 0
  | face f => deep f 0 []
  | deep f k ds => deep f k (ds ++ [0])

/-- the child with the largest id -/
def lastChild : Path → Path
  | world => face 11
  | face f => deep f 4 []
  | deep f k ds => deep f k (ds ++ [3])

/-- `a` is `q` or an ancestor of `q` (this is `Canonical.Below a q`) -/
def Covers (a q : Path) : Prop := res a ≤ res q ∧ ancestorAt q (res a) = a

theorem pkey_eq (p : Path) : pkey p = CompactMax.pkey p := by cases p <;> rfl

theorem firstChild_eq (p : Path) : firstChild p = Order.child p 0 := by cases p <;> rfl

theorem lastChild_eq (p : Path) : lastChild p = Order.child p (fan (res p) - 1) := by
  cases p with
  | world => rfl
  | face f => rfl
  | deep f k ds => rw [Order.fan_deep]; rfl

theorem pkey_world : pkey world = 2 ^ 57 + 1 := rfl
theorem pkey_face (f : Nat) : pkey (face f) = 5 * f * 2 ^ 58 + 2 ^ 57 := rfl
theorem pkey_deep (f k : Nat) (ds : List Nat) : pkey (deep f k ds) = enc (deep f k ds) := rfl

theorem fan_world : fan (res world) = 12 := Order.fan_world

theorem hierarchyKey_enc {p : Path} (hp : WF p) : hierarchyKey (enc p) = pkey p :=
  (CompactMax.hierarchyKey_enc hp).trans (pkey_eq p).symm

theorem pkey_injective {p q : Path} (hp : WF p) (hq : WF q) (h : pkey p = pkey q) : p = q :=
  CompactMax.pkey_inj hp hq (by rw [← pkey_eq, ← pkey_eq]; exact h)

theorem hierarchyKey_injective {p q : Path} (hp : WF p) (hq : WF q)
    (h : hierarchyKey (enc p) = hierarchyKey (enc q)) : p = q := by
  rewrite [hierarchyKey_enc hp, hierarchyKey_enc hq] at h
  exact pkey_injective hp hq h

theorem lastChild_mem_tail (p : Path) : lastChild p ∈ (children p).tail := by
  cases p <;> simp [lastChild, children, List.range_succ]

theorem lastChild_mem (p : Path) : lastChild p ∈ children p := List.mem_of_mem_tail (lastChild_mem_tail p)

theorem firstChild_mem (p : Path) : firstChild p ∈ children p := firstChild_eq p ▸ CompactMax.child_zero_mem p

theorem pkey_parent_between {p : Path} (hp : WF p) (h28 : res p ≤ 28) :
    pkey (firstChild p) < pkey p ∧ pkey p < pkey (lastChild p) := by
  rw [firstChild_eq, lastChild_eq, pkey_eq, pkey_eq, pkey_eq]
  exact CompactMax.pkey_parent_between hp h28

theorem pkey_between_children {p q : Path} (hp : WF p) (h28 : res p ≤ 28) (hq : WF q)
    (h1 : pkey (firstChild p) ≤ pkey q) (h2 : pkey q ≤ pkey (lastChild p)) :
    Covers p q ∨ (res q ≤ 0 ∧ Covers q p) := by
  rw [firstChild_eq, pkey_eq, pkey_eq] at h1
  rw [lastChild_eq, pkey_eq, pkey_eq] at h2
  exact CompactMax.pkey_between hp h28 hq h1 h2

theorem pkey_between_children_deep {p q : Path} (hp : WF p) (h28 : res p ≤ 28) (hq : WF q) (hq1 : 1 ≤ res q)
    (h1 : pkey (firstChild p) ≤ pkey q) (h2 : pkey q ≤ pkey (lastChild p)) : Covers p q := by
  rcases pkey_between_children hp h28 hq h1 h2 with h | ⟨h, _⟩
  · exact h
  · omega

/-- the unrestricted contiguity statement ("everything between the first and the last child of `p` is `p` or a
descendant of `p`") -/
def subtree_contiguous_statement : Prop :=
  ∀ p q : Path, WF p → res p ≤ 28 → WF q → pkey (firstChild p) ≤ pkey q → pkey q ≤ pkey (lastChild p) → Covers p q

/-- … is false: face 0 and the world cell sort between the children `[1]` and `[2]` of quintant `(0,0)`. -/
theorem not_subtree_contiguous : ¬ subtree_contiguous_statement := by
  intro h
  have := h (deep 0 0 []) (face 0) (by decide) (by decide) (by decide) (by decide) (by decide)
  exact absurd this.1 (by decide)

/-- `digits_cases n` splits into the 29 cases `n = 0`, …, `n = 28` (`omega` must be able to show that there are no
others) and substitutes the value -/
macro "digits_cases " n:ident : tactic => `(tactic|
  rcases (show $n = 0 ∨ $n = 1 ∨ $n = 2 ∨ $n = 3 ∨ $n = 4 ∨ $n = 5 ∨ $n = 6 ∨ $n = 7 ∨ $n = 8 ∨ $n = 9 ∨ $n = 10 ∨
      $n = 11 ∨ $n = 12 ∨ $n = 13 ∨ $n = 14 ∨ $n = 15 ∨ $n = 16 ∨ $n = 17 ∨ $n = 18 ∨ $n = 19 ∨ $n = 20 ∨ $n = 21 ∨
      $n = 22 ∨ $n = 23 ∨ $n = 24 ∨ $n = 25 ∨ $n = 26 ∨ $n = 27 ∨ $n = 28 from (by omega)) with
    h|h|h|h|h|h|h|h|h|h|h|h|h|h|h|h|h|h|h|h|h|h|h|h|h|h|h|h|h <;> subst $n)

/-! non-vacuity: a resolution-3 cell between its children; the key of a face differs from its id -/
example : pkey (deep 7 3 [2, 0]) < pkey (deep 7 3 [2]) ∧ pkey (deep 7 3 [2]) < pkey (deep 7 3 [2, 3]) := by decide
example : hierarchyKey (enc (face 3)) = 15 * 2 ^ 58 + 2 ^ 57 := by decide +kernel
example : pkey (deep 0 0 [1]) < pkey (face 0) ∧ pkey (face 0) < pkey world ∧ pkey world < pkey (deep 0 0 [2]) := by
  decide

end A5.CompactKey
