import A5.Lemmas.CompactMerge
import A5.Lemmas.Codec
import A5.Lemmas.OutcomeLemmas
/-! # `compact` on the ids of arbitrary lists of cells (core-only)

`compact` replaces every id by the canonical id of the same cell (`canon_spec`, `compact_canon`), removes
duplicates, sorts by `hierarchyKey` — which yields the ids of a strictly key-sorted list of cells with the same
members, for *any* input: duplicates, overlapping cells, any order (`sorted_input`) — and runs the loop.
`compactLoop_spec` is the loop from well-formedness alone; `compact_enc_spec` is what follows for `compact` on the ids
of any well-formed cells, `compact_spec` adds "no complete sibling group" for non-overlapping input.

Namespace `CompactC08` holds what is proved for arbitrary, possibly overlapping cells (property C08), `CompactMax`
the list and key lemmas and what needs an antichain (property C10). -/
namespace A5
open Path

/-- what `compact` (`compact.rs`) does to every input id first: decode and encode again -/
abbrev canonId (c : Nat) : Outcome Nat := deserialize c >>= serialize

theorem canonId_cases (id : Nat) :
    (∃ p, WF p ∧ deserialize id = .ok (toCell p) ∧ canonId id = .ok (enc p)) ∨
    (deserialize id = .err .badOrigin ∧ canonId id = .err .badOrigin) := by
  unfold canonId
  rcases deserialize_cases id with ⟨c, hd⟩ | hd
  · have hv := deserialize_ok_valid' id c hd
    obtain ⟨p, hp, e⟩ := exists_path_of_layout _ (layout_enc c hv)
    have hc : toCell p = c := encNat_injective _ _ (valid_toCell hp) hv (by rewrite [encNat_toCell hp]; exact e)
    refine Or.inl ⟨p, hp, hc ▸ hd, ?_⟩
    rewrite [hd, e]
    exact serialize_valid c hv
  · refine Or.inr ⟨hd, ?_⟩
    rewrite [hd]; simp only [Outcome.bind_err]

theorem canonId_enc {p : Path} (hp : WF p) : canonId (enc p) = .ok (enc p) := by
  unfold canonId
  rewrite [deserialize_enc_path hp]
  exact serialize_toCell hp

end A5


namespace A5.CompactMax
open A5 A5.Path A5.Canonical

theorem insertByKey_perm (key : Nat → Nat) (x : Nat) (l : List Nat) : (insertByKey key x l).Perm (x :: l) := by
  induction l with
  | nil => exact List.Perm.refl _
  | cons y ys ih =>
    simp only [insertByKey]
    split
    · exact List.Perm.refl _
    · exact ((List.Perm.cons y ih).trans (List.Perm.swap x y ys))

theorem sortByKey_perm (key : Nat → Nat) (l : List Nat) : (sortByKey key l).Perm l := by
  induction l with
  | nil => exact List.Perm.refl _
  | cons a l ih => exact (insertByKey_perm key a _).trans (List.Perm.cons a ih)

theorem insertByKey_sorted (key : Nat → Nat) (x : Nat) (l : List Nat)
    (h : l.Pairwise (fun a b => key a ≤ key b)) : (insertByKey key x l).Pairwise (fun a b => key a ≤ key b) := by
  induction l with
  | nil => simp [insertByKey]
  | cons y ys ih =>
    have ⟨h1, h2⟩ := List.pairwise_cons.1 h
    simp only [insertByKey]
    split
    · rename_i hxy
      refine List.pairwise_cons.2 ⟨?_, h⟩
      intro z hz
      rcases List.mem_cons.1 hz with e | hz
      · rw [e]; exact hxy
      · exact Nat.le_trans hxy (h1 z hz)
    · rename_i hxy
      refine List.pairwise_cons.2 ⟨?_, ih h2⟩
      intro z hz
      rcases List.mem_cons.1 ((insertByKey_perm key x ys).mem_iff.1 hz) with e | hz
      · rw [e]; omega
      · exact h1 z hz

theorem sortByKey_sorted (key : Nat → Nat) (l : List Nat) : (sortByKey key l).Pairwise (fun a b => key a ≤ key b) := by
  induction l with
  | nil => exact List.Pairwise.nil
  | cons a l ih => exact insertByKey_sorted key a _ ih

theorem sortByKey_of_sorted (key : Nat → Nat) (l : List Nat) (h : l.Pairwise (fun a b => key a ≤ key b)) :
    sortByKey key l = l := by
  rw [sortByKey_eq_fast, sortByKeyFast_eq]
  exact List.mergeSort_of_pairwise (h.imp (by simp))

theorem eraseDups_spec : ∀ l : List Nat, l.eraseDups.Nodup ∧ l.eraseDups.length ≤ l.length
  | [] => by simp
  | a :: as => by
    have hf := List.length_filter_le (fun b => !b == a) as
    obtain ⟨h1, h2⟩ := eraseDups_spec (as.filter fun b => !b == a)
    rw [List.eraseDups_cons, List.nodup_cons]
    refine ⟨⟨?_, h1⟩, by simp only [List.length_cons]; omega⟩
    rw [List.mem_eraseDups, List.mem_filter]
    rintro ⟨_, h2⟩
    simp at h2
termination_by l => l.length
decreasing_by
  have := List.length_filter_le (fun b => !b == a) as
  simp only [List.length_cons]
  omega

theorem sortedByKey_iff {L : List Path} (hwf : ∀ p ∈ L, WF p) :
    ((L.map enc).map hierarchyKey).Pairwise (· < ·) ↔ KeySorted L := by
  have : (L.map enc).map hierarchyKey = L.map pkey := by
    rw [List.map_map]
    exact List.map_congr_left (fun p hp => hierarchyKey_enc (hwf p hp))
  rw [this, List.pairwise_map]
  rfl

theorem mem_map_enc_iff {L : List Path} (hL : ∀ q ∈ L, WF q) {p : Path} (hp : WF p) : enc p ∈ L.map enc ↔ p ∈ L :=
  ⟨fun h => by obtain ⟨q, hq, e⟩ := List.mem_map.1 h; rw [← enc_injective (hL q hq) hp e]; exact hq,
    List.mem_map_of_mem⟩

theorem layout_map_enc {L : List Path} (hL : ∀ q ∈ L, WF q) : ∀ x ∈ L.map enc, Layout x := by
  intro x hx
  obtain ⟨p, hp, rfl⟩ := List.mem_map.1 hx
  exact layout_enc_path (hL p hp)

theorem exists_paths (ids : List Nat) (h : ∀ x ∈ ids, ∃ p, WF p ∧ enc p = x) :
    ∃ U : List Path, U.map enc = ids ∧ ∀ p ∈ U, WF p := by
  induction ids with
  | nil => exact ⟨[], rfl, fun p hp => by simp at hp⟩
  | cons x xs ih =>
    obtain ⟨p, hp, rfl⟩ := h x (List.mem_cons_self ..)
    obtain ⟨U, rfl, hwf⟩ := ih (fun y hy => h y (List.mem_cons_of_mem _ hy))
    exact ⟨p :: U, rfl, List.forall_mem_cons.2 ⟨hp, hwf⟩⟩

theorem mapOutcome_canon (A : List Path) (hwf : ∀ p ∈ A, WF p) : mapOutcome canonId (A.map enc) = .ok (A.map enc) := by
  induction A with
  | nil => rfl
  | cons p A ih =>
    rewrite [List.map_cons, mapOutcome_cons, canonId_enc (hwf p (List.mem_cons_self ..)),
      ih (fun q hq => hwf q (List.mem_cons_of_mem _ hq))]
    rfl

theorem keySorted_nodup {L : List Path} (h : KeySorted L) : L.Nodup :=
  List.Pairwise.imp (fun {a b} (hlt : pkey a < pkey b) => fun e => by rw [e] at hlt; omega) h

theorem keySorted_ext {S T : List Path} (hS : KeySorted S) (hT : KeySorted T) (h : ∀ p, p ∈ S ↔ p ∈ T) : S = T :=
  List.Perm.eq_of_pairwise (le := fun a b => pkey a < pkey b) (fun a b _ _ h1 h2 => by omega) hS hT
    ((List.perm_ext_iff_of_nodup (keySorted_nodup hS) (keySorted_nodup hT)).2 h)

end A5.CompactMax

namespace A5.CompactC08
open A5 A5.Path A5.Canonical A5.CompactMax

/-- the loop invariant for arbitrary inputs: well-formed and strictly key-sorted (hence duplicate-free) -/
structure SInv (L : List Path) : Prop where
  wf : ∀ p ∈ L, WF p
  sorted : KeySorted L

theorem inv_iff {L : List Path} : Inv L ↔ SInv L ∧ Antichain L :=
  ⟨fun h => ⟨⟨h.wf, h.sorted⟩, h.anti⟩, fun h => ⟨h.1.wf, h.2, h.1.sorted⟩⟩

/-- what the loop, and `compact`, return for the cells `L`, overlapping or not -/
structure LoopResult (L R : List Path) : Prop where
  wf : ∀ p ∈ R, WF p
  length_le : R.length ≤ L.length
  sameRegion : SameRegion L R
  res_le : ∀ x ∈ R, ∃ p ∈ L, res x ≤ res p
  noHead : NoHead R

theorem LoopResult.fine {L R : List Path} (h : LoopResult L R) {r : Int} (hL : ∀ p ∈ L, res p ≤ r) :
    ∀ x ∈ R, res x ≤ r := by
  intro x hx
  obtain ⟨p, hp, hle⟩ := h.res_le x hx
  exact Int.le_trans hle (hL p hp)

theorem LoopResult.sameRegionAt {L R : List Path} (h : LoopResult L R) {r : Int} (hr : r ≤ 29)
    (hL : ∀ p ∈ L, res p ≤ r) : SameRegionAt r L R :=
  (sameRegion_iff_at r hr hL (h.fine hL)).1 h.sameRegion

/-- the fuel `length + 1` is never used up: every scan that reports a change shortens the list -/
theorem compactLoop_spec : ∀ (fuel : Nat) (L : List Path), (∀ p ∈ L, WF p) → L.length < fuel →
    ∃ R, compactLoop fuel (L.map enc) = .ok (R.map enc) ∧ LoopResult L R ∧
      (KeySorted L → KeySorted R ∧ (Antichain L → Antichain R)) := by
  intro fuel
  induction fuel with
  | zero => intro L _ h; omega
  | succ fuel ih =>
    intro L hwf hlen
    obtain ⟨hm, _, hlt⟩ := pscan_spec L 0 hwf
    simp only [compactLoop]
    rewrite [compactScan_enc L 0 hwf]
    simp only [Outcome.bind_ok]
    cases hch : (pscan L 0).2 with
    | true =>
      simp only [if_true]
      have hlt := hlt hch
      obtain ⟨R, h1, hr, hord⟩ := ih (pscan L 0).1 (hm.wf hwf) (by omega)
      refine ⟨R, h1, ⟨hr.wf, by have := hr.length_le; omega, sameRegion_trans hm.sameRegion hr.sameRegion, ?_,
        hr.noHead⟩, fun hs => ?_⟩
      · intro x hx
        obtain ⟨y, hy, hxy⟩ := hr.res_le x hx
        obtain ⟨p, hp, hyp⟩ := hm.res_le y hy
        exact ⟨p, hp, by omega⟩
      · obtain ⟨h8, h9⟩ := hord (hm.sorted hs)
        exact ⟨h8, fun ha => h9 (hm.antichain hwf hs ha)⟩
    | false =>
      simp only [Bool.false_eq_true, if_false]
      obtain ⟨hnh, he⟩ := noHead_of_pscan L hch
      rewrite [he]
      exact ⟨L, rfl, ⟨hwf, Nat.le_refl _, sameRegion_refl _, fun x hx => ⟨x, hx, Int.le_refl _⟩, hnh⟩,
        fun hs => ⟨hs, id⟩⟩

theorem sorted_input (A : List Path) (hwf : ∀ p ∈ A, WF p) :
    ∃ S, S.map enc = sortByKey hierarchyKey (A.map enc).eraseDups ∧ SInv S ∧ (∀ p, p ∈ S ↔ p ∈ A) := by
  have hperm := sortByKey_perm hierarchyKey (A.map enc).eraseDups
  have hmem : ∀ x, x ∈ sortByKey hierarchyKey (A.map enc).eraseDups ↔ x ∈ A.map enc := by
    intro x; rw [hperm.mem_iff, List.mem_eraseDups]
  obtain ⟨S, hS, hSwf⟩ := exists_paths (sortByKey hierarchyKey (A.map enc).eraseDups) (by
    intro x hx
    obtain ⟨p, hp, e⟩ := List.mem_map.1 ((hmem x).1 hx)
    exact ⟨p, hwf p hp, e⟩)
  have hiff : ∀ p, p ∈ S ↔ p ∈ A := fun p =>
    ⟨fun hp => by rw [← mem_map_enc_iff hwf (hSwf p hp), ← hmem, ← hS]; exact List.mem_map_of_mem hp,
      fun hp => by rw [← mem_map_enc_iff hSwf (hwf p hp), hS, hmem]; exact List.mem_map_of_mem hp⟩
  refine ⟨S, hS, ⟨hSwf, ?_⟩, hiff⟩
  -- strictly sorted: sorted and duplicate-free, and the key is injective
  have hsorted := sortByKey_sorted hierarchyKey (A.map enc).eraseDups
  have hnodup : (sortByKey hierarchyKey (A.map enc).eraseDups).Nodup :=
    hperm.nodup_iff.2 (eraseDups_spec _).1
  rw [← hS] at hsorted hnodup
  have h1 : S.Pairwise (fun a b => hierarchyKey (enc a) ≤ hierarchyKey (enc b)) :=
    (List.pairwise_map (f := enc) (R := fun a b => hierarchyKey a ≤ hierarchyKey b)).1 hsorted
  have h2 : S.Pairwise (fun a b => enc a ≠ enc b) :=
    (List.pairwise_map (f := enc) (R := fun a b => a ≠ b)).1 hnodup
  refine List.Pairwise.imp_of_mem ?_ (h1.and h2)
  intro a b haS hbS ⟨hle, hne⟩
  rw [hierarchyKey_enc (hSwf a haS), hierarchyKey_enc (hSwf b hbS)] at hle
  have : pkey a ≠ pkey b := fun e => hne (by rw [pkey_inj (hSwf a haS) (hSwf b hbS) e])
  omega

theorem compact_enc_eq (A : List Path) (hwf : ∀ p ∈ A, WF p) :
    ∃ S, SInv S ∧ (∀ p, p ∈ S ↔ p ∈ A) ∧ S.length ≤ A.length ∧
      compact (A.map enc) = compactLoop (S.length + 1) (S.map enc) := by
  obtain ⟨S, hS, hSi, hSm⟩ := sorted_input A hwf
  have hlen : S.length = (A.map enc).eraseDups.length := by
    rw [← (sortByKey_perm hierarchyKey _).length_eq, ← hS, List.length_map]
  refine ⟨S, hSi, hSm, ?_, ?_⟩
  · have := (eraseDups_spec (A.map enc)).2
    rw [List.length_map] at this
    omega
  · cases A with
    | nil => rw [List.eq_nil_of_length_eq_zero hlen]; rfl
    | cons a A =>
      unfold compact
      rewrite [if_neg (by simp), mapOutcome_canon _ hwf]
      simp only [Outcome.bind_ok]
      rw [hlen, hS]

theorem compact_enc_spec (A : List Path) (hwf : ∀ p ∈ A, WF p) :
    ∃ R, compact (A.map enc) = .ok (R.map enc) ∧ LoopResult A R ∧ KeySorted R ∧ (Antichain A → Antichain R) := by
  obtain ⟨S, hSi, hSm, hle, hc⟩ := compact_enc_eq A hwf
  obtain ⟨R, h1, hr, hord⟩ := compactLoop_spec (S.length + 1) S hSi.wf (by omega)
  obtain ⟨hs, ha⟩ := hord hSi.sorted
  refine ⟨R, hc.trans h1, ⟨hr.wf, by have := hr.length_le; omega,
    sameRegion_trans (sameRegion_of_mem_iff (fun p => (hSm p).symm)) hr.sameRegion, ?_, hr.noHead⟩, hs,
    fun h => ha (antichain_of_subset (fun x hx => (hSm x).1 hx) h)⟩
  intro x hx
  obtain ⟨p, hp, hxp⟩ := hr.res_le x hx
  exact ⟨p, (hSm p).1 hp, hxp⟩

theorem compact_enc_congr (A B : List Path) (hA : ∀ p ∈ A, WF p) (hB : ∀ p ∈ B, WF p) (h : ∀ p, p ∈ A ↔ p ∈ B) :
    compact (A.map enc) = compact (B.map enc) := by
  obtain ⟨S, hSi, hSm, _, hS⟩ := compact_enc_eq A hA
  obtain ⟨T, hTi, hTm, _, hT⟩ := compact_enc_eq B hB
  rw [hS, hT, keySorted_ext hSi.sorted hTi.sorted (fun p => (hSm p).trans ((h p).trans (hTm p).symm))]

theorem canon_spec (xs : List Nat) (hv : ∀ x ∈ xs, ∃ c, deserialize x = .ok c) :
    ∃ A : List Path, (∀ p ∈ A, WF p) ∧ mapOutcome canonId xs = .ok (A.map enc) ∧
      xs.map deserialize = A.map (fun p => .ok (toCell p)) := by
  induction xs with
  | nil => exact ⟨[], fun p hp => by simp at hp, rfl, rfl⟩
  | cons x xs ih =>
    obtain ⟨c, hc⟩ := hv x (List.mem_cons_self ..)
    obtain ⟨A, hA, h1, h2⟩ := ih (fun y hy => hv y (List.mem_cons_of_mem _ hy))
    rcases canonId_cases x with ⟨p, hp, hd, hx⟩ | ⟨he, _⟩
    · refine ⟨p :: A, List.forall_mem_cons.2 ⟨hp, hA⟩, ?_, ?_⟩
      · rewrite [mapOutcome_cons, hx, h1]; rfl
      · simp only [List.map_cons]
        rewrite [h2, hd]; rfl
    · rw [he] at hc; cases hc

theorem compact_canon (xs : List Nat) (A : List Path) (hA : ∀ p ∈ A, WF p)
    (hc : mapOutcome canonId xs = .ok (A.map enc)) : compact xs = compact (A.map enc) := by
  have he : xs.isEmpty = (A.map enc).isEmpty := by
    rw [Bool.eq_iff_iff, List.isEmpty_iff_length_eq_zero, List.isEmpty_iff_length_eq_zero,
      mapOutcome_ok_length _ xs _ hc]
  unfold compact
  rw [hc, mapOutcome_canon A hA, he]

end A5.CompactC08

namespace A5.CompactMax
open A5 A5.Path A5.Canonical A5.CompactC08

theorem compact_spec (A : List Path) (hwf : ∀ p ∈ A, WF p) (ha : Antichain A) :
    ∃ R, compact (A.map enc) = .ok (R.map enc) ∧ Inv R ∧ SameRegion A R ∧ NoCompleteGroup R := by
  obtain ⟨R, h1, hr, hs, hanti⟩ := compact_enc_spec A hwf
  have hi : Inv R := ⟨hr.wf, hanti ha, hs⟩
  exact ⟨R, h1, hi, hr.sameRegion, noCompleteGroup_of_noHead hi hr.noHead⟩

/-- `compact` returns such a list unchanged: its result is a list of the same kind for the same region, and there is only one -/
theorem compact_fixed (R : List Path) (hi : Inv R) (hm : NoCompleteGroup R) : compact (R.map enc) = .ok (R.map enc) := by
  obtain ⟨S, h1, h2, h3, h4⟩ := compact_spec R hi.wf hi.anti
  rw [h1, keySorted_ext h2.sorted hi.sorted
    (canonical_unique h2.wf hi.wf h2.anti hi.anti h4 hm (sameRegion_symm h3))]

end A5.CompactMax
