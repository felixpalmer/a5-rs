import A5.Lemmas.CompactScan
/-! # What one scan does to a key-sorted antichain (core-only)

The scan output is `Merged` from its input (`pscan_spec`); the region, strict key order and the antichain property
survive a merge and no resolution gets finer.  In a key-sorted antichain a complete sibling group is contiguous, in
child order (`siblings_adjacent`), so a scan that finds no head (`NoHead`) leaves no complete group at all. -/
namespace A5.CompactMax
open A5 A5.Path A5.Canonical
open A5.Order (child)

def KeySorted (L : List Path) : Prop := L.Pairwise (fun a b => pkey a < pkey b)

/-- the loop invariant of `compact`: well-formed cells, pairwise non-overlapping, strictly key-sorted -/
structure Inv (L : List Path) : Prop where
  wf : ∀ p ∈ L, WF p
  anti : Antichain L
  sorted : KeySorted L

theorem pscan_nohead {p : Path} {rest : List Path} (h : ¬ isHead p rest = true) :
    pscan (p :: rest) 0 = (p :: (pscan rest 0).1, (pscan rest 0).2) := by
  simp only [pscan]
  rw [if_neg h]

/-- `L'` arises from `L` by replacing some disjoint *contiguous* complete sibling groups by their parents -/
inductive Merged : List Path → List Path → Prop
  | nil : Merged [] []
  | keep (p : Path) {L L' : List Path} : Merged L L' → Merged (p :: L) (p :: L')
  | merge (P : Path) {L L' : List Path} : WF P → res P ≤ 28 → Merged L L' → Merged (children P ++ L) (P :: L')

theorem pscan_spec : ∀ (L : List Path) (s : Nat), (∀ p ∈ L, WF p) →
    Merged (L.drop s) (pscan L s).1 ∧ (pscan L s).1.length ≤ L.length - s ∧
      ((pscan L s).2 = true → (pscan L s).1.length < L.length - s)
  | [], s, _ => by
    have e : pscan [] s = ([], false) := by cases s <;> rfl
    rw [e, List.drop_nil]
    exact ⟨Merged.nil, Nat.zero_le _, fun h => by cases h⟩
  | p :: rest, s + 1, hL => by
    rw [List.length_cons, Nat.add_sub_add_right]
    exact pscan_spec rest s (fun q hq => hL q (List.mem_cons_of_mem _ hq))
  | p :: rest, 0, hL => by
    have hp : WF p := hL p (List.mem_cons_self ..)
    have hrest : ∀ q ∈ rest, WF q := fun q hq => hL q (List.mem_cons_of_mem _ hq)
    by_cases hh : isHead p rest = true
    · obtain ⟨hw, post, hpost⟩ := of_decide_eq_true hh
      have hsibs : rest = sibs (parent p) 1 (fan (res (parent p)) - 1) ++ post := by
        rw [children_eq_cons, List.cons_append] at hpost
        exact (List.cons.inj hpost).2.symm
      -- the scan skips the other siblings and goes on with `post`
      obtain ⟨i1, i2, _⟩ := pscan_spec rest (fan (res (parent p)) - 1) hrest
      have hd : rest.drop (fan (res (parent p)) - 1) = post := by rw [hsibs, List.drop_left' (length_sibs _ _ _)]
      have hlen : rest.length = fan (res (parent p)) - 1 + post.length := by
        rw [hsibs, List.length_append, length_sibs]
      have h4 := (Order.fan_le (res (parent p))).1
      have e : pscan (p :: rest) 0 = (parent p :: (pscan rest (fan (res (parent p)) - 1)).1, true) := by
        simp only [pscan]
        rw [if_pos hh]
      rw [hd] at i1
      rw [e]
      refine ⟨?_, ?_, fun _ => ?_⟩
      · show Merged (p :: rest) _
        rw [← hpost]
        exact Merged.merge _ (wf_parent hp) (res_parent_le hp hw) i1
      · simp only [List.length_cons]; omega
      · simp only [List.length_cons]; omega
    · obtain ⟨i1, i2, i3⟩ := pscan_spec rest 0 hrest
      rw [pscan_nohead hh]
      refine ⟨Merged.keep p i1, ?_, fun h => ?_⟩
      · simp only [List.length_cons]; omega
      · have := i3 h; simp only [List.length_cons]; omega

theorem Merged.mem {L L' : List Path} (h : Merged L L') :
    ∀ x ∈ L', x ∈ L ∨ (WF x ∧ res x ≤ 28 ∧ ∀ c ∈ children x, c ∈ L) := by
  induction h with
  | nil => intro x hx; simp at hx
  | keep p _ ih =>
    intro x hx
    rcases List.mem_cons.1 hx with rfl | hx
    · exact Or.inl (List.mem_cons_self ..)
    · rcases ih x hx with h | ⟨h1, h2, h3⟩
      · exact Or.inl (List.mem_cons_of_mem _ h)
      · exact Or.inr ⟨h1, h2, fun c hc => List.mem_cons_of_mem _ (h3 c hc)⟩
  | merge P hP hr _ ih =>
    intro x hx
    rcases List.mem_cons.1 hx with rfl | hx
    · exact Or.inr ⟨hP, hr, fun c hc => List.mem_append_left _ hc⟩
    · rcases ih x hx with h | ⟨h1, h2, h3⟩
      · exact Or.inl (List.mem_append_right _ h)
      · exact Or.inr ⟨h1, h2, fun c hc => List.mem_append_right _ (h3 c hc)⟩

theorem Merged.res_le {L L' : List Path} (h : Merged L L') : ∀ x ∈ L', ∃ p ∈ L, res x ≤ res p := by
  intro x hx
  rcases h.mem x hx with h | ⟨_, _, h3⟩
  · exact ⟨x, h, Int.le_refl _⟩
  · exact ⟨_, h3 _ (child_zero_mem x), by rewrite [res_children (child_zero_mem x)]; omega⟩

theorem Merged.wf {L L' : List Path} (h : Merged L L') (hL : ∀ p ∈ L, WF p) : ∀ p ∈ L', WF p := by
  intro p hp
  rcases h.mem p hp with h | ⟨h, _, _⟩
  · exact hL p h
  · exact h

theorem Merged.sameRegion {L L' : List Path} (h : Merged L L') : SameRegion L L' := by
  induction h with
  | nil => exact sameRegion_refl _
  | keep p _ ih =>
    intro q hq hq29
    rw [covers_cons, covers_cons, ih q hq hq29]
  | merge P hP hr _ ih =>
    intro q hq hq29
    rw [covers_append, covers_cons, ih q hq hq29, covers_children hr hq hq29]

theorem pkey_child_bounds {P c : Path} (hP : WF P) (hc : c ∈ children P) :
    pkey (child P 0) ≤ pkey c ∧ pkey c ≤ pkey (child P (fan (res P) - 1)) := by
  obtain ⟨j, hj, rfl⟩ := (Order.mem_children_iff _ _).1 hc
  constructor
  · by_cases h0 : j = 0
    · subst h0; exact Nat.le_refl _
    · exact Nat.le_of_lt (pkey_child_lt hP (by omega))
  · by_cases h0 : j = fan (res P) - 1
    · subst h0; exact Nat.le_refl _
    · exact Nat.le_of_lt (pkey_child_lt hP (by omega))

theorem Merged.key_gt {L L' : List Path} (h : Merged L L') (b : Nat) (hb : ∀ y ∈ L, b < pkey y) :
    ∀ x ∈ L', b < pkey x := by
  intro x hx
  rcases h.mem x hx with h | ⟨h1, h2, h3⟩
  · exact hb x h
  · have := hb _ (h3 _ (child_zero_mem x))
    have := (pkey_parent_between h1 h2).1
    omega

theorem keySorted_children {P : Path} (hP : WF P) : KeySorted (children P) := by
  rw [Order.children_eq_map_child]
  unfold KeySorted
  rw [List.pairwise_map]
  exact List.Pairwise.imp (fun h => pkey_child_lt hP h) List.pairwise_lt_range

/-- why `compact.rs` need not sort again between passes -/
theorem Merged.sorted {L L' : List Path} (h : Merged L L') (hs : KeySorted L) : KeySorted L' := by
  induction h with
  | nil => exact hs
  | keep p hm ih =>
    have ⟨h1, h2⟩ := List.pairwise_cons.1 hs
    exact List.pairwise_cons.2 ⟨hm.key_gt _ h1, ih h2⟩
  | merge P hP hr hm ih =>
    obtain ⟨_, h2, h3⟩ := List.pairwise_append.1 hs
    refine List.pairwise_cons.2 ⟨?_, ih h2⟩
    intro x hx
    have := hm.key_gt _ (h3 _ (child_last_mem P)) x hx
    have := (pkey_parent_between hP hr).2
    omega

theorem Merged.antichain {L L' : List Path} (h : Merged L L') (hwf : ∀ p ∈ L, WF p) (hs : KeySorted L)
    (ha : Antichain L) : Antichain L' := by
  -- a cell comparable with a new parent is that parent or comparable with one of its children (`comparable_child`),
  -- which were members of the old antichain; strict key order keeps a cell from occurring a second time
  induction h with
  | nil => exact ha
  | @keep p L L' hm ih =>
    have ⟨hk, hs'⟩ := List.pairwise_cons.1 hs
    have hpp : p ∈ p :: L := List.mem_cons_self ..
    have inr : ∀ {z}, z ∈ L → z ∈ p :: L := fun h => List.mem_cons_of_mem _ h
    refine antichain_cons (ih (fun q hq => hwf q (inr hq)) hs' (antichain_of_subset (fun _ => inr) ha))
      fun y hy hcomp => ?_
    rcases hm.mem y hy with hyL | ⟨_, _, hych⟩
    · exact ha.eq_of_comparable hpp (inr hyL) hcomp
    · rcases comparable_child (hwf p hpp) hcomp.symm with e | ⟨c, hc, hcp⟩
      · exact e
      · have hcL := hych c hc
        have hlt := hk c hcL
        rw [ha.eq_of_comparable (inr hcL) hpp hcp] at hlt
        omega
  | @merge P L L' hP hr hm ih =>
    obtain ⟨_, hs', hk⟩ := List.pairwise_append.1 hs
    have inl : ∀ {z}, z ∈ children P → z ∈ children P ++ L := fun h => List.mem_append_left _ h
    have inr : ∀ {z}, z ∈ L → z ∈ children P ++ L := fun h => List.mem_append_right _ h
    have hwf' : ∀ q ∈ L, WF q := fun q hq => hwf q (inr hq)
    refine antichain_cons (ih hwf' hs' (antichain_of_subset (fun _ => inr) ha)) fun y hy hcomp => ?_
    have key : ∀ x ∈ L, ¬ (Below P x ∨ Below x P) := by
      intro x hx hcomp
      rcases comparable_child (hwf' x hx) hcomp with e | ⟨c, hc, hcx⟩
      · exact not_mem_of_child_mem ha (child_zero_mem P) (inl (child_zero_mem P)) (inr (e ▸ hx))
      · have hlt := hk c hc x hx
        rw [ha.eq_of_comparable (inl hc) (inr hx) hcx] at hlt
        omega
    rcases hm.mem y hy with hyL | ⟨_, _, hych⟩
    · exact absurd hcomp (key y hyL)
    · rcases comparable_child hP hcomp.symm with e | ⟨c, hc, hcP⟩
      · exact e
      · exact absurd hcP.symm (key c (hych c hc))

theorem Merged.inv {L L' : List Path} (h : Merged L L') (hi : Inv L) : Inv L' :=
  ⟨h.wf hi.wf, h.antichain hi.wf hi.sorted hi.anti, h.sorted hi.sorted⟩

theorem mem_children_of_key_between {L : List Path} (hwf : ∀ p ∈ L, WF p) (ha : Antichain L) {P : Path}
    (hP : WF P) (hr : res P ≤ 28) (hall : ∀ c ∈ children P, c ∈ L) {x : Path} (hx : x ∈ L)
    (h1 : pkey (child P 0) ≤ pkey x) (h2 : pkey x ≤ pkey (child P (fan (res P) - 1))) : x ∈ children P := by
  have hxwf := hwf x hx
  rcases comparable_child hxwf ((pkey_between hP hr hxwf h1 h2).imp_right And.right) with e | ⟨c, hc, hcx⟩
  · exact absurd (e ▸ hx) (not_mem_of_child_mem ha (child_zero_mem P) (hall _ (child_zero_mem P)))
  · rw [← ha.eq_of_comparable (hall c hc) hx hcx]; exact hc

theorem sorted_prefix {α : Type} (key : α → Nat) : ∀ (M L : List α),
    M.Pairwise (fun a b => key a < key b) → L.Pairwise (fun a b => key a < key b) →
    (∀ m ∈ M, m ∈ L) → (∀ x ∈ L, (∃ m ∈ M, key x ≤ key m) → x ∈ M) → M <+: L := by
  intro M
  induction M with
  | nil => intro L _ _ _ _; exact List.nil_prefix
  | cons m₁ M ih =>
    intro L hM hL hsub hconv
    have ⟨hM1, hM'⟩ := List.pairwise_cons.1 hM
    have hm₁L : m₁ ∈ L := hsub m₁ (List.mem_cons_self ..)
    cases L with
    | nil => simp at hm₁L
    | cons b L =>
      have ⟨hL1, hL'⟩ := List.pairwise_cons.1 hL
      -- the least member of `L` belongs to `M`, so it is the least member of `M`
      have hb1 : key b ≤ key m₁ := by
        rcases List.mem_cons.1 hm₁L with e | h
        · rw [e]; exact Nat.le_refl _
        · exact Nat.le_of_lt (hL1 _ h)
      have hbe : b = m₁ := by
        rcases List.mem_cons.1 (hconv b (List.mem_cons_self ..) ⟨m₁, List.mem_cons_self .., hb1⟩) with e | h
        · exact e
        · have := hM1 _ h; omega
      subst hbe
      refine List.cons_prefix_cons.2 ⟨rfl, ih L hM' hL' (fun m hm => ?_) (fun x hx ⟨m, hm, hle⟩ => ?_)⟩
      · rcases List.mem_cons.1 (hsub m (List.mem_cons_of_mem _ hm)) with e | h
        · have := hM1 _ hm; rw [e] at this; omega
        · exact h
      · rcases List.mem_cons.1 (hconv x (List.mem_cons_of_mem _ hx) ⟨m, List.mem_cons_of_mem _ hm, hle⟩) with e | h
        · have := hL1 _ hx; rw [e] at this; omega
        · exact h

theorem siblings_adjacent {L : List Path} (hi : Inv L) {P : Path} (hP : WF P) (hr : res P ≤ 28)
    (hall : ∀ c ∈ children P, c ∈ L) : ∃ pre post, L = pre ++ children P ++ post := by
  obtain ⟨pre, post₁, hL⟩ := List.append_of_mem (hall _ (child_zero_mem P))
  obtain ⟨_, hs2, hs3⟩ := List.pairwise_append.1 (hL ▸ hi.sorted : KeySorted (pre ++ child P 0 :: post₁))
  -- from the first child on, `L` starts with the children: they are the members with the smallest keys
  obtain ⟨post, hpost⟩ := sorted_prefix pkey (children P) (child P 0 :: post₁) (keySorted_children hP) hs2
    (fun m hm => by
      have hmL := hall m hm
      rw [hL] at hmL
      rcases List.mem_append.1 hmL with h | h
      · have := hs3 m h _ (List.mem_cons_self ..)
        have := (pkey_child_bounds hP hm).1
        omega
      · exact h)
    (fun x hx ⟨m, hm, hle⟩ => by
      have hlo : pkey (child P 0) ≤ pkey x := by
        rcases List.mem_cons.1 hx with e | h
        · rw [e]; exact Nat.le_refl _
        · exact Nat.le_of_lt ((List.pairwise_cons.1 hs2).1 x h)
      have := (pkey_child_bounds hP hm).2
      exact mem_children_of_key_between hi.wf hi.anti hP hr hall
        (by rw [hL]; exact List.mem_append_right _ hx) hlo (by omega))
  exact ⟨pre, post, by rw [hL, ← hpost, List.append_assoc]⟩

/-- no position of `L` is the head of a complete sibling run: what a scan that reports no change has found -/
def NoHead (L : List Path) : Prop := ∀ pre p rest, L = pre ++ p :: rest → isHead p rest = false

theorem noHead_of_pscan (L : List Path) (h : (pscan L 0).2 = false) : NoHead L ∧ (pscan L 0).1 = L := by
  induction L with
  | nil => exact ⟨fun pre p rest e => by simp at e, rfl⟩
  | cons p rest ih =>
    by_cases hh : isHead p rest = true
    · simp only [pscan] at h
      rw [if_pos hh] at h
      cases h
    · have hh' := Bool.eq_false_iff.2 hh
      rw [pscan_nohead hh] at h ⊢
      obtain ⟨i1, i2⟩ := ih h
      refine ⟨?_, by rw [i2]⟩
      intro pre q rest' e
      cases pre with
      | nil => simp only [List.nil_append] at e; injection e with e1 e2; rw [← e1, ← e2]; exact hh'
      | cons a pre => rw [List.cons_append] at e; injection e with _ e2; exact i1 pre q rest' e2

theorem noCompleteGroup_of_noHead {L : List Path} (hi : Inv L) (h : NoHead L) : NoCompleteGroup L := by
  rintro ⟨P, hP, hr, hall⟩
  obtain ⟨pre, post, hL⟩ := siblings_adjacent hi hP hr hall
  have hpar : parent (child P 0) = P := (parent_unique (child_zero_mem P)).symm
  have hhead : isHead (child P 0) (sibs P 1 (fan (res P) - 1) ++ post) = true :=
    decide_eq_true ⟨(by cases P <;> intro e <;> cases e), post, (by rw [hpar, children_eq_cons, List.cons_append])⟩
  have := h pre (child P 0) (sibs P 1 (fan (res P) - 1) ++ post) (by
    rw [hL, children_eq_cons]; simp only [List.append_assoc, List.cons_append])
  rw [this] at hhead
  exact Bool.false_ne_true hhead

end A5.CompactMax
