import A5.Lemmas.CompactKey
/-! # One scan of `compact`: the group test and its path-level reading (core-only)

On the id of a cell `p` followed by **arbitrary** ids, `groupAt` never panics and answers `true` iff `p` is not the
world cell and the ids of all children of `parent p`, in id order, come next (`groupAt_enc`).  `pscan` is the
model's `compactScan` on paths, with `isHead` in the place of `groupAt`; on the ids of well-formed cells
`compactScan` never fails and computes exactly `pscan` (`compactScan_enc`). -/
namespace A5.CompactMax
open A5 A5.Path A5.Canonical
open A5.Order (child stride)

theorem siblingsFollow_spec (cell stride : Nat) : ∀ (n j : Nat) (rest : List Nat), n ≤ rest.length →
    (∀ i ∈ List.range' j n, cell + i * stride < 2 ^ 64) →
    ∃ b, siblingsFollow cell stride n j rest = .ok b ∧
      (b = true ↔ (List.range' j n).map (fun i => cell + i * stride) <+: rest) := by
  intro n
  induction n with
  | zero => intro j rest _ _; exact ⟨true, rfl, by simp⟩
  | succ n ih =>
    intro j rest hlen hb
    cases rest with
    | nil => simp only [List.length_nil] at hlen; omega
    | cons x xs =>
      rewrite [List.range'_succ] at hb ⊢
      have h0 := hb j List.mem_cons_self
      simp only [siblingsFollow]
      rewrite [u64Mul_ok _ _ (by omega), Outcome.bind_ok, u64Add_ok _ _ h0, Outcome.bind_ok, List.map_cons,
        List.cons_prefix_cons]
      by_cases hx : x = cell + j * stride
      · rewrite [if_neg (by simpa using hx)]
        obtain ⟨b, hb1, hb2⟩ := ih (j + 1) xs (by simpa using hlen) (fun i hi => hb i (List.mem_cons_of_mem _ hi))
        exact ⟨b, hb1, hb2.trans ⟨fun h => ⟨hx.symm, h⟩, fun h => h.2⟩⟩
      · rewrite [if_pos hx]
        exact ⟨false, rfl, ⟨fun h => (by cases h), fun h => absurd h.1.symm hx⟩⟩

/-- `groupAt` in terms of the closed forms of its ingredients -/
theorem groupAt_of (c : Nat) (rest : List Nat) (r : Int) (k stride : Nat) (b0 : Bool)
    (hr : getResolution c = r) (hr0 : 0 ≤ r) (hk : expectedChildren r = k) (hk1 : 1 ≤ k)
    (hfc : isFirstChild c r = .ok b0) (hst : getStride r = .ok stride)
    (hbound : b0 = true → ∀ i < k, c + i * stride < 2 ^ 64) :
    ∃ b, groupAt c rest = .ok (b, k) ∧
      (b = true ↔ b0 = true ∧ (List.range k).map (fun i => c + i * stride) <+: c :: rest) := by
  obtain ⟨m, rfl⟩ : ∃ m, k = m + 1 := ⟨k - 1, by omega⟩
  have hrange : (List.range (m + 1)).map (fun i => c + i * stride) =
      c :: (List.range' 1 m).map (fun i => c + i * stride) := by
    rw [List.range_eq_range', List.range'_succ, List.map_cons, Nat.zero_mul, Nat.add_zero]
  simp only [groupAt, hr, hk]
  rewrite [if_neg (by omega)]
  by_cases hlen : m + 1 ≤ rest.length + 1
  · rewrite [if_pos hlen, hfc, Outcome.bind_ok]
    cases b0 with
    | false => exact ⟨false, rfl, ⟨fun h => (by cases h), fun h => (by cases h.1)⟩⟩
    | true =>
      simp only [if_true]
      rewrite [hst, Outcome.bind_ok]
      obtain ⟨b, hb1, hb2⟩ := siblingsFollow_spec c stride m 1 rest (by omega)
        (fun i hi => hbound rfl i (by have := List.mem_range'_1.1 hi; omega))
      rewrite [Nat.add_sub_cancel, hb1, Outcome.bind_ok]
      refine ⟨b, rfl, hb2.trans ?_⟩
      rewrite [hrange, List.cons_prefix_cons]
      exact ⟨fun h => ⟨trivial, rfl, h⟩, fun h => h.2.2⟩
  · rewrite [if_neg hlen]
    refine ⟨false, rfl, ⟨fun h => (by cases h), fun h => ?_⟩⟩
    have := h.2.length_le
    rewrite [List.length_map, List.length_range, List.length_cons] at this
    omega

theorem wf_child {P : Path} (hP : WF P) (hr : res P ≤ 28) {j : Nat} (hj : j < fan (res P)) : WF (child P j) :=
  wf_children hP (by omega) (Order.child_mem_children P j hj)

theorem expectedChildren_succ (P : Path) : expectedChildren (res P + 1) = fan (res P) := by
  cases P with
  | world => rfl
  | face f => rfl
  | deep f k ds =>
    rw [Order.fan_deep]
    exact if_pos (show res (deep f k ds) + 1 ≥ 2 by simp only [res]; omega)

theorem children_enc {P : Path} (h28 : res P ≤ 28) :
    (children P).map enc = (List.range (fan (res P))).map (fun i => enc (child P 0) + i * stride (res P + 1)) := by
  rw [Order.children_eq_map_child, List.map_map]
  exact List.map_congr_left (fun j _ => Order.enc_child_stride P h28 j)

theorem groupAt_child {P : Path} (hP : WF P) (h28 : res P ≤ 28) {j : Nat} (hj : j < fan (res P)) (rest : List Nat) :
    ∃ b, groupAt (enc (child P j)) rest = .ok (b, fan (res P)) ∧
      (b = true ↔ (children P).map enc <+: enc (child P j) :: rest) := by
  have hwc := wf_child hP h28 hj
  have hrp := res_ge P
  have hj0 : (j == 0) = true ↔ j = 0 := beq_iff_eq
  obtain ⟨b, hb, hb'⟩ := groupAt_of (enc (child P j)) rest (res P + 1) (fan (res P)) (stride (res P + 1)) (j == 0)
    (by rw [getResolution_enc_path hwc, Order.res_child]) (by omega) (expectedChildren_succ P) (fan_pos _)
    (Order.isFirstChild_child P h28 j hj) (Order.getStride_eq _ (by omega) (by omega))
    (fun h i hi => by
      rw [hj0.1 h, ← Order.enc_child_stride P h28 i]
      exact enc_lt (wf_child hP h28 hi))
  refine ⟨b, hb, hb'.trans ?_⟩
  rw [children_enc h28, hj0]
  constructor
  · rintro ⟨rfl, h⟩; exact h
  · intro h
    have h0 : enc (child P 0) = enc (child P j) := by
      have e : fan (res P) = (fan (res P) - 1) + 1 := by omega
      rw [e, List.range_succ_eq_map, List.map_cons, List.cons_prefix_cons] at h
      simpa using h.1
    have : 0 = j := Order.child_inj P _ _ (enc_injective (wf_child hP h28 (by omega)) hwc h0)
    subst this
    exact ⟨rfl, h⟩

theorem res_parent_le {p : Path} (hp : WF p) (hw : p ≠ world) : res (parent p) ≤ 28 := by
  have := res_children (mem_children_parent hp hw)
  have := res_le hp
  omega

theorem groupAt_enc {p : Path} (hp : WF p) (rest : List Nat) :
    ∃ b k, groupAt (enc p) rest = .ok (b, k) ∧ (p ≠ world → k = fan (res (parent p))) ∧
      (b = true ↔ p ≠ world ∧ (children (parent p)).map enc <+: enc p :: rest) := by
  by_cases hw : p = world
  · subst hw
    have : getResolution (enc world) = -1 := getResolution_enc_path (p := world) trivial
    refine ⟨false, 0, ?_, fun h => absurd rfl h, ⟨fun h => (by cases h), fun h => absurd rfl h.1⟩⟩
    simp only [groupAt, this]
    rfl
  · have hc := mem_children_parent hp hw
    obtain ⟨j, hj, hpj⟩ := (Order.mem_children_iff _ _).1 hc
    obtain ⟨b, hb, hb'⟩ := groupAt_child (wf_parent hp) (res_parent_le hp hw) hj rest
    rw [← hpj] at hb hb'
    exact ⟨b, _, hb, fun _ => rfl, hb'.trans ⟨fun h => ⟨hw, h⟩, fun h => h.2⟩⟩

theorem map_enc_injective : ∀ (R S : List Path), (∀ p ∈ R, WF p) → (∀ p ∈ S, WF p) → R.map enc = S.map enc → R = S := by
  intro R
  induction R with
  | nil => intro S _ _ h; cases S with
    | nil => rfl
    | cons _ _ => simp at h
  | cons a R ih =>
    intro S hR hS h
    cases S with
    | nil => simp at h
    | cons b S =>
      simp only [List.map_cons] at h
      injection h with h1 h2
      rw [enc_injective (hR a (List.mem_cons_self ..)) (hS b (List.mem_cons_self ..)) h1,
        ih S (fun p hp => hR p (List.mem_cons_of_mem _ hp)) (fun p hp => hS p (List.mem_cons_of_mem _ hp)) h2]

theorem map_enc_prefix_iff {A B : List Path} (hA : ∀ p ∈ A, WF p) (hB : ∀ p ∈ B, WF p) :
    A.map enc <+: B.map enc ↔ A <+: B := by
  refine ⟨?_, fun h => h.map enc⟩
  rintro ⟨t, ht⟩
  obtain ⟨l₁, l₂, rfl, h1, _⟩ := List.map_eq_append_iff.1 ht.symm
  rw [map_enc_injective A l₁ hA (fun p hp => hB p (List.mem_append_left _ hp)) h1.symm]
  exact List.prefix_append _ _

/-- the siblings number `j, j+1, …, j+n-1` below `P` -/
def sibs (P : Path) (j n : Nat) : List Path := (List.range' j n).map (child P)

theorem sibs_zero (P : Path) (j : Nat) : sibs P j 0 = [] := rfl

theorem sibs_succ (P : Path) (j n : Nat) : sibs P j (n + 1) = child P j :: sibs P (j + 1) n := by
  simp only [sibs, List.range'_succ, List.map_cons]

theorem length_sibs (P : Path) (j n : Nat) : (sibs P j n).length = n := by
  simp only [sibs, List.length_map, List.length_range']

theorem children_eq_cons (P : Path) : children P = child P 0 :: sibs P 1 (fan (res P) - 1) := by
  have e : fan (res P) = (fan (res P) - 1) + 1 := by have := fan_pos (res P); omega
  rw [Order.children_eq_map_child, List.range_eq_range', e, ← sibs, sibs_succ]
  simp only [Nat.add_sub_cancel, Nat.zero_add]

/-- the path-level reading of `groupAt`: the list `p :: rest` starts with all children of the parent of `p`, in
order -/
def isHead (p : Path) (rest : List Path) : Bool := decide (p ≠ world ∧ children (parent p) <+: p :: rest)

theorem groupAt_map_enc {p : Path} (hp : WF p) (rest : List Path) (hrest : ∀ q ∈ rest, WF q) :
    ∃ k, groupAt (enc p) (rest.map enc) = .ok (isHead p rest, k) ∧ (p ≠ world → k = fan (res (parent p))) := by
  obtain ⟨b, k, h1, h2, h3⟩ := groupAt_enc hp (rest.map enc)
  refine ⟨k, ?_, h2⟩
  have : b = isHead p rest := by
    rw [Bool.eq_iff_iff, h3, isHead, decide_eq_true_iff]
    refine and_congr_right (fun hw => ?_)
    have h28 := res_parent_le hp hw
    exact map_enc_prefix_iff (A := children (parent p)) (B := p :: rest)
      (fun c hc => wf_children (wf_parent hp) (by omega) hc)
      (fun q hq => (List.mem_cons.1 hq).elim (fun e => e ▸ hp) (hrest q))
  rw [← this]; exact h1

/-- the path-level scan: same recursion as `compactScan` -/
def pscan : List Path → Nat → List Path × Bool
  | [], _ => ([], false)
  | _ :: rest, skip + 1 => pscan rest skip
  | p :: rest, 0 =>
    if isHead p rest then (parent p :: (pscan rest (fan (res (parent p)) - 1)).1, true)
    else (p :: (pscan rest 0).1, (pscan rest 0).2)

theorem compactScan_enc (L : List Path) : ∀ (s : Nat), (∀ p ∈ L, WF p) →
    compactScan (L.map enc) s = .ok ((pscan L s).1.map enc, (pscan L s).2) := by
  induction L with
  | nil => intro s _; cases s <;> rfl
  | cons p rest ih =>
    intro s hL
    have hp : WF p := hL p (List.mem_cons_self ..)
    have hrest : ∀ q ∈ rest, WF q := fun q hq => hL q (List.mem_cons_of_mem _ hq)
    cases s with
    | succ s =>
      simp only [List.map_cons, compactScan, pscan]
      exact ih s hrest
    | zero =>
      obtain ⟨k, hg, hk⟩ := groupAt_map_enc hp rest hrest
      simp only [List.map_cons, compactScan, pscan]
      rewrite [hg]
      simp only [Outcome.bind_ok]
      by_cases hh : isHead p rest = true
      · have hw : p ≠ world := (of_decide_eq_true hh).1
        rewrite [if_pos hh, if_pos hh, hk hw, cellToParent_none_enc hp hw]
        simp only [Outcome.bind_ok]
        rewrite [ih _ hrest]
        simp only [Outcome.bind_ok, List.map_cons]
      · rewrite [if_neg hh, if_neg hh, ih 0 hrest]
        simp only [Outcome.bind_ok, List.map_cons]

end A5.CompactMax
