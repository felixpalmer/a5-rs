import A5.Lemmas.ChildPentagon
import A5.Lemmas.PentagonConvex
/-! # Clockwise convex polygons over ℚ, and the cell pentagons as such

Polygons are lists of rational points, wound CLOCKWISE like the seed pentagon (`areaG 0 seedQ > 0`; `rot180` and
`reflectY` — which mirrors AND reverses the list — keep the winding: `pentagonQ_convex`).  A point is strictly inside a
convex clockwise polygon iff every edge has it strictly on its right: `StrictIn`.
`pentagonQ a` is the local shape `localPent a.flips r` (one of eight) translated by `BASIS * a.offset`
(`pentagonQ_eq`).

`cross` is the negative of the cross product `PG.crossG` of `contains_point` (`cross_eq_neg_crossG`), and `edges` pairs
the vertices that `PG.crossesG` reads off by index.  `pentagonQ_convex` says in this vocabulary what
`PG.pentagonQ_convex` says in that one, and that the vertices are distinct; it is evaluated on the eight local shapes,
which is shorter than the passage from indices to `edges`. -/
namespace A5.CP
open A5 A5.HilbertLocate A5.PG

abbrev Pt := ℚ × ℚ

/-- `(b − a) × (q − a)`: negative iff `q` is strictly to the right of the directed line `a → b` -/
def cross (a b q : Pt) : ℚ := (b.1 - a.1) * (q.2 - a.2) - (b.2 - a.2) * (q.1 - a.1)

theorem cross_eq_neg_crossG (a b q : Pt) : cross a b q = -crossG a b q := by unfold cross crossG; ring

/-- the cyclic list of edges `(v₀,v₁), (v₁,v₂), …, (vₙ₋₁,v₀)` -/
def edges (P : List Pt) : List (Pt × Pt) := P.zip (P.tail ++ P.take 1)

/-- strictly inside a convex clockwise polygon -/
def StrictIn (P : List Pt) (q : Pt) : Prop := ∀ e ∈ edges P, cross e.1 e.2 q < 0
instance (P : List Pt) (q : Pt) : Decidable (StrictIn P q) := by unfold StrictIn; infer_instance

/-- inside or on the boundary of a convex clockwise polygon -/
def InClosed (P : List Pt) (q : Pt) : Prop := ∀ e ∈ edges P, cross e.1 e.2 q ≤ 0
instance (P : List Pt) (q : Pt) : Decidable (InClosed P q) := by unfold InClosed; infer_instance

/-- strictly convex, clockwise, simple: the vertices are pairwise distinct and every vertex other than the two ends of
an edge lies strictly to the right of that edge (so each edge is an edge of the convex hull, traversed clockwise, and
the list goes round the hull exactly once) -/
def StrictConvexCW (Q : List Pt) : Prop :=
  Q.Nodup ∧ ∀ e ∈ edges Q, ∀ v ∈ Q, v = e.1 ∨ v = e.2 ∨ cross e.1 e.2 v < 0
instance (Q : List Pt) : Decidable (StrictConvexCW Q) := by unfold StrictConvexCW; infer_instance

/-- twice the area of a convex clockwise polygon: fan of triangles from the first vertex -/
def fanArea2 (Q : List Pt) : ℚ :=
  match Q with
  | [] => 0
  | q0 :: _ => -((edges Q).map (fun e => cross q0 e.1 e.2)).sum

def mean (P : List Pt) : Pt := ((P.map Prod.fst).sum / P.length, (P.map Prod.snd).sum / P.length)

def shift (t v : Pt) : Pt := (v.1 + t.1, v.2 + t.2)

theorem shift_injective (t : Pt) : Function.Injective (shift t) := fun _ _ h =>
  Prod.ext (add_right_cancel (congrArg Prod.fst h)) (add_right_cancel (congrArg Prod.snd h))

def edgesG {α : Type} (P : List α) : List (α × α) := P.zip (P.tail ++ P.take 1)

theorem edgesG_map {α β : Type} (f : α → β) (P : List α) : edgesG (P.map f) = (edgesG P).map (Prod.map f f) := by
  unfold edgesG
  rewrite [← List.map_tail, ← List.map_take, ← List.map_append, List.zip_map]
  rfl

theorem edges_map (f : Pt → Pt) (P : List Pt) : edges (P.map f) = (edges P).map (Prod.map f f) := edgesG_map f P

theorem forall_edges_map {α : Type} (f : α → Pt) (P : List α) (p : Pt × Pt → Prop) :
    (∀ e ∈ edges (P.map f), p e) ↔ ∀ e ∈ edgesG P, p (f e.1, f e.2) := by
  rewrite [show edges (P.map f) = _ from edgesG_map f P, List.forall_mem_map]
  rfl

theorem cross_shift (t a b q : Pt) : cross (shift t a) (shift t b) (shift t q) = cross a b q := by
  unfold cross shift; ring

theorem StrictIn.shift {P : List Pt} {q : Pt} (h : StrictIn P q) (t : Pt) : StrictIn (P.map (shift t)) (shift t q) :=
  (forall_edges_map _ _ _).2 fun e he => by rewrite [cross_shift]; exact h e he

theorem InClosed.shift {P : List Pt} {q : Pt} (h : InClosed P q) (t : Pt) : InClosed (P.map (shift t)) (shift t q) :=
  (forall_edges_map _ _ _).2 fun e he => by rewrite [cross_shift]; exact h e he

theorem StrictConvexCW.shift {Q : List Pt} (h : StrictConvexCW Q) (t : Pt) : StrictConvexCW (Q.map (shift t)) :=
  ⟨List.Pairwise.map _ (fun _ _ hab e => hab (shift_injective t e)) h.1,
    (forall_edges_map _ _ _).2 fun e he => List.forall_mem_map.2 fun v hv =>
      (h.2 e he v hv).imp (congrArg _) (Or.imp (congrArg _) fun hc => by rewrite [cross_shift]; exact hc)⟩

theorem fanArea2_shift (Q : List Pt) (t : Pt) : fanArea2 (Q.map (shift t)) = fanArea2 Q := by
  cases Q with
  | nil => rfl
  | cons q0 Q =>
    show -(((edges ((q0 :: Q).map (shift t))).map _).sum) = -(((edges (q0 :: Q)).map _).sum)
    rewrite [edges_map, List.map_map]
    refine congrArg _ (congrArg _ (List.map_congr_left (fun e _ => ?_)))
    exact cross_shift t q0 e.1 e.2

/-- the seed pentagon after the rotate / reflect / `±w` steps of `get_pentagon_vertices`, before the translation by
`BASIS * offset`; `r` = the value of `needsReflect` -/
def localPentG {α : Type} [Add α] [Neg α] (P : List (α × α)) (w : α × α) (F : Int × Int) (r : Bool) : List (α × α) :=
  let p := P
  let p := if F.1 == Gen.NO && F.2 == Gen.YES then rot180 p else p
  let p := if r then reflectY p else p
  if F.1 == Gen.YES && F.2 == Gen.YES then rot180 p
  else if F.1 == Gen.YES then translate p (-w.1, -w.2)
  else if F.2 == Gen.YES then translate p w
  else p

/-- `BASIS * offset` -/
def basisMul (o : Int × Int) : Pt := offsetT basisQ o.1 o.2

def localPent (F : Int × Int) (r : Bool) : List Pt := localPentG seedQ wQ F r

theorem pentagonQ_eq (a : Anchor) : pentagonQ a = (localPent a.flips (reflK a.k a.flips)).map (shift (basisMul a.offset)) :=
  rfl

/-! ## polygons on integers: coordinates in units of 2⁻ᵏ

Every runtime constant is an integer multiple of `2⁻⁵⁵`, so the local shapes have integer coordinates in that unit
(`localPent_toQ`), and the kernel multiplies integers several times faster than rationals.  `toQ k` reads integer
coordinates in units of `2⁻ᵏ`; cross products scale by `2⁻²ᵏ` (`cross_toQ`), so their signs and comparisons can be read
off the integers (`StrictInZ.rat`, `InClosedZ.rat`, `scaled_le`). -/

abbrev PtZ := Int × Int

def qOf (k : Nat) (x : Int) : ℚ := x / 2 ^ k
def toQ (k : Nat) : PtZ → Pt := Prod.map (qOf k) (qOf k)

def crossZ (a b q : PtZ) : Int := (b.1 - a.1) * (q.2 - a.2) - (b.2 - a.2) * (q.1 - a.1)

theorem cross_toQ (k : Nat) (a b q : PtZ) :
    cross (toQ k a) (toQ k b) (toQ k q) = (crossZ a b q : ℚ) / (2 ^ k * 2 ^ k) := by
  unfold cross crossZ toQ qOf
  simp only [Prod.map]
  push_cast
  field_simp

theorem scaled_le (k : Nat) (x y : Int) : (x : ℚ) / (2 ^ k * 2 ^ k) ≤ (y : ℚ) / (2 ^ k * 2 ^ k) ↔ x ≤ y :=
  (div_le_div_iff_of_pos_right (by positivity)).trans Int.cast_le

theorem cross_toQ_neg (k : Nat) {a b q : PtZ} (h : crossZ a b q < 0) : cross (toQ k a) (toQ k b) (toQ k q) < 0 := by
  rewrite [cross_toQ]; exact div_neg_of_neg_of_pos (Int.cast_lt_zero.2 h) (by positivity)

theorem toQ_injective (k : Nat) : Function.Injective (toQ k) :=
  have hq : Function.Injective (qOf k) := fun _ _ h => Int.cast_injective ((div_left_inj' (by positivity)).1 h)
  hq.prodMap hq

def StrictInZ (P : List PtZ) (q : PtZ) : Prop := ∀ e ∈ edgesG P, crossZ e.1 e.2 q < 0
instance (P : List PtZ) (q : PtZ) : Decidable (StrictInZ P q) := by unfold StrictInZ; infer_instance

def InClosedZ (P : List PtZ) (q : PtZ) : Prop := ∀ e ∈ edgesG P, crossZ e.1 e.2 q ≤ 0
instance (P : List PtZ) (q : PtZ) : Decidable (InClosedZ P q) := by unfold InClosedZ; infer_instance

def StrictConvexCWZ (Q : List PtZ) : Prop :=
  Q.Nodup ∧ ∀ e ∈ edgesG Q, ∀ v ∈ Q, v = e.1 ∨ v = e.2 ∨ crossZ e.1 e.2 v < 0
instance (Q : List PtZ) : Decidable (StrictConvexCWZ Q) := by unfold StrictConvexCWZ; infer_instance

theorem StrictInZ.rat {P : List PtZ} {q : PtZ} (h : StrictInZ P q) (k : Nat) : StrictIn (P.map (toQ k)) (toQ k q) :=
  (forall_edges_map _ _ _).2 fun e he => cross_toQ_neg k (h e he)

theorem InClosedZ.rat {P : List PtZ} {q : PtZ} (h : InClosedZ P q) (k : Nat) : InClosed (P.map (toQ k)) (toQ k q) :=
  (forall_edges_map _ _ _).2 fun e he => by
    rewrite [cross_toQ]; exact div_nonpos_of_nonpos_of_nonneg (Int.cast_nonpos.2 (h e he)) (by positivity)

theorem StrictConvexCWZ.rat {Q : List PtZ} (h : StrictConvexCWZ Q) (k : Nat) : StrictConvexCW (Q.map (toQ k)) :=
  ⟨List.Pairwise.map _ (fun _ _ hab e => hab (toQ_injective k e)) h.1,
    (forall_edges_map _ _ _).2 fun e he => List.forall_mem_map.2 fun v hv =>
      (h.2 e he v hv).imp (congrArg _) (Or.imp (congrArg _) (cross_toQ_neg k))⟩

theorem qOf_neg (k : Nat) (x : Int) : qOf k (-x) = -qOf k x := by unfold qOf; push_cast; ring
theorem qOf_add (k : Nat) (x y : Int) : qOf k (x + y) = qOf k x + qOf k y := by unfold qOf; push_cast; ring

theorem translate_map {α β : Type} [Add α] [Add β] (g : α → β) (ha : ∀ x y, g (x + y) = g x + g y) (p : List (α × α))
    (t : α × α) : (translate p t).map (Prod.map g g) = translate (p.map (Prod.map g g)) (Prod.map g g t) := by
  simp only [translate, List.map_map]
  exact List.map_congr_left fun v _ => Prod.ext (ha _ _) (ha _ _)

theorem localPentG_map {α β : Type} [Add α] [Neg α] [Add β] [Neg β] (g : α → β) (hn : ∀ x, g (-x) = -g x)
    (ha : ∀ x y, g (x + y) = g x + g y) (P : List (α × α)) (w : α × α) (F : Int × Int) (r : Bool) :
    (localPentG P w F r).map (Prod.map g g) = localPentG (P.map (Prod.map g g)) (Prod.map g g w) F r := by
  have h1 : ∀ p : List (α × α), (rot180 p).map (Prod.map g g) = rot180 (p.map (Prod.map g g)) := fun p => by
    simp only [rot180, List.map_map]
    exact List.map_congr_left fun v _ => Prod.ext (hn _) (hn _)
  have h2 : ∀ p : List (α × α), (reflectY p).map (Prod.map g g) = reflectY (p.map (Prod.map g g)) := fun p => by
    simp only [reflectY, List.map_reverse, List.map_map]
    exact congrArg _ (List.map_congr_left fun v _ => Prod.ext rfl (hn _))
  unfold localPentG
  simp only [apply_ite (List.map (Prod.map g g)), h1, h2, translate_map g ha, Prod.map, hn]

/-- `c · 2⁵⁵` for a constant `c` -/
def zOf (c : FConst) : Int := c.num * 2 ^ (c.exp + 55).toNat
def zPair (c : FConst × FConst) : PtZ := (zOf c.1, zOf c.2)
def seedZ : List PtZ := Gen.Runtime.PENTAGON_SEED.map zPair
def wZ : PtZ := zPair Gen.Runtime.W
def basisZ : Int × Int × Int × Int :=
  (zOf (Gen.Runtime.BASIS.getD 0 ⟨0, 0, 0⟩), zOf (Gen.Runtime.BASIS.getD 1 ⟨0, 0, 0⟩),
    zOf (Gen.Runtime.BASIS.getD 2 ⟨0, 0, 0⟩), zOf (Gen.Runtime.BASIS.getD 3 ⟨0, 0, 0⟩))
def basisMulZ (o : Int × Int) : PtZ :=
  (basisZ.1 * o.1 + basisZ.2.1 * o.2, basisZ.2.2.1 * o.1 + basisZ.2.2.2 * o.2)
def localPentZ (F : Int × Int) (r : Bool) : List PtZ := localPentG seedZ wZ F r

theorem consts_toQ : seedQ = seedZ.map (toQ 55) ∧ wQ = toQ 55 wZ ∧
    basisQ = (qOf 55 basisZ.1, qOf 55 basisZ.2.1, qOf 55 basisZ.2.2.1, qOf 55 basisZ.2.2.2) := by decide +kernel

theorem localPent_toQ (F : Int × Int) (r : Bool) : localPent F r = (localPentZ F r).map (toQ 55) := by
  unfold localPent localPentZ
  rewrite [consts_toQ.1, consts_toQ.2.1]
  exact (localPentG_map (qOf 55) (qOf_neg 55) (qOf_add 55) seedZ wZ F r).symm

theorem basisMul_toQ (o : Int × Int) : basisMul o = toQ 55 (basisMulZ o) := by
  unfold basisMul offsetT
  rewrite [consts_toQ.2.2]
  unfold toQ basisMulZ qOf
  refine Prod.ext ?_ ?_ <;> (simp only [Prod.map]; push_cast; ring)

/-- the `(invertJ, flipIJ)` classes of the six orientations -/
def oriClasses : List (Bool × Bool) := [(false, false), (true, false), (false, true)]

theorem mem_oriClasses (inv fl : Bool) (hex : ¬(fl = true ∧ inv = true)) : (inv, fl) ∈ oriClasses := by
  cases inv <;> cases fl <;> first | decide | exact absurd ⟨rfl, rfl⟩ hex

theorem localPentZ_convex : ∀ F ∈ flips4, ∀ r : Bool, StrictConvexCWZ (localPentZ F r) := by decide +kernel

/-- every cell pentagon is a strictly convex clockwise pentagon (so `StrictIn` / `InClosed` mean what they say) -/
theorem pentagonQ_convex (a : Anchor) (hF : IsFlip a.flips) : StrictConvexCW (pentagonQ a) := by
  rewrite [pentagonQ_eq, localPent_toQ]
  exact ((localPentZ_convex _ (mem_flips4 _ hF) _).rat 55).shift _

end A5.CP
