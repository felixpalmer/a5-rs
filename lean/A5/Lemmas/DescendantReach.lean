import A5.Lemmas.ChildPentagon
import A5.Lemmas.PentagonConvex
import Mathlib.Tactic.Positivity
import Mathlib.Analysis.Real.Sqrt
/-! # Planar reach of ALL descendants of a cell (C12, "descendants at any depth stay within a bounded distance")

`A5.CP.child_centre_reach` bounds ONE level: the centre of a child pentagon, scaled into the parent's lattice
frame (`centreQ ac / 2`), is within `r = √(0.4213·area)` of the parent's centre, for every parent of curve depth `1..29`.
All cell pentagons of a quintant have the same area `pentArea` in their own frame (`A5.PG.pentagonQ_area`).

This file composes the one-level bound along the chain of intermediate ancestors
`s, s·4 + t/4^(k-1), …, s·4^i + t/4^(k-i), …, s·4^k + t` (`desc_succ`: consecutive members are parent and child) by the
triangle inequality in the plane:

  `centre_k / 2^k − centre_0 = Σ_{i<k} (centre_{i+1}/2 − centre_i) / 2^i`,  each summand of length `< r / 2^i`,

so the descendant's centre, scaled into the ancestor's frame, is within `r·(1 + 1/2 + … + 1/2^(k-1)) = r·(2 − 2/2^k) < 2r`
of the ancestor's centre.  Everything stays in `ℚ`: lengths are compared through their squares
(`distSq_triangle`: `|q−p|² ≤ A·a²`, `|r−q|² ≤ A·b²` ⟹ `|r−p|² ≤ A·(a+b)²`, Cauchy-Schwarz), with
`A = reachA = 0.4213·pentArea` (`= r²`).

The vertices come in through the circumradius of the cell pentagons (`vertex_circumradius`: one kernel check on the seed
pentagon, the placement being an isometry) and the convexity of discs, so the whole subtree of a cell, at every depth, lies
in ONE disc of radius `1.2982·√(cell area)` about the cell's centre (`1.2982 = 2·0.6491`, `0.6491² ≥ 0.4213`; the cell
itself lies in the disc of radius `0.8402·√area`).

Not proved here: that the solid pentagon "as the set `contains_point` accepts" (intersection of five half planes) equals
the convex hull of its vertices (it is strictly convex: `A5.PG.pentagonQ_convex`); the statements on the sphere. -/
namespace A5.DR
open A5 A5.HilbertLocate A5.PG A5.CP

/-- Cauchy-Schwarz: `u·v ≤ |u||v|`, with `|u|² ≤ A·a²`, `|v|² ≤ A·b²` -/
theorem dot_le {A a b u1 u2 v1 v2 : ℚ} (hA : 0 ≤ A) (ha : 0 ≤ a) (hb : 0 ≤ b)
    (hu : u1 * u1 + u2 * u2 ≤ A * (a * a)) (hv : v1 * v1 + v2 * v2 ≤ A * (b * b)) :
    u1 * v1 + u2 * v2 ≤ A * a * b := by
  have hu0 : 0 ≤ u1 * u1 + u2 * u2 := add_nonneg (mul_self_nonneg _) (mul_self_nonneg _)
  have hv0 : 0 ≤ v1 * v1 + v2 * v2 := add_nonneg (mul_self_nonneg _) (mul_self_nonneg _)
  have h : (u1 * v1 + u2 * v2) ^ 2 ≤ (A * a * b) ^ 2 :=
    calc (u1 * v1 + u2 * v2) ^ 2
        = (u1 * u1 + u2 * u2) * (v1 * v1 + v2 * v2) - (u1 * v2 - u2 * v1) ^ 2 := by ring
      _ ≤ (u1 * u1 + u2 * u2) * (v1 * v1 + v2 * v2) := sub_le_self _ (sq_nonneg _)
      _ ≤ A * (a * a) * (A * (b * b)) := mul_le_mul hu hv hv0 (le_trans hu0 hu)
      _ = (A * a * b) ^ 2 := by ring
  exact (abs_le_of_sq_le_sq' h (mul_nonneg (mul_nonneg hA ha) hb)).2

/-- the triangle inequality for squared lengths measured in units of `√A` -/
theorem sq_add_le {A a b u1 u2 v1 v2 : ℚ} (hA : 0 ≤ A) (ha : 0 ≤ a) (hb : 0 ≤ b)
    (hu : u1 * u1 + u2 * u2 ≤ A * (a * a)) (hv : v1 * v1 + v2 * v2 ≤ A * (b * b)) :
    (u1 + v1) * (u1 + v1) + (u2 + v2) * (u2 + v2) ≤ A * ((a + b) * (a + b)) := by
  linarith only [dot_le hA ha hb hu hv, hu, hv]

/-- squared planar distance of two rational points -/
def distSq (p q : ℚ × ℚ) : ℚ := (p.1 - q.1) * (p.1 - q.1) + (p.2 - q.2) * (p.2 - q.2)

/-- a point of depth `n + k`, in the lattice frame of depth `n` (lattice units halve per level) -/
def scaleDown (k : Nat) (p : ℚ × ℚ) : ℚ × ℚ := (p.1 / 2 ^ k, p.2 / 2 ^ k)

/-- planar Euclidean distance of two rational points, as a real number -/
noncomputable def planeDist (p q : ℚ × ℚ) : ℝ := Real.sqrt ((distSq p q : ℚ) : ℝ)

theorem distSq_triangle {A a b : ℚ} (hA : 0 ≤ A) (ha : 0 ≤ a) (hb : 0 ≤ b) (p q r : ℚ × ℚ)
    (h1 : distSq q p ≤ A * (a * a)) (h2 : distSq r q ≤ A * (b * b)) : distSq r p ≤ A * ((a + b) * (a + b)) := by
  have := sq_add_le hA ha hb h1 h2
  unfold distSq
  rewrite [sub_add_sub_cancel', sub_add_sub_cancel'] at this
  exact this

theorem distSq_scaleDown (k : Nat) (x y : ℚ × ℚ) :
    distSq (scaleDown k x) (scaleDown k y) = distSq x y * (1 / 2 ^ k * (1 / 2 ^ k)) := by
  unfold distSq scaleDown; ring

theorem planeDist_le {p q : ℚ × ℚ} {A a : ℚ} (hA : 0 ≤ A) (ha : 0 ≤ a) (h : distSq p q ≤ A * (a * a)) :
    planeDist p q ≤ (a : ℝ) * Real.sqrt (A : ℝ) := by
  have hA' : (0 : ℝ) ≤ (A : ℝ) := by exact_mod_cast hA
  have ha' : (0 : ℝ) ≤ (a : ℝ) := by exact_mod_cast ha
  have h' : ((distSq p q : ℚ) : ℝ) ≤ (A : ℝ) * ((a : ℝ) * (a : ℝ)) := by exact_mod_cast h
  unfold planeDist
  rewrite [Real.sqrt_le_iff]
  refine ⟨mul_nonneg ha' (Real.sqrt_nonneg _), ?_⟩
  rewrite [mul_pow, Real.sq_sqrt hA']
  linarith [h', sq (a : ℝ)]

theorem planeDist_lt {p q : ℚ × ℚ} {A : ℚ} (hA : 0 < A) (h : distSq p q < 4 * A) :
    planeDist p q < 2 * Real.sqrt (A : ℝ) := by
  have hA' : (0 : ℝ) < (A : ℝ) := by exact_mod_cast hA
  have h' : ((distSq p q : ℚ) : ℝ) < 4 * (A : ℝ) := by exact_mod_cast h
  unfold planeDist
  rewrite [Real.sqrt_lt' (mul_pos (by norm_num) (Real.sqrt_pos.2 hA')), mul_pow, Real.sq_sqrt hA'.le]
  linarith

/-- the squared one-level reach `r² = 0.4213 · pentArea` (`r = 0.64908·√area`) -/
def reachA : ℚ := 4213 / 10000 * pentArea

theorem pentArea_pos : 0 < pentArea := by
  have := seed_area_facts.1
  unfold pentArea; linarith

theorem reachA_pos : 0 < reachA := by
  have := pentArea_pos
  unfold reachA; linarith

theorem pentagon_area (a : Anchor) : areaG 0 (pentagonQ a) / 2 = pentArea := by
  rewrite [pentagonQ_area a]; rfl

/-- `child_centre_reach`, keeping the `±1` flips of both anchors and with the area written as the constant `pentArea` -/
theorem child_reach (n o s d : Nat) (hn : n + 2 ≤ 30) (ho : o < 6) (hs : s < 4 ^ (n + 1)) (hd : d < 4) :
    ∃ ap ac, sToAnchor s (n + 1) o = .ok ap ∧ sToAnchor (4 * s + d) (n + 2) o = .ok ac ∧
      IsFlip ap.flips ∧ IsFlip ac.flips ∧ centreDistSq ap ac < reachA := by
  obtain ⟨ap, ac, h1, h2, hp, hc, hm⟩ := child_quad_mem n o s d hn hs hd
  have hr := reach_table _ _ (fun hh => flags_exclusive o ho hh) _ hm
  have e : centreDistSq ap ac = reachSq (anchorQuad ap ac) := by
    unfold centreDistSq reachSq
    rewrite [← centre_diff ap ac hp hc]
    rfl
  exact ⟨ap, ac, h1, h2, hp, hc, by rewrite [e]; exact hr⟩

/-- squared planar distance between the descendant's centre, scaled into the ancestor's frame (`k` levels up: lattice
units shrink by `2` per level), and the ancestor's centre -/
def descDistSq (k : Nat) (ap ad : Anchor) : ℚ :=
  ((centreQ ad).1 / 2 ^ k - (centreQ ap).1) * ((centreQ ad).1 / 2 ^ k - (centreQ ap).1) +
    ((centreQ ad).2 / 2 ^ k - (centreQ ap).2) * ((centreQ ad).2 / 2 ^ k - (centreQ ap).2)

theorem descDistSq_one (ap ad : Anchor) : descDistSq 1 ap ad = centreDistSq ap ad := by
  unfold descDistSq centreDistSq
  rewrite [pow_one]; rfl

theorem descDistSq_self (a : Anchor) : descDistSq 0 a a = 0 := by
  unfold descDistSq
  rewrite [pow_zero, div_one, div_one, sub_self, sub_self]
  ring

theorem descDistSq_eq (k : Nat) (ap ad : Anchor) : descDistSq k ap ad = distSq (scaleDown k (centreQ ad)) (centreQ ap) := rfl

theorem descDistSq_step (k : Nat) (ap am ac : Anchor) (a : ℚ) (ha : 0 ≤ a)
    (h1 : descDistSq k ap am ≤ reachA * (a * a)) (h2 : centreDistSq am ac < reachA) :
    descDistSq (k + 1) ap ac ≤ reachA * ((a + 1 / 2 ^ k) * (a + 1 / 2 ^ k)) := by
  have e : scaleDown (k + 1) (centreQ ac) = scaleDown k ((centreQ ac).1 / 2, (centreQ ac).2 / 2) := by
    unfold scaleDown
    rewrite [pow_succ, div_div, div_div, mul_comm (2 : ℚ)]; rfl
  refine distSq_triangle (b := 1 / 2 ^ k) reachA_pos.le ha (by positivity) (centreQ ap) (scaleDown k (centreQ am))
    (scaleDown (k + 1) (centreQ ac)) h1 ?_
  rewrite [e, distSq_scaleDown]
  exact mul_le_mul_of_nonneg_right h2.le (by positivity)

theorem series_step (k : Nat) : (2 - 2 / 2 ^ k : ℚ) + 1 / 2 ^ k = 2 - 2 / 2 ^ (k + 1) := by
  rw [pow_succ]; ring

theorem series_nonneg (k : Nat) : (0 : ℚ) ≤ 2 - 2 / 2 ^ k :=
  sub_nonneg.2 (div_le_self two_pos.le (one_le_pow₀ one_le_two))

theorem series_lt_two (k : Nat) : (2 - 2 / 2 ^ k : ℚ) < 2 := sub_lt_self _ (by positivity)

theorem lt_four_mul {A d : ℚ} (hA : 0 < A) (k : Nat) (h : d ≤ A * ((2 - 2 / 2 ^ k) * (2 - 2 / 2 ^ k))) : d < 4 * A := by
  have hlt : (2 - 2 / 2 ^ k : ℚ) * (2 - 2 / 2 ^ k) < 2 * 2 := mul_self_lt_mul_self (series_nonneg k) (series_lt_two k)
  linarith only [h, mul_lt_mul_of_pos_left hlt hA]

/-- the induction along the chain of intermediate ancestors -/
theorem descendant_chain (n o s : Nat) (ho : o < 6) (hs : s < 4 ^ (n + 1)) : ∀ k t, n + 1 + k ≤ 30 → t < 4 ^ k →
    ∃ ap ad, sToAnchor s (n + 1) o = .ok ap ∧ sToAnchor (s * 4 ^ k + t) (n + 1 + k) o = .ok ad ∧ IsFlip ap.flips ∧
      descDistSq k ap ad ≤ reachA * ((2 - 2 / 2 ^ k) * (2 - 2 / 2 ^ k)) := by
  intro k
  induction k with
  | zero =>
    intro t hn ht
    have e : s * 4 ^ 0 + t = s := by
      simp only [Nat.pow_zero] at ht ⊢; omega
    rewrite [e]
    refine ⟨_, _, sToAnchor_eq s (n + 1) o (by omega) hs, sToAnchor_eq s (n + 1) o (by omega) hs,
      finalAnchor_isFlip _ (n + 1) _ _ (adjustS_lt _ (n + 1) s hs), ?_⟩
    rewrite [descDistSq_self]
    have := reachA_pos
    positivity
  | succ k ih =>
    intro t hn ht
    have ht4 : t / 4 < 4 ^ k := by
      rewrite [Nat.pow_succ] at ht; omega
    obtain ⟨ap, am, h1, h2, hp, hb⟩ := ih (t / 4) (by omega) ht4
    have hm : s * 4 ^ k + t / 4 < 4 ^ (n + k + 1) := by
      have := desc_lt s (n + 1) k (t / 4) hs ht4
      rewrite [show n + k + 1 = n + 1 + k by omega]; exact this
    obtain ⟨am', ac, g1, g2, _, _, g5⟩ := child_reach (n + k) o (s * 4 ^ k + t / 4) (t % 4) (by omega) ho hm
      (Nat.mod_lt _ (by decide))
    rewrite [show n + k + 1 = n + 1 + k by omega] at g1
    rewrite [← desc_succ s k t, show n + k + 2 = n + 1 + (k + 1) by omega] at g2
    cases Outcome.ok.inj (h2.symm.trans g1)
    refine ⟨ap, ac, h1, g2, hp, ?_⟩
    rewrite [← series_step k]
    exact descDistSq_step k ap am ac _ (series_nonneg k) hb g5

theorem descendant_centre_reach (n k o s t : Nat) (hn : n + 1 + k ≤ 30) (ho : o < 6) (hs : s < 4 ^ (n + 1))
    (ht : t < 4 ^ k) :
    ∃ ap ad, sToAnchor s (n + 1) o = .ok ap ∧ sToAnchor (s * 4 ^ k + t) (n + 1 + k) o = .ok ad ∧
      descDistSq k ap ad ≤ 4213 / 10000 * (areaG 0 (pentagonQ ap) / 2) * ((2 - 2 / 2 ^ k) * (2 - 2 / 2 ^ k)) ∧
      descDistSq k ap ad < 4 * (4213 / 10000 * (areaG 0 (pentagonQ ap) / 2)) ∧
      descDistSq k ap ad < 169 / 100 * (areaG 0 (pentagonQ ap) / 2) := by
  obtain ⟨ap, ad, h1, h2, hp, hb⟩ := descendant_chain n o s ho hs k t hn ht
  refine ⟨ap, ad, h1, h2, ?_⟩
  rewrite [pentagon_area ap]
  have := lt_four_mul reachA_pos k hb
  have hP := pentArea_pos
  unfold reachA at this hb
  exact ⟨hb, this, by linarith only [this, hP]⟩

/-- **Descendant reach, Euclidean distance.**  For every ancestor position `s` at curve depth `n+1 ≥ 1`, every `k` with
`n+1+k ≤ 30`, every descendant `s·4^k + t`, every orientation: the distance between the descendant's centre scaled into
the ancestor's frame and the ancestor's centre is at most `(1 + 1/2 + … + 1/2^(k-1))·r` and less than `2·r`, where
`r = √(0.4213 · area of the ancestor's pentagon)` is the one-level reach. -/
theorem descendant_centre_dist (n k o s t : Nat) (hn : n + 1 + k ≤ 30) (ho : o < 6) (hs : s < 4 ^ (n + 1))
    (ht : t < 4 ^ k) :
    ∃ ap ad, sToAnchor s (n + 1) o = .ok ap ∧ sToAnchor (s * 4 ^ k + t) (n + 1 + k) o = .ok ad ∧
      planeDist (scaleDown k (centreQ ad)) (centreQ ap) ≤
        (2 - 2 / 2 ^ k) * Real.sqrt ((4213 / 10000 * (areaG 0 (pentagonQ ap) / 2) : ℚ) : ℝ) ∧
      planeDist (scaleDown k (centreQ ad)) (centreQ ap) <
        2 * Real.sqrt ((4213 / 10000 * (areaG 0 (pentagonQ ap) / 2) : ℚ) : ℝ) := by
  obtain ⟨ap, ad, h1, h2, hp, hb⟩ := descendant_chain n o s ho hs k t hn ht
  refine ⟨ap, ad, h1, h2, ?_⟩
  rewrite [pentagon_area ap]
  rewrite [descDistSq_eq] at hb
  have hA := reachA_pos
  constructor
  · have := planeDist_le (le_of_lt hA) (series_nonneg k) hb
    push_cast at this
    exact this
  · exact planeDist_lt hA (lt_four_mul hA k hb)

/-- non-vacuity: orientation 3 (reverse + flipIJ), ancestor 2 at depth 1, descendant `2·4^3 + 57 = 185` at depth 4 -/
example : ∃ ap ad, sToAnchor 2 1 3 = .ok ap ∧ sToAnchor 185 4 3 = .ok ad ∧
    descDistSq 3 ap ad < 4 * (4213 / 10000 * (areaG 0 (pentagonQ ap) / 2)) := by
  obtain ⟨ap, ad, h1, h2, _, h3, _⟩ := descendant_centre_reach 0 3 3 2 57 (by decide) (by decide) (by decide) (by decide)
  exact ⟨ap, ad, h1, h2, h3⟩

/-- the deepest instance the id layout allows: ancestor at depth 1, descendant at depth 30 (`k = 29`) -/
example : ∃ ap ad, sToAnchor 1 1 0 = .ok ap ∧ sToAnchor (1 * 4 ^ 29 + 123456789012345) (0 + 1 + 29) 0 = .ok ad ∧
    descDistSq 29 ap ad < 4 * (4213 / 10000 * (areaG 0 (pentagonQ ap) / 2)) := by
  obtain ⟨ap, ad, h1, h2, _, h3, _⟩ := descendant_centre_reach 0 29 0 1 123456789012345 (by decide) (by decide) (by decide)
    (by decide)
  exact ⟨ap, ad, h1, h2, h3⟩

/-- the bound `2r` cannot be replaced by the one-level `r`: already two levels down (ancestor 2 at depth 1, orientation 0,
descendant `2·16 + 15 = 47` at depth 3) the squared distance exceeds `0.85·area` (`> 0.4213·area`) -/
example : sToAnchor 2 1 0 = .ok ⟨2, (0, 1), (1, 1)⟩ ∧ sToAnchor 47 3 0 = .ok ⟨3, (3, 4), (1, 1)⟩ ∧
    85 / 100 * pentArea < descDistSq 2 ⟨2, (0, 1), (1, 1)⟩ ⟨3, (3, 4), (1, 1)⟩ := by
  decide +kernel

section algebra
variable {K : Type} [Field K]

/-- the placement of `get_pentagon_vertices` (rotation by 180°, mirror, translations) is an isometry -/
theorem place_dist (F : Int × Int) (hF : IsFlip F) (r : Bool) (w t x y : K × K) :
    ((placeG F r w t x).1 - (placeG F r w t y).1) * ((placeG F r w t x).1 - (placeG F r w t y).1) +
      ((placeG F r w t x).2 - (placeG F r w t y).2) * ((placeG F r w t x).2 - (placeG F r w t y).2) =
    (x.1 - y.1) * (x.1 - y.1) + (x.2 - y.2) * (x.2 - y.2) := by
  rcases hF with rfl | rfl | rfl | rfl <;> cases r <;>
    simp only [placeG, localC, reduceCtorEq, if_true, if_false, Bool.false_eq_true, Int.reduceNeg, Prod.mk.injEq,
      and_self, and_false, false_and] <;> ring

end algebra

/-- the seed pentagon: every vertex is within `√(0.705765·area)` of the centre (kernel-evaluated on the runtime constants) -/
theorem seed_circumradius : ∀ p ∈ seedQ, distSq p (centreG 0 5 seedQ) ≤ 705765 / 1000000 * pentArea := by
  decide +kernel

/-- … and the constant is sharp to the sixth digit -/
theorem seed_circumradius_sharp : ∃ p ∈ seedQ, 705764 / 1000000 * pentArea < distSq p (centreG 0 5 seedQ) := by
  decide +kernel

theorem vertex_circumradius (a : Anchor) (hF : IsFlip a.flips) :
    ∀ v ∈ pentagonQ a, distSq v (centreQ a) ≤ 705765 / 1000000 * pentArea := by
  obtain ⟨k, ⟨oi, oj⟩, F⟩ := a
  change IsFlip F at hF
  have hs := seed_circumradius
  rewrite [centreQ_eq_place ⟨k, (oi, oj), F⟩ hF]
  unfold pentagonQ
  generalize centreG 0 5 seedQ = m at hs ⊢
  rewrite [seedQ_eq] at hs ⊢
  rewrite [pentagon_place _ _ _ _ _ _ _ _ _ _ _ hF]
  dsimp only
  generalize needsReflect ⟨k, (oi, oj), F⟩ = r
  unfold distSq at hs ⊢
  intro v hv
  cases r <;> simp only [if_true, if_false, Bool.false_eq_true, List.mem_cons, List.not_mem_nil, or_false] at hv <;>
    rcases hv with rfl | rfl | rfl | rfl | rfl <;> rewrite [place_dist _ hF] <;>
    exact hs _ (by simp)

/-- the radius, in units of `√area`, of the disc about the ancestor's centre that contains the descendants `k` levels
down: `0.6491·(2 − 2/2^k) + 0.8402/2^k = 1.2982 − 0.458/2^k` -/
def descReach (k : Nat) : ℚ := 6491 / 10000 * (2 - 2 / 2 ^ k) + 8402 / 10000 * (1 / 2 ^ k)

theorem descReach_nonneg (k : Nat) : 0 ≤ descReach k :=
  add_nonneg (mul_nonneg (by norm_num) (series_nonneg k)) (by positivity)

theorem descReach_lt (k : Nat) : descReach k < 12982 / 10000 := by
  have h : descReach k = 12982 / 10000 - 458 / 1000 / 2 ^ k := by unfold descReach; ring
  exact h ▸ sub_lt_self _ (by positivity)

theorem reach_of_near (k : Nat) (ap ad : Anchor) (v : ℚ × ℚ)
    (hb : descDistSq k ap ad ≤ reachA * ((2 - 2 / 2 ^ k) * (2 - 2 / 2 ^ k)))
    (hv : distSq v (centreQ ad) ≤ 705765 / 1000000 * pentArea) :
    distSq (scaleDown k v) (centreQ ap) ≤ pentArea * (descReach k * descReach k) := by
  have hP := pentArea_pos
  have hx : (0 : ℚ) < 1 / 2 ^ k := by positivity
  -- `0.4213 ≤ 0.6491²` and `0.705765 ≤ 0.8402²`
  have hu : distSq (scaleDown k (centreQ ad)) (centreQ ap) ≤
      pentArea * (6491 / 10000 * (2 - 2 / 2 ^ k) * (6491 / 10000 * (2 - 2 / 2 ^ k))) := by
    have h0 := mul_nonneg hP.le (mul_self_nonneg (2 - 2 / 2 ^ k : ℚ))
    rewrite [descDistSq_eq] at hb
    unfold reachA at hb
    linarith only [hb, h0]
  have hw : distSq (scaleDown k v) (scaleDown k (centreQ ad)) ≤
      pentArea * (8402 / 10000 * (1 / 2 ^ k) * (8402 / 10000 * (1 / 2 ^ k))) := by
    rewrite [distSq_scaleDown]
    have h1 := mul_le_mul_of_nonneg_right hv (mul_pos hx hx).le
    have h0 := mul_nonneg hP.le (mul_pos hx hx).le
    linarith only [h1, h0]
  exact distSq_triangle hP.le (mul_nonneg (by norm_num) (series_nonneg k)) (mul_nonneg (by norm_num) hx.le) _ _ _ hu hw

/-- the convex hull of a list of points: the smallest set containing them and closed under segments -/
inductive InHull (vs : List (ℚ × ℚ)) : ℚ × ℚ → Prop
  | vertex (v : ℚ × ℚ) : v ∈ vs → InHull vs v
  | seg (p q : ℚ × ℚ) (μ : ℚ) : InHull vs p → InHull vs q → 0 ≤ μ → μ ≤ 1 →
      InHull vs ((1 - μ) * p.1 + μ * q.1, (1 - μ) * p.2 + μ * q.2)

theorem disc_convex (c p q : ℚ × ℚ) (B μ : ℚ) (h0 : 0 ≤ μ) (h1 : μ ≤ 1) (hp : distSq p c ≤ B) (hq : distSq q c ≤ B) :
    distSq ((1 - μ) * p.1 + μ * q.1, (1 - μ) * p.2 + μ * q.2) c ≤ B := by
  unfold distSq at hp hq ⊢
  have h1' : 0 ≤ 1 - μ := sub_nonneg.2 h1
  have hB : 0 ≤ B := le_trans (add_nonneg (mul_self_nonneg _) (mul_self_nonneg _)) hp
  -- the triangle inequality for `(1 − μ)(p − c) + μ(q − c)`
  have key := sq_add_le hB h1' h0
    (u1 := (1 - μ) * (p.1 - c.1)) (u2 := (1 - μ) * (p.2 - c.2)) (v1 := μ * (q.1 - c.1)) (v2 := μ * (q.2 - c.2))
    (by linarith only [mul_le_mul_of_nonneg_left hp (mul_self_nonneg (1 - μ))])
    (by linarith only [mul_le_mul_of_nonneg_left hq (mul_self_nonneg μ)])
  dsimp only
  linarith only [key]

theorem hull_in_disc (k : Nat) (vs : List (ℚ × ℚ)) (c : ℚ × ℚ) (B : ℚ) (h : ∀ v ∈ vs, distSq (scaleDown k v) c ≤ B) :
    ∀ p, InHull vs p → distSq (scaleDown k p) c ≤ B := by
  intro p hp
  induction hp with
  | vertex v hv => exact h v hv
  | seg p q μ _ _ h0 h1 ihp ihq =>
    have e : scaleDown k ((1 - μ) * p.1 + μ * q.1, (1 - μ) * p.2 + μ * q.2) =
        ((1 - μ) * (scaleDown k p).1 + μ * (scaleDown k q).1, (1 - μ) * (scaleDown k p).2 + μ * (scaleDown k q).2) := by
      unfold scaleDown
      refine Prod.ext ?_ ?_ <;> (dsimp only; ring)
    rewrite [e]
    exact disc_convex c _ _ B μ h0 h1 ihp ihq

/-- **The cell itself** (`k = 0` of the next theorem, without the depth restriction): every vertex and every point of
the convex hull of the pentagon of a valid position is within `√(0.705765·area) < 0.8402·√area` of its centre. -/
theorem cell_pentagon_reach (n o s : Nat) (hn : n ≤ 30) (hs : s < 4 ^ n) :
    ∃ a, sToAnchor s n o = .ok a ∧
      ∀ p, InHull (pentagonQ a) p → distSq p (centreQ a) ≤ 705765 / 1000000 * (areaG 0 (pentagonQ a) / 2) := by
  refine ⟨_, sToAnchor_eq s n o hn hs, ?_⟩
  have hF := finalAnchor_isFlip _ n (oriInvertJ o) (oriFlipIJ o) (adjustS_lt (oriReverse o) n s hs)
  rewrite [pentagon_area _]
  intro p hp
  have e : ∀ v : ℚ × ℚ, scaleDown 0 v = v := by
    intro v; unfold scaleDown; rewrite [pow_zero, div_one, div_one]; rfl
  have := hull_in_disc 0 _ (centreQ _) _ (fun v hv => by rewrite [e]; exact vertex_circumradius _ hF v hv) p hp
  rewrite [e] at this
  exact this

theorem descendant_pentagon_reach (n k o s t : Nat) (hn : n + 1 + k ≤ 30) (ho : o < 6) (hs : s < 4 ^ (n + 1))
    (ht : t < 4 ^ k) :
    ∃ ap ad, sToAnchor s (n + 1) o = .ok ap ∧ sToAnchor (s * 4 ^ k + t) (n + 1 + k) o = .ok ad ∧
      ∀ p, InHull (pentagonQ ad) p →
        distSq (scaleDown k p) (centreQ ap) ≤ areaG 0 (pentagonQ ap) / 2 * (descReach k * descReach k) ∧
        distSq (scaleDown k p) (centreQ ap) < 16854 / 10000 * (areaG 0 (pentagonQ ap) / 2) ∧
        planeDist (scaleDown k p) (centreQ ap) < 12982 / 10000 * Real.sqrt ((areaG 0 (pentagonQ ap) / 2 : ℚ) : ℝ) := by
  obtain ⟨ap, ad, h1, h2, hp, hb⟩ := descendant_chain n o s ho hs k t hn ht
  have hd := sToAnchor_isFlip _ _ o hn (desc_lt s (n + 1) k t hs ht) ad h2
  refine ⟨ap, ad, h1, h2, fun p hp' => ?_⟩
  have key := hull_in_disc k _ (centreQ ap) _
    (fun v hv => reach_of_near k ap ad v hb (vertex_circumradius ad hd v hv)) p hp'
  rewrite [pentagon_area ap]
  have hlt : descReach k * descReach k < 12982 / 10000 * (12982 / 10000) :=
    mul_self_lt_mul_self (descReach_nonneg k) (descReach_lt k)
  have hP := pentArea_pos
  have hle := planeDist_le hP.le (descReach_nonneg k) key
  have hs0 : (0 : ℝ) < Real.sqrt ((pentArea : ℚ) : ℝ) := Real.sqrt_pos.2 (by exact_mod_cast hP)
  have hr : ((descReach k : ℚ) : ℝ) < 12982 / 10000 := by
    have := (Rat.cast_lt (K := ℝ)).2 (descReach_lt k)
    push_cast at this
    exact this
  exact ⟨key, by nlinarith, lt_of_le_of_lt hle (mul_lt_mul_of_pos_right hr hs0)⟩

/-- non-vacuity: orientation 3 (reverse + flipIJ), ancestor 2 at depth 1, descendant `2·4^3 + 57 = 185` at depth 4;
the midpoint of the first two vertices of the descendant's pentagon is in the disc -/
example : ∃ ap ad, sToAnchor 2 1 3 = .ok ap ∧ sToAnchor 185 4 3 = .ok ad ∧
    ∀ v0 v1 rest, pentagonQ ad = v0 :: v1 :: rest →
      distSq (scaleDown 3 ((1 - 1 / 2) * v0.1 + 1 / 2 * v1.1, (1 - 1 / 2) * v0.2 + 1 / 2 * v1.2)) (centreQ ap) <
        16854 / 10000 * (areaG 0 (pentagonQ ap) / 2) := by
  obtain ⟨ap, ad, h1, h2, h3⟩ := descendant_pentagon_reach 0 3 3 2 57 (by decide) (by decide) (by decide) (by decide)
  refine ⟨ap, ad, h1, h2, fun v0 v1 rest e => ?_⟩
  refine (h3 _ (InHull.seg v0 v1 (1 / 2) (.vertex _ ?_) (.vertex _ ?_) (by norm_num) (by norm_num))).2.1
  · rewrite [e]; exact List.mem_cons_self ..
  · rewrite [e]; exact List.mem_cons_of_mem _ (List.mem_cons_self ..)

/-- non-vacuity of `descendant_centre_dist` at the deepest level: ancestor at depth 1, descendant at depth 30 -/
example : ∃ ap ad, sToAnchor 1 1 0 = .ok ap ∧ sToAnchor (1 * 4 ^ 29 + 123456789012345) (0 + 1 + 29) 0 = .ok ad ∧
    planeDist (scaleDown 29 (centreQ ad)) (centreQ ap) <
      2 * Real.sqrt ((4213 / 10000 * (areaG 0 (pentagonQ ap) / 2) : ℚ) : ℝ) := by
  obtain ⟨ap, ad, h1, h2, _, h3⟩ := descendant_centre_dist 0 29 0 1 123456789012345 (by decide) (by decide) (by decide)
    (by decide)
  exact ⟨ap, ad, h1, h2, h3⟩

end A5.DR
