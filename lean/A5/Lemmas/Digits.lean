import A5.Spec.Tree
/-! Base-4 digit strings: `value` and `digits` are mutually inverse on strings of a given length. -/
namespace A5
namespace Path

theorem foldl_value (a : Nat) (ds : List Nat) :
    ds.foldl (fun a d => 4 * a + d) a = a * 4 ^ ds.length + value ds := by
  induction ds generalizing a with
  | nil => simp only [List.foldl_nil, List.length_nil, Nat.pow_zero, Nat.mul_one, value, Nat.add_zero]
  | cons d ds ih =>
    simp only [value, List.foldl_cons, List.length_cons]
    rewrite [ih (4 * a + d), ih (4 * 0 + d), Nat.pow_succ]
    simp only [value]
    rewrite [Nat.add_mul, Nat.add_mul, Nat.mul_zero, Nat.zero_mul, Nat.zero_add, Nat.add_assoc]
    refine congrArg (· + _) ?_
    rewrite [Nat.mul_comm 4 a, Nat.mul_assoc, Nat.mul_comm 4]
    rfl

theorem value_nil : value [] = 0 := rfl

theorem value_cons (d : Nat) (ds : List Nat) : value (d :: ds) = d * 4 ^ ds.length + value ds := by
  have h := foldl_value (4 * 0 + d) ds
  have e : value (d :: ds) = ds.foldl (fun a d => 4 * a + d) (4 * 0 + d) := rfl
  rewrite [e, h, Nat.mul_zero, Nat.zero_add]
  rfl

theorem value_append (as bs : List Nat) : value (as ++ bs) = value as * 4 ^ bs.length + value bs := by
  have e : value (as ++ bs) = bs.foldl (fun a d => 4 * a + d) (value as) := by
    simp only [value, List.foldl_append]
  rewrite [e, foldl_value]
  rfl

theorem value_append_singleton (ds : List Nat) (d : Nat) : value (ds ++ [d]) = 4 * value ds + d := by
  simp only [value, List.foldl_append, List.foldl_cons, List.foldl_nil]

theorem value_lt (ds : List Nat) (h : ∀ d ∈ ds, d < 4) : value ds < 4 ^ ds.length := by
  induction ds with
  | nil => simp only [value_nil, List.length_nil, Nat.pow_zero]; omega
  | cons d ds ih =>
    have h1 := ih (fun x hx => h x (List.mem_cons_of_mem _ hx))
    have h2 : d < 4 := h d (List.mem_cons_self ..)
    rewrite [value_cons, List.length_cons, Nat.pow_succ]
    have h3 : d * 4 ^ ds.length ≤ 3 * 4 ^ ds.length := Nat.mul_le_mul_right _ (by omega)
    omega

theorem value_take (ds : List Nat) (h : ∀ d ∈ ds, d < 4) (n : Nat) :
    value (ds.take n) = value ds / 4 ^ (ds.length - n) := by
  have e := value_append (ds.take n) (ds.drop n)
  rewrite [List.take_append_drop, List.length_drop] at e
  have hlt : value (ds.drop n) < 4 ^ (ds.length - n) := by
    have := value_lt (ds.drop n) (fun d hd => h d (List.mem_of_mem_drop hd))
    rewrite [List.length_drop] at this
    exact this
  rewrite [e, Nat.mul_comm, Nat.mul_add_div (Nat.pow_pos (by omega)), Nat.div_eq_of_lt hlt]
  rfl

theorem length_digits (n i : Nat) : (digits n i).length = n := by
  induction n generalizing i with
  | zero => rfl
  | succ n ih => simp only [digits, List.length_cons, ih]

theorem digits_lt (n i : Nat) (h : i < 4 ^ n) : ∀ d ∈ digits n i, d < 4 := by
  induction n generalizing i with
  | zero => intro d hd; simp only [digits, List.not_mem_nil] at hd
  | succ n ih =>
    intro d hd
    simp only [digits, List.mem_cons] at hd
    rcases hd with rfl | hd
    · rewrite [Nat.pow_succ] at h
      exact Nat.div_lt_of_lt_mul h
    · exact ih _ (Nat.mod_lt _ (Nat.pow_pos (by omega))) d hd

theorem value_digits (n i : Nat) (h : i < 4 ^ n) : value (digits n i) = i := by
  induction n generalizing i with
  | zero => simp only [Nat.pow_zero] at h; simp only [digits, value_nil]; omega
  | succ n ih =>
    simp only [digits]
    rewrite [value_cons, length_digits, ih _ (Nat.mod_lt _ (Nat.pow_pos (by omega)))]
    exact Nat.div_add_mod' i (4 ^ n)

theorem digits_succ_block (n d i : Nat) (hi : i < 4 ^ n) : digits (n + 1) (d * 4 ^ n + i) = d :: digits n i := by
  have hp : 0 < 4 ^ n := Nat.pow_pos (by omega)
  simp only [digits]
  rewrite [Nat.mul_comm d, Nat.mul_add_div hp, Nat.div_eq_of_lt hi, Nat.add_zero, Nat.mul_add_mod,
    Nat.mod_eq_of_lt hi]
  rfl

theorem digits_value (ds : List Nat) (h : ∀ d ∈ ds, d < 4) : digits ds.length (value ds) = ds := by
  induction ds with
  | nil => rfl
  | cons d ds ih =>
    have hx := fun x hx => h x (List.mem_cons_of_mem d hx)
    rewrite [List.length_cons, value_cons, digits_succ_block _ _ _ (value_lt ds hx), ih hx]
    rfl

theorem value_inj (ds ds' : List Nat) (hl : ds.length = ds'.length)
    (h : ∀ d ∈ ds, d < 4) (h' : ∀ d ∈ ds', d < 4) (e : value ds = value ds') : ds = ds' := by
  rewrite [← digits_value ds h, ← digits_value ds' h', hl, e]; rfl

end Path
end A5
