import A5.Model.DistanceG
import Mathlib.Analysis.Real.Sqrt
import Mathlib.Analysis.Normed.Lp.ProdLp
import Mathlib.Tactic.Ring
import Mathlib.Tactic.Linarith
import Mathlib.Tactic.NormNum
import Mathlib.Tactic.Positivity
/-! # What `contains_point` and `distance_outside` mean (real arithmetic)

`A5/Model/DistanceG.lean` states the two loops of `geometry/pentagon.rs` over an arbitrary scalar type and ties them to
the `Float` model.  Here the twins are evaluated at `ℝ` (`Real.sqrt`, `max`, `min`) and their meaning is proved, for an
arbitrary list of vertices `vs : List (ℝ × ℝ)` (no hypothesis on length, convexity or edge lengths is needed: an edge of
length zero, or a point sitting on `v1`, has `cross = 0` and never enters the `cross < 0` branch).

"Inner side of edge `i`" means `0 ≤ crossAt vs i p`, where `crossAt vs i p` is the number
`(v1.x - v2.x) * (p.y - v1.y) - (v1.y - v2.y) * (p.x - v1.x)` for `v1 = vs[i]`, `v2 = vs[(i+1) % n]`.  For a convex polygon
in the vertex order the library's winding assertion accepts, `InsideR vs p` (inner side of every edge) is membership in
the closed polygon.

What is NOT here: any transfer to the `Float` run beyond the structural facts of `DistanceG.lean` (rounding in `cross`
can flip the sign test for points within ≈ 2^-52 · scale of an edge line). -/
namespace A5.DG

noncomputable def realOps : Ops ℝ where
  zero := 0
  one := 1
  sqrt := Real.sqrt
  max := max
  min := min

noncomputable def distanceOutsideR (vs : List (ℝ × ℝ)) (p : ℝ × ℝ) : ℝ := distanceOutsideG realOps vs p

noncomputable def containsR (vs : List (ℝ × ℝ)) (p : ℝ × ℝ) : ℝ := containsG realOps vs p

def crossAt (vs : List (ℝ × ℝ)) (i : Nat) (p : ℝ × ℝ) : ℝ :=
  crossG (vs.getD i (0, 0)) (vs.getD ((i + 1) % vs.length) (0, 0)) p

def InsideR (vs : List (ℝ × ℝ)) (p : ℝ × ℝ) : Prop := ∀ i, i < vs.length → 0 ≤ crossAt vs i p

noncomputable def eucl (p x : ℝ × ℝ) : ℝ := Real.sqrt ((p.1 - x.1) ^ 2 + (p.2 - x.2) ^ 2)

theorem eucl_eq_dist (p x : ℝ × ℝ) : eucl p x = dist (WithLp.toLp 2 p) (WithLp.toLp 2 x) := by
  rewrite [WithLp.prod_dist_eq_of_L2]
  simp only [WithLp.toLp_fst, WithLp.toLp_snd, Real.dist_eq, sq_abs]
  rfl

theorem insideR_iff (vs : List (ℝ × ℝ)) (p : ℝ × ℝ) : InsideR vs p ↔ ∀ c ∈ crossesG (0 : ℝ) vs p, 0 ≤ c :=
  (forall_crossesG_iff (0 : ℝ) vs p (fun c => 0 ≤ c)).symm

theorem insideR_iff_no_violation (vs : List (ℝ × ℝ)) (p : ℝ × ℝ) :
    InsideR vs p ↔ ∀ c ∈ crossesG realOps.zero vs p, ¬ c < realOps.zero := by
  rewrite [insideR_iff]
  exact forall_congr' fun c => forall_congr' fun _ => not_lt.symm

theorem mem_edgesG (vs : List (ℝ × ℝ)) (e : Edge ℝ) :
    e ∈ edgesG (0 : ℝ) vs ↔ ∃ i, i < vs.length ∧ edgeG (0 : ℝ) vs i = e := by
  unfold edgesG
  simp only [List.mem_map, List.mem_range]

theorem sqrt_sq_add_sq_pos {a b : ℝ} (h : ¬ (a = 0 ∧ b = 0)) : 0 < Real.sqrt (a * a + b * b) := by
  rewrite [Real.sqrt_pos]
  exact lt_of_le_of_ne (add_nonneg (mul_self_nonneg _) (mul_self_nonneg _))
    fun h0 => h (mul_self_add_mul_self_eq_zero.1 h0.symm)

theorem edgeLen_pos (p : ℝ × ℝ) (e : Edge ℝ) (h : crossG e.1 e.2 p < 0) : 0 < edgeLenG realOps e := by
  refine sqrt_sq_add_sq_pos fun ⟨hx, hy⟩ => ?_
  unfold crossG at h
  rewrite [hx, hy] at h
  simp only [zero_mul, sub_zero, lt_self_iff_false] at h

theorem pointLen_pos (p : ℝ × ℝ) (e : Edge ℝ) (h : crossG e.1 e.2 p < 0) : 0 < pointLenG realOps p e := by
  refine sqrt_sq_add_sq_pos fun ⟨hx, hy⟩ => ?_
  unfold crossG at h
  rewrite [hx, hy] at h
  simp only [mul_zero, sub_zero, lt_self_iff_false] at h

theorem distTerm_pos (p : ℝ × ℝ) (e : Edge ℝ) (h : crossG e.1 e.2 p < 0) :
    0 < -crossG e.1 e.2 p / edgeLenG realOps e := div_pos (neg_pos.2 h) (edgeLen_pos p e h)

theorem containsTerm_neg (p : ℝ × ℝ) (e : Edge ℝ) (h : crossG e.1 e.2 p < 0) :
    crossG e.1 e.2 p / pointLenG realOps p e < 0 := div_neg_of_neg_of_pos h (pointLen_pos p e h)

/-- `cross` is affine in the point: the difference of two values is the dot product of the edge normal `(-dy, dx)` with
the difference of the points -/
theorem crossG_sub (v1 v2 p x : ℝ × ℝ) :
    crossG v1 v2 x - crossG v1 v2 p = (v1.1 - v2.1) * (x.2 - p.2) - (v1.2 - v2.2) * (x.1 - p.1) := by
  unfold crossG; ring

/-- Cauchy-Schwarz in the plane, for a normal `(-b, a)` and a vector `(c, d)` -/
theorem cauchy2 (a b c d : ℝ) : (a * d - b * c) ^ 2 ≤ (c ^ 2 + d ^ 2) * (a * a + b * b) := by
  rewrite [← sub_nonneg, show (c ^ 2 + d ^ 2) * (a * a + b * b) - (a * d - b * c) ^ 2 = (a * c + b * d) ^ 2 by ring]
  exact sq_nonneg _

/-- **one edge.**  If `p` is on the outer side of the line through `v1`, `v2` (`cross(p) < 0`) and `x` on the inner side
(`0 ≤ cross(x)`), then the distance from `p` to that line, `-cross(p) / |v1 - v2|`, is at most `|p - x|`
(Cauchy-Schwarz for the edge normal and `x - p`). -/
theorem edge_distance_le (v1 v2 p x : ℝ × ℝ) (hp : crossG v1 v2 p < 0) (hx : 0 ≤ crossG v1 v2 x) :
    -crossG v1 v2 p / Real.sqrt ((v1.1 - v2.1) * (v1.1 - v2.1) + (v1.2 - v2.2) * (v1.2 - v2.2)) ≤ eucl p x := by
  have hL : 0 < Real.sqrt ((v1.1 - v2.1) * (v1.1 - v2.1) + (v1.2 - v2.2) * (v1.2 - v2.2)) :=
    edgeLen_pos p (v1, v2) hp
  rewrite [div_le_iff₀ hL]
  have h1 : -crossG v1 v2 p ≤ (v1.1 - v2.1) * (x.2 - p.2) - (v1.2 - v2.2) * (x.1 - p.1) := by
    rewrite [← crossG_sub]; exact le_sub_iff_add_le.2 (by rewrite [neg_add_cancel]; exact hx)
  refine le_trans h1 (le_trans (le_abs_self _) ?_)
  unfold eucl
  rewrite [← Real.sqrt_mul (add_nonneg (sq_nonneg _) (sq_nonneg _))]
  refine Real.abs_le_sqrt ?_
  have h := cauchy2 (v1.1 - v2.1) (v1.2 - v2.2) (x.1 - p.1) (x.2 - p.2)
  rewrite [sub_sq_comm x.1, sub_sq_comm x.2] at h
  exact h

theorem le_foldl_distStep (p : ℝ × ℝ) (l : List (Edge ℝ)) (d : ℝ) : d ≤ l.foldl (distStepG realOps p) d := by
  induction l generalizing d with
  | nil => exact le_refl _
  | cons e l ih =>
    refine le_trans ?_ (ih _)
    unfold distStepG
    split
    · exact le_max_left _ _
    · exact le_refl _

theorem term_le_foldl_distStep (p : ℝ × ℝ) (l : List (Edge ℝ)) (d : ℝ) (e : Edge ℝ) (he : e ∈ l)
    (hc : crossG e.1 e.2 p < 0) :
    -crossG e.1 e.2 p / edgeLenG realOps e ≤ l.foldl (distStepG realOps p) d := by
  induction l generalizing d with
  | nil => cases he
  | cons e' l ih =>
    rewrite [List.foldl_cons]
    rcases List.mem_cons.1 he with rfl | he'
    · refine le_trans ?_ (le_foldl_distStep p l _)
      unfold distStepG
      rewrite [if_pos (show crossG e.1 e.2 p < realOps.zero from hc)]
      exact le_max_right _ _
    · exact ih _ he'

theorem foldl_distStep_le (p : ℝ × ℝ) (l : List (Edge ℝ)) (d B : ℝ) (hd : d ≤ B)
    (h : ∀ e ∈ l, crossG e.1 e.2 p < 0 → -crossG e.1 e.2 p / edgeLenG realOps e ≤ B) :
    l.foldl (distStepG realOps p) d ≤ B := by
  induction l generalizing d with
  | nil => exact hd
  | cons e l ih =>
    rewrite [List.foldl_cons]
    refine ih _ ?_ fun e' he' => h e' (List.mem_cons_of_mem _ he')
    unfold distStepG
    split
    · exact max_le hd (h e List.mem_cons_self (by assumption))
    · exact hd

theorem foldl_containsStep_le (p : ℝ × ℝ) (l : List (Edge ℝ)) (d : ℝ) : l.foldl (containsStepG realOps p) d ≤ d := by
  induction l generalizing d with
  | nil => exact le_refl _
  | cons e l ih =>
    refine le_trans (ih _) ?_
    unfold containsStepG
    split
    · exact min_le_left _ _
    · exact le_refl _

theorem foldl_containsStep_le_term (p : ℝ × ℝ) (l : List (Edge ℝ)) (d : ℝ) (e : Edge ℝ) (he : e ∈ l)
    (hc : crossG e.1 e.2 p < 0) :
    l.foldl (containsStepG realOps p) d ≤ crossG e.1 e.2 p / pointLenG realOps p e := by
  induction l generalizing d with
  | nil => cases he
  | cons e' l ih =>
    rewrite [List.foldl_cons]
    rcases List.mem_cons.1 he with rfl | he'
    · refine le_trans (foldl_containsStep_le p l _) ?_
      unfold containsStepG
      rewrite [if_pos (show crossG e.1 e.2 p < realOps.zero from hc)]
      exact min_le_right _ _
    · exact ih _ he'

theorem exists_violated_of_not_inside (vs : List (ℝ × ℝ)) (p : ℝ × ℝ) (h : ¬ InsideR vs p) :
    ∃ e ∈ edgesG (0 : ℝ) vs, crossG e.1 e.2 p < 0 := by
  unfold InsideR at h
  simp only [not_forall, not_le, exists_prop] at h
  obtain ⟨i, hi, hc⟩ := h
  exact ⟨edgeG 0 vs i, (mem_edgesG vs _).2 ⟨i, hi, rfl⟩, hc⟩

theorem distanceOutside_nonneg (vs : List (ℝ × ℝ)) (p : ℝ × ℝ) : 0 ≤ distanceOutsideR vs p :=
  le_foldl_distStep p _ 0

/-- `distance_outside` is at least the distance to the line of every violated edge -/
theorem edge_term_le_distanceOutside (vs : List (ℝ × ℝ)) (p : ℝ × ℝ) (i : Nat) (hi : i < vs.length)
    (hc : crossAt vs i p < 0) :
    -crossAt vs i p / edgeLenG realOps (edgeG 0 vs i) ≤ distanceOutsideR vs p :=
  term_le_foldl_distStep p _ 0 (edgeG 0 vs i) ((mem_edgesG vs _).2 ⟨i, hi, rfl⟩) hc

/-- `distance_outside` is zero exactly for the points on the inner side of every edge (no hypothesis on the
polygon: an edge of length zero has `cross = 0` and is never "violated") -/
theorem distanceOutside_eq_zero_iff (vs : List (ℝ × ℝ)) (p : ℝ × ℝ) : distanceOutsideR vs p = 0 ↔ InsideR vs p := by
  constructor
  · intro h0
    by_contra hn
    obtain ⟨e, he, hc⟩ := exists_violated_of_not_inside vs p hn
    have h1 : _ ≤ distanceOutsideR vs p := term_le_foldl_distStep p (edgesG (0 : ℝ) vs) 0 e he hc
    rewrite [h0] at h1
    exact absurd (distTerm_pos p e hc) (not_lt.2 h1)
  · intro h
    exact distanceOutsideG_of_no_violation realOps vs p ((insideR_iff_no_violation vs p).1 h)

/-- outside points have a positive `distance_outside` -/
theorem distanceOutside_pos_iff (vs : List (ℝ × ℝ)) (p : ℝ × ℝ) : 0 < distanceOutsideR vs p ↔ ¬ InsideR vs p := by
  rewrite [← distanceOutside_eq_zero_iff]
  have := distanceOutside_nonneg vs p
  constructor
  · intro h h0; linarith
  · intro h; exact lt_of_le_of_ne this (Ne.symm h)

theorem contains_neg_of_not_inside (vs : List (ℝ × ℝ)) (p : ℝ × ℝ) (hn : ¬ InsideR vs p) : containsR vs p < 0 := by
  obtain ⟨e, he, hc⟩ := exists_violated_of_not_inside vs p hn
  exact lt_of_le_of_lt (foldl_containsStep_le_term p (edgesG (0 : ℝ) vs) 1 e he hc) (containsTerm_neg p e hc)

theorem contains_eq_one_iff (vs : List (ℝ × ℝ)) (p : ℝ × ℝ) : containsR vs p = 1 ↔ InsideR vs p := by
  constructor
  · intro h1
    by_contra hn
    have := contains_neg_of_not_inside vs p hn
    rewrite [h1] at this
    exact absurd this (not_lt.2 zero_le_one)
  · intro h
    exact containsG_of_no_violation realOps vs p ((insideR_iff_no_violation vs p).1 h)

theorem contains_neg_iff (vs : List (ℝ × ℝ)) (p : ℝ × ℝ) : containsR vs p < 0 ↔ ¬ InsideR vs p := by
  refine ⟨fun hneg h => ?_, contains_neg_of_not_inside vs p⟩
  rewrite [(contains_eq_one_iff vs p).2 h] at hneg
  exact absurd hneg (not_lt.2 zero_le_one)

theorem contains_eq_one_or_neg (vs : List (ℝ × ℝ)) (p : ℝ × ℝ) : containsR vs p = 1 ∨ containsR vs p < 0 := by
  by_cases h : InsideR vs p
  · exact Or.inl ((contains_eq_one_iff vs p).2 h)
  · exact Or.inr ((contains_neg_iff vs p).2 h)

theorem contains_pos_iff (vs : List (ℝ × ℝ)) (p : ℝ × ℝ) : 0 < containsR vs p ↔ InsideR vs p := by
  constructor
  · intro hpos
    by_contra hn
    exact lt_asymm hpos (contains_neg_of_not_inside vs p hn)
  · intro h
    rewrite [(contains_eq_one_iff vs p).2 h]
    exact one_pos

/-- the lookup's "hit" test and the fallback's distance agree about what "inside" means -/
theorem contains_pos_iff_distanceOutside_zero (vs : List (ℝ × ℝ)) (p : ℝ × ℝ) :
    0 < containsR vs p ↔ distanceOutsideR vs p = 0 :=
  (contains_pos_iff vs p).trans (distanceOutside_eq_zero_iff vs p).symm

/-- **soundness of the ranking.**  For every point `x` on the inner side of every edge (every point of the closed
polygon, when it is convex and wound as the library expects), `distance_outside(p)` is at most the Euclidean distance
from `p` to `x`: the fallback's ranking value never overestimates the distance from `p` to the cell. -/
theorem distanceOutside_le_dist (vs : List (ℝ × ℝ)) (p x : ℝ × ℝ) (hx : InsideR vs x) :
    distanceOutsideR vs p ≤ eucl p x := by
  refine foldl_distStep_le p _ 0 _ (Real.sqrt_nonneg _) ?_
  intro e he hc
  obtain ⟨i, hi, rfl⟩ := (mem_edgesG vs e).1 he
  exact edge_distance_le _ _ p x hc (hx i hi)

/-- the same with Mathlib's metric of the Euclidean plane `WithLp 2 (ℝ × ℝ)` -/
theorem distanceOutside_le_dist' (vs : List (ℝ × ℝ)) (p x : ℝ × ℝ) (hx : InsideR vs x) :
    distanceOutsideR vs p ≤ dist (WithLp.toLp 2 p) (WithLp.toLp 2 x) := by
  rewrite [← eucl_eq_dist]
  exact distanceOutside_le_dist vs p x hx

/-- `distanceOutside_eq_zero_iff` with `InsideR` written out, for polygons (`3 ≤ vs.length`); the length hypothesis is not needed -/
theorem distanceOutside_eq_zero_iff_of_polygon (vs : List (ℝ × ℝ)) (_ : 3 ≤ vs.length) (p : ℝ × ℝ) :
    distanceOutsideR vs p = 0 ↔ ∀ i, i < vs.length → 0 ≤ crossAt vs i p := distanceOutside_eq_zero_iff vs p

/-! ### non-vacuity: the unit square

Vertex order `(0,0), (0,1), (1,1), (1,0)`: the order the library's winding assertion accepts (trapezoid sum
`Σ (x_j - x_i)(y_j + y_i) = 2 ≥ 0`); the inner side of every edge is `cross ≥ 0`. -/

def unitSquareR : List (ℝ × ℝ) := [(0, 0), (0, 1), (1, 1), (1, 0)]

theorem unitSquareR_edges :
    edgesG (0 : ℝ) unitSquareR = [((0, 0), (0, 1)), ((0, 1), (1, 1)), ((1, 1), (1, 0)), ((1, 0), (0, 0))] := rfl

theorem unitSquareR_crosses (p : ℝ × ℝ) :
    crossesG (0 : ℝ) unitSquareR p = [p.1, 1 - p.2, 1 - p.1, p.2] := by
  unfold crossesG
  rewrite [unitSquareR_edges]
  simp [crossG]

theorem unitSquareR_inside_iff (p : ℝ × ℝ) :
    InsideR unitSquareR p ↔ 0 ≤ p.1 ∧ p.1 ≤ 1 ∧ 0 ≤ p.2 ∧ p.2 ≤ 1 := by
  rewrite [insideR_iff, unitSquareR_crosses]
  simp only [List.forall_mem_cons, List.not_mem_nil, false_imp_iff, implies_true, and_true, sub_nonneg]
  tauto

/-- the centre is inside: both functions report it -/
example : InsideR unitSquareR (1 / 2, 1 / 2) := by rewrite [unitSquareR_inside_iff]; norm_num
example : distanceOutsideR unitSquareR (1 / 2, 1 / 2) = 0 :=
  (distanceOutside_eq_zero_iff _ _).2 (by rewrite [unitSquareR_inside_iff]; norm_num)
example : containsR unitSquareR (1 / 2, 1 / 2) = 1 :=
  (contains_eq_one_iff _ _).2 (by rewrite [unitSquareR_inside_iff]; norm_num)

/-- a point outside, at distance exactly `1/2` from the bottom edge: `distance_outside = 1/2` -/
example : distanceOutsideR unitSquareR (1 / 2, -1 / 2) = 1 / 2 := by
  unfold distanceOutsideR distanceOutsideG
  rewrite [show realOps.zero = (0 : ℝ) from rfl, unitSquareR_edges]
  simp only [List.foldl_cons, List.foldl_nil, distStepG, crossG, edgeLenG, realOps]
  norm_num

/-- it is not inside, the hit test fails, and the value is the true distance to the square (attained at `(1/2, 0)`) -/
example : ¬ InsideR unitSquareR (1 / 2, -1 / 2) := by rewrite [unitSquareR_inside_iff]; norm_num
example : containsR unitSquareR (1 / 2, -1 / 2) < 0 :=
  (contains_neg_iff _ _).2 (by rewrite [unitSquareR_inside_iff]; norm_num)
example : eucl (1 / 2, -1 / 2) (1 / 2, 0) = 1 / 2 := by
  unfold eucl
  rewrite [show ((1 / 2 : ℝ) - 1 / 2) ^ 2 + (-1 / 2 - 0) ^ 2 = (1 / 2) ^ 2 by norm_num]
  exact Real.sqrt_sq (by norm_num)

/-- beyond a corner the value is the larger of the two line distances, here `1`, strictly below the true distance
`√(1 + 1/4)` to the nearest point `(1, 0)`: `distanceOutside_le_dist` is an inequality, not an equation -/
example : distanceOutsideR unitSquareR (2, -1 / 2) = 1 := by
  unfold distanceOutsideR distanceOutsideG
  rewrite [show realOps.zero = (0 : ℝ) from rfl, unitSquareR_edges]
  simp only [List.foldl_cons, List.foldl_nil, distStepG, crossG, edgeLenG, realOps]
  norm_num
example : distanceOutsideR unitSquareR (2, -1 / 2) ≤ eucl (2, -1 / 2) (1, 0) :=
  distanceOutside_le_dist _ _ _ (by rewrite [unitSquareR_inside_iff]; norm_num)

end A5.DG
