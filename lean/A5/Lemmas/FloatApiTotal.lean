import A5.Lemmas.LookupSkel
import A5.Lemmas.Total
/-! Outcome-level totality of the float-valued public calls (`cell_to_lonlat`, `cell_to_boundary`,
`a5cell_contains_point`, `get_pentagon`, `DodecahedronProjection::forward/inverse`, `cell_area`).

Every `Float` is treated as an arbitrary value: the lemmas only use the control / list / `Outcome`
structure of the model.  For every input they list exactly which `err` kinds and which `panic` kinds
the model can produce.  Float-dependent events that cannot be excluded at this level are named:

* `crsVertex` (error): `CRS::get_vertex` finds no stored vertex within tolerance;
* `notCCW` (panic): the winding assertion of `contains_point` (only on the containment path);
* `fuel` (panic = non-termination): the two `while` loops of `normalize_longitudes` (only in
  `cell_to_boundary`; they terminate as soon as the longitude is a finite number).

Core-only. -/
namespace A5

/-- the decoder: a record, or `badOrigin`; nothing else -/
theorem deserialize_within (id : Nat) : (deserialize id).Within (· = .badOrigin) (fun _ => False) := by
  rcases deserialize_cases id with ⟨c, h⟩ | h
  · rewrite [h]; exact Outcome.Within.ok _
  · rewrite [h]; exact (Outcome.Within.err_iff _).2 rfl

theorem sToAnchor_not_err (s n : Nat) (o : Orientation) (e : ErrKind) : sToAnchor s n o ≠ .err e := by
  intro h
  rcases sToAnchor_cases s n o with ⟨_, k, hk⟩ | ⟨_, a, ha⟩
  · rewrite [hk] at h; cases h
  · rewrite [ha] at h; cases h

/-- EXACT panic set of `s_to_anchor` (model of the overflow-checked build): the reversed orientations
compute `(1u64 << 2n) - s - 1`, the `j`-inverting orientations compute `1 << n` -/
theorem sToAnchor_isPanic_iff (s n : Nat) (o : Orientation) :
    (sToAnchor s n o).isPanic = true ↔
      (oriReverse o = true ∧ (32 ≤ n ∨ 4 ^ n ≤ s)) ∨ (oriInvertJ o = true ∧ 31 ≤ n) := by
  rcases sToAnchor_cases s n o with ⟨hp, k, hk⟩ | ⟨hp, a, ha⟩
  · rewrite [hk]; exact ⟨fun _ => hp, fun _ => rfl⟩
  · rewrite [ha]; exact ⟨(fun h => by cases h), fun h => absurd h hp⟩

/-- `get_pentagon` never returns `Err` (its only `map_err` is a `u64 → string → u64` round trip) -/
theorem getPentagon_not_err (c : Cell) (e : ErrKind) : getPentagon c ≠ .err e := by
  intro h
  rewrite [getPentagon_eq] at h
  -- the four guards end in `panic` or `ok`
  repeat (split at h; cases h)
  rcases sToAnchor_cases c.s (c.res - 1).toNat (segmentToQuintant c.segment (originAt c.origin)).2 with
    ⟨_, k, hk⟩ | ⟨_, a, ha⟩
  · rewrite [hk] at h; cases h
  · rewrite [ha] at h; cases h

/-- EXACT success condition of `get_pentagon` on an ARBITRARY record (the struct `A5Cell` has public
fields, `get_pentagon` is `pub`): it returns a polygon iff the origin names a face and either the
resolution is 0 or 1, or it is ≥ 2 and `s_to_anchor` does not overflow.  In every other case the model
panics (`getPentagon_not_err`): origin ≥ 12 is an index out of bounds, a negative resolution makes the
curve depth `(res - 1) as usize` astronomically large. -/
theorem getPentagon_isOk_iff (c : Cell) :
    (getPentagon c).isOk = true ↔
      c.origin < 12 ∧ (c.res = 0 ∨ c.res = 1 ∨
        (2 ≤ c.res ∧ (sToAnchor c.s (c.res - 1).toNat
            (segmentToQuintant c.segment (originAt c.origin)).2).isPanic = false)) := by
  rewrite [getPentagon_eq]
  by_cases h12 : 12 ≤ c.origin
  · rewrite [if_pos h12]; exact ⟨(fun h => by cases h), fun h => by omega⟩
  rewrite [if_neg h12]
  by_cases h1 : c.res = 1
  · rewrite [if_pos h1]; exact ⟨fun _ => ⟨by omega, Or.inr (Or.inl h1)⟩, fun _ => rfl⟩
  rewrite [if_neg h1]
  by_cases h0 : c.res = 0
  · rewrite [if_pos h0]; exact ⟨fun _ => ⟨by omega, Or.inl h0⟩, fun _ => rfl⟩
  rewrite [if_neg h0]
  by_cases hn : c.res < 0
  · rewrite [if_pos hn]; exact ⟨(fun h => by cases h), fun h => by omega⟩
  rewrite [if_neg hn]
  cases hs : sToAnchor c.s (c.res - 1).toNat (segmentToQuintant c.segment (originAt c.origin)).2 with
  | ok a => exact ⟨fun _ => ⟨by omega, Or.inr (Or.inr ⟨by omega, rfl⟩)⟩, fun _ => rfl⟩
  | err e' => exact absurd hs (sToAnchor_not_err _ _ _ _)
  | panic k =>
    refine ⟨(fun h => by cases h), fun h => ?_⟩
    rcases h with ⟨_, h | h | ⟨_, h⟩⟩
    · omega
    · omega
    · cases h

/-- the record of the world cell (which `deserialize` returns for `0` and for every id without a
resolution marker) is NOT accepted by `get_pentagon`: the model reports non-termination -/
theorem getPentagon_negative_res (c : Cell) (ho : c.origin < 12) (hr : c.res < 0) :
    getPentagon c = .panic .fuel := by
  rewrite [getPentagon_eq, if_neg (by omega), if_neg (by omega), if_neg (by omega), if_pos hr]
  rfl

theorem getPentagon_bad_origin (c : Cell) (ho : 12 ≤ c.origin) : getPentagon c = .panic .indexOOB := by
  rewrite [getPentagon_eq, if_pos ho]
  rfl

theorem dodecaInverse_within {E : ErrKind → Prop} (f : V2) (o : Nat) (ho : o < 12)
    (hE : ∀ idx refl, idx ≤ 9 → (computeSphericalTriangle idx o refl).Within E (fun _ => False)) :
    (dodecaInverse f o).Within E (fun _ => False) := by
  unfold dodecaInverse
  rewrite [if_neg (by rewrite [origins_length]; omega)]
  dsimp only [toPolar]
  obtain ⟨ft, hft⟩ := getFaceTriangle_ok _ (faceTriangleIndex_le _) _ false
  rewrite [hft]
  simp only [Outcome.bind_ok]
  exact Outcome.Within.bind (hE _ _ (faceTriangleIndex_le _)) fun st _ => Outcome.Within.ok _

theorem dodecaInverse_okOrCrs (f : V2) (o : Nat) (ho : o < 12) : OkOrCrs (dodecaInverse f o) :=
  dodecaInverse_within f o ho fun idx refl hidx => computeSphericalTriangle_okOrCrs idx o refl hidx ho

theorem dodecaInverse_bad_origin (f : V2) (o : Nat) (ho : 12 ≤ o) : dodecaInverse f o = .err .invalidOrigin := by
  unfold dodecaInverse
  rewrite [if_pos (by rewrite [origins_length]; exact ho)]
  rfl

theorem dodecaForward_bad_origin (theta phi : Float) (o : Nat) (ho : 12 ≤ o) :
    dodecaForward theta phi o = .err .invalidOrigin := by
  unfold dodecaForward
  rewrite [if_pos (by rewrite [origins_length]; exact ho)]
  rfl

/-- error kinds of a projection call with origin id `o` -/
def ProjErr (o : Nat) (e : ErrKind) : Prop := (e = .crsVertex ∧ o < 12) ∨ (e = .invalidOrigin ∧ 12 ≤ o)

theorem projErr_of {α : Type} {x : Outcome α} {o : Nat} (hlt : o < 12 → OkOrCrs x)
    (hge : 12 ≤ o → x = .err .invalidOrigin) : x.Within (ProjErr o) (fun _ => False) := by
  by_cases ho : o < 12
  · exact (hlt ho).mono (fun e h => Or.inl ⟨h, ho⟩) (fun _ h => h)
  · rewrite [hge (by omega)]
    exact (Outcome.Within.err_iff _).2 (Or.inr ⟨rfl, by omega⟩)

theorem ProjErr.cases {α : Type} {x : Outcome α} {o : Nat} (h : x.Within (ProjErr o) (fun _ => False)) :
    (∃ v, x = .ok v) ∨ (x = .err .crsVertex ∧ o < 12) ∨ (x = .err .invalidOrigin ∧ 12 ≤ o) := by
  rcases h.elim with h | ⟨e, h, ⟨he, ho⟩ | ⟨he, ho⟩⟩ | ⟨k, _, hk⟩
  · exact Or.inl h
  · subst he; exact Or.inr (Or.inl ⟨h, ho⟩)
  · subst he; exact Or.inr (Or.inr ⟨h, ho⟩)
  · exact hk.elim

/-- **`forward`, every origin id, every pair of floats**: a face point, `crsVertex` (only for a real
face) or `invalidOrigin` (exactly for ids ≥ 12).  No panic; never `other` (the face-triangle index and
the memo slots are always in range). -/
theorem dodecaForward_outcomes (theta phi : Float) (o : Nat) :
    (dodecaForward theta phi o).Within (ProjErr o) (fun _ => False) :=
  projErr_of (dodecaForward_okOrCrs theta phi o) (dodecaForward_bad_origin theta phi o)

theorem dodecaInverse_outcomes (f : V2) (o : Nat) :
    (dodecaInverse f o).Within (ProjErr o) (fun _ => False) :=
  projErr_of (dodecaInverse_okOrCrs f o) (dodecaInverse_bad_origin f o)

/-- error kinds of the id-based float calls -/
def IdErr (e : ErrKind) : Prop := e = .badOrigin ∨ e = .crsVertex

theorem cellToLonLat_decoded_within {E : ErrKind → Prop} (id : Nat) (c : Cell) (hc : deserialize id = .ok c)
    (hE : ∀ v, (dodecaInverse v c.origin).Within E (fun _ => False)) :
    (cellToLonLat id).Within E (fun _ => False) := by
  by_cases hr : c.res = -1
  · rewrite [cellToLonLat_world id (by rewrite [← deserialize_res id c hc]; exact hr)]
    exact Outcome.Within.ok _
  obtain ⟨p, hp⟩ := getPentagon_valid c (deserialize_ok_valid' id c hc) hr
  rewrite [cellToLonLat_decoded_eq id c hc hr, hp, Outcome.bind_ok]
  exact Outcome.Within.bind (hE _) fun tp _ => Outcome.Within.ok _

theorem cellToLonLat_decoded (id : Nat) (c : Cell) (hc : deserialize id = .ok c) : OkOrCrs (cellToLonLat id) :=
  cellToLonLat_decoded_within id c hc fun v => dodecaInverse_okOrCrs v c.origin (deserialize_ok_valid' id c hc).origin_lt

theorem cellToLonLat_undecodable (id : Nat) (h : deserialize id = .err .badOrigin) :
    cellToLonLat id = .err .badOrigin := by
  unfold cellToLonLat
  rewrite [if_neg (ne_world_of_deserialize id (by rewrite [h]; intro h'; cases h')), h]
  rfl

/-- **`cell_to_lonlat`, every id**: a coordinate pair, `badOrigin` (the id does not decode) or
`crsVertex`.  No panic of any kind: the curve depth `res - 2 + 1` is never negative because the
resolution `-1` is answered before `get_pentagon`, `s_to_anchor` does not overflow because the decoder
only produces positions below `4^(res-1)` with `res ≤ 29`, the origin is one of the twelve faces. -/
theorem cellToLonLat_within (id : Nat) : (cellToLonLat id).Within IdErr (fun _ => False) := by
  rcases deserialize_cases id with ⟨c, hc⟩ | hc
  · exact (cellToLonLat_decoded id c hc).mono (fun _ h => Or.inr h) (fun _ h => h)
  · rewrite [cellToLonLat_undecodable id hc]
    exact (Outcome.Within.err_iff _).2 (Or.inl rfl)

theorem cellToLonLat_outcomes (id : Nat) :
    (∃ p, cellToLonLat id = .ok p) ∨ cellToLonLat id = .err .badOrigin ∨ cellToLonLat id = .err .crsVertex := by
  rcases (cellToLonLat_within id).elim with h | ⟨e, h, he | he⟩ | ⟨k, _, hk⟩
  · exact Or.inl h
  · subst he; exact Or.inr (Or.inl h)
  · subst he; exact Or.inr (Or.inr h)
  · exact hk.elim

theorem unwrapLonUp_within : ∀ (fuel : Nat) (lon center : Float),
    (unwrapLon.unwrapLonUp fuel lon center).Within (fun _ => False) (· = .fuel) := by
  intro fuel
  induction fuel with
  | zero => intro lon center; exact (Outcome.Within.panic_iff _).2 rfl
  | succ n ih =>
    intro lon center
    unfold unwrapLon.unwrapLonUp
    split
    · exact ih _ _
    · exact Outcome.Within.ok _

theorem unwrapLon_within : ∀ (fuel : Nat) (lon center : Float),
    (unwrapLon fuel lon center).Within (fun _ => False) (· = .fuel) := by
  intro fuel
  induction fuel with
  | zero => intro lon center; exact (Outcome.Within.panic_iff _).2 rfl
  | succ n ih =>
    intro lon center
    unfold unwrapLon
    split
    · exact ih _ _
    · split
      · exact unwrapLonUp_within _ _ _
      · exact Outcome.Within.ok _

/-- `normalize_longitudes` never reports an error; the only panic of the model is the fuel of the two
`while` loops (64 iterations each) -/
theorem normalizeLongitudes_within (l : List (Float × Float)) :
    (normalizeLongitudes l).Within (fun _ => False) (· = .fuel) := by
  rewrite [normalizeLongitudes_eq_fast]
  cases l with
  | nil => exact Outcome.Within.ok _
  | cons a as =>
    unfold normalizeLongitudesFast
    refine mapOutcome'_within _ (fun p => ?_) _
    exact Outcome.Within.bind (unwrapLon_within _ _ _) fun l _ => Outcome.Within.ok _

/-- on an id that decodes: a ring, an error of the inverse projection, or the loop fuel of
`normalize_longitudes`.  In particular the `normalized_boundary[0]` of the closed ring never indexes an
empty vector (the split polygon has `corners · max(segments, 1) ≥ 3` points and no stage drops a point). -/
theorem cellToBoundary_decoded_within {E : ErrKind → Prop} (id : Nat) (closed : Bool) (segs : Option Nat) (c : Cell)
    (hc : deserialize id = .ok c) (hE : ∀ v, (dodecaInverse v c.origin).Within E (fun _ => False)) :
    (cellToBoundary id closed segs).Within E (· = .fuel) := by
  by_cases hr : c.res = -1
  · rewrite [cellToBoundary_world id closed segs (by rewrite [← deserialize_res id c hc]; exact hr)]
    exact Outcome.Within.ok _
  obtain ⟨p, hp⟩ := getPentagon_valid c (deserialize_ok_valid' id c hc) hr
  have hplen : 0 < p.length := by rewrite [getPentagon_length c p hp]; unfold corners; split <;> omega
  rewrite [cellToBoundary_decoded_eq id closed segs c hc hr, hp, Outcome.bind_ok]
  refine Outcome.Within.bind ((mapOutcome'_within _ hE _).mono (fun _ h => h) (fun _ h => h.elim)) fun sph hsph => ?_
  refine Outcome.Within.bind ((normalizeLongitudes_within _).mono (fun _ h => h.elim) (fun _ h => h))
    fun nb hnb => ?_
  have hlen := normalizeLongitudes_length _ _ hnb
  rewrite [List.length_map, mapOutcome'_length _ _ _ hsph] at hlen
  cases nb with
  | nil =>
    rewrite [polySplitEdges_length_max] at hlen
    exact absurd hlen (Nat.ne_of_lt (Nat.mul_pos hplen (by omega)))
  | cons first rest => exact Outcome.Within.ok _

theorem cellToBoundary_decoded (id : Nat) (closed : Bool) (segs : Option Nat) (c : Cell)
    (hc : deserialize id = .ok c) : (cellToBoundary id closed segs).Within (· = .crsVertex) (· = .fuel) :=
  cellToBoundary_decoded_within id closed segs c hc
    fun v => dodecaInverse_okOrCrs v c.origin (deserialize_ok_valid' id c hc).origin_lt

theorem cellToBoundary_undecodable (id : Nat) (closed : Bool) (segs : Option Nat)
    (h : deserialize id = .err .badOrigin) : cellToBoundary id closed segs = .err .badOrigin := by
  unfold cellToBoundary
  rewrite [if_neg (ne_world_of_deserialize id (by rewrite [h]; intro h'; cases h')), h]
  rfl

/-- **`cell_to_boundary`, every id, both values of `closed_ring`, every `segments` (including `Some(0)`)**:
a ring, `badOrigin`, `crsVertex`, or the loop fuel of `normalize_longitudes`. -/
theorem cellToBoundary_within (id : Nat) (closed : Bool) (segs : Option Nat) :
    (cellToBoundary id closed segs).Within IdErr (· = .fuel) := by
  rcases deserialize_cases id with ⟨c, hc⟩ | hc
  · exact (cellToBoundary_decoded id closed segs c hc).mono (fun _ h => Or.inr h) (fun _ h => h)
  · rewrite [cellToBoundary_undecodable id closed segs hc]
    exact (Outcome.Within.err_iff _).2 (Or.inl rfl)

theorem cellToBoundary_outcomes (id : Nat) (closed : Bool) (segs : Option Nat) :
    (∃ ring, cellToBoundary id closed segs = .ok ring) ∨ cellToBoundary id closed segs = .err .badOrigin ∨
    cellToBoundary id closed segs = .err .crsVertex ∨ cellToBoundary id closed segs = .panic .fuel := by
  rcases (cellToBoundary_within id closed segs).elim with h | ⟨e, h, he | he⟩ | ⟨k, h, hk⟩
  · exact Or.inl h
  · subst he; exact Or.inr (Or.inl h)
  · subst he; exact Or.inr (Or.inr (Or.inl h))
  · subst hk; exact Or.inr (Or.inr (Or.inr h))

theorem cellContainsPoint_of_pentagon_panic (c : Cell) (ho : c.origin < 12) (k : PanicKind)
    (hp : getPentagon c = .panic k) (lon lat : Float) :
    cellContainsPoint c lon lat = .err .crsVertex ∨ cellContainsPoint c lon lat = .panic k := by
  rewrite [cellContainsPoint_eq, hp]
  rcases (dodecaForward_okOrCrs _ _ c.origin ho).cases with h | ⟨pp, h⟩
  · rewrite [h]; exact Or.inl rfl
  · rewrite [h]; exact Or.inr rfl

/-- an origin id that is not a face is rejected by the projection before any table is indexed -/
theorem cellContainsPoint_bad_origin (c : Cell) (ho : 12 ≤ c.origin) (lon lat : Float) :
    cellContainsPoint c lon lat = .err .invalidOrigin := by
  rewrite [cellContainsPoint_eq, dodecaForward_bad_origin _ _ c.origin ho]
  rfl

/-- Model and Rust alike: on a record with a negative resolution - in particular on the record
`{origin 0, segment 0, s 0, resolution -1}` that `deserialize` itself returns for the world cell -
`a5cell_contains_point` does not return normally unless the projection already failed: it reaches
`get_pentagon` with curve depth `-2 as usize`. -/
theorem cellContainsPoint_negative_res (c : Cell) (ho : c.origin < 12) (hr : c.res < 0) (lon lat : Float) :
    cellContainsPoint c lon lat = .err .crsVertex ∨ cellContainsPoint c lon lat = .panic .fuel :=
  cellContainsPoint_of_pentagon_panic c ho .fuel (getPentagon_negative_res c ho hr) lon lat

/-- **`cell_area`, every integer resolution**: the model is a total function (no `Outcome`): the
authalic area below 0, a table entry for `0 ..= 29`, else the area divided by the *saturating* cell
count, which always fits a `u64` (so the `u64 → f64` cast and the division are ordinary operations). -/
theorem cellArea_cases (r : Int) :
    (r < 0 ∧ cellArea r = fc Gen.AUTHALIC_AREA) ∨
    (0 ≤ r ∧ ∃ c, Gen.CELL_AREA_TABLE[r.toNat]? = some c ∧ cellArea r = fc c) ∨
    (0 ≤ r ∧ Gen.CELL_AREA_TABLE[r.toNat]? = none ∧
      cellArea r = fc Gen.AUTHALIC_AREA / Float.ofNat (getNumCells r) ∧ getNumCells r < 2 ^ 64) := by
  unfold cellArea
  by_cases h : r < 0
  · rewrite [if_pos h]; exact Or.inl ⟨h, rfl⟩
  · rewrite [if_neg h]
    cases ht : Gen.CELL_AREA_TABLE[r.toNat]? with
    | some c => exact Or.inr (Or.inl ⟨by omega, c, rfl, rfl⟩)
    | none => exact Or.inr (Or.inr ⟨by omega, rfl, rfl, getNumCells_lt r⟩)

/-! ### conditional success: the float-dependent events, and nothing else, stand between a
decodable id and an `ok` result -/

/-- the 240 spherical triangles of the projection all compute (a closed, finite fact about the float
constants; the driver evaluates it as `memoSphTotalCheck`, see `MemoApiTotal.lean`) -/
def SphTrianglesCompute : Prop :=
  ∀ (idx o : Nat) (refl : Bool), idx ≤ 9 → o < 12 → ∃ st, computeSphericalTriangle idx o refl = .ok st

theorem SphTrianglesCompute.within (hT : SphTrianglesCompute) (o : Nat) (ho : o < 12) (idx : Nat) (refl : Bool)
    (hidx : idx ≤ 9) : (computeSphericalTriangle idx o refl).Within (fun _ => False) (fun _ => False) := by
  obtain ⟨st, hst⟩ := hT idx o refl hidx ho
  rewrite [hst]
  exact Outcome.Within.ok _

/-- if the id decodes and no `crsVertex` event occurs, `cell_to_lonlat` succeeds -/
theorem cellToLonLat_ok_of_no_event (id : Nat) (hd : ∃ c, deserialize id = .ok c)
    (hcrs : cellToLonLat id ≠ .err .crsVertex) : ∃ p, cellToLonLat id = .ok p := by
  obtain ⟨c, hc⟩ := hd
  rcases (cellToLonLat_decoded id c hc).cases with h | h
  · exact absurd h hcrs
  · exact h

theorem cellToLonLat_ok_of_triangles (hT : SphTrianglesCompute) (id : Nat) (hd : ∃ c, deserialize id = .ok c) :
    ∃ p, cellToLonLat id = .ok p := by
  obtain ⟨c, hc⟩ := hd
  have ho := (deserialize_ok_valid' id c hc).origin_lt
  exact (cellToLonLat_decoded_within id c hc fun v => dodecaInverse_within v c.origin ho (hT.within c.origin ho)).exists_ok

/-- if the id decodes and neither a `crsVertex` nor a loop-fuel event occurs, `cell_to_boundary` succeeds -/
theorem cellToBoundary_ok_of_no_event (id : Nat) (closed : Bool) (segs : Option Nat)
    (hd : ∃ c, deserialize id = .ok c) (hcrs : cellToBoundary id closed segs ≠ .err .crsVertex)
    (hfuel : cellToBoundary id closed segs ≠ .panic .fuel) : ∃ ring, cellToBoundary id closed segs = .ok ring := by
  obtain ⟨c, hc⟩ := hd
  rcases (cellToBoundary_decoded id closed segs c hc).elim with h | ⟨e, h, he⟩ | ⟨k, h, hk⟩
  · exact h
  · subst he; exact absurd h hcrs
  · subst hk; exact absurd h hfuel

/-- if no `crsVertex` / `notCCW` event occurs, the containment test of a decodable non-world cell succeeds -/
theorem cellContainsPoint_ok_of_no_event (c : Cell) (hv : c.Valid) (hr : c.res ≠ -1) (lon lat : Float)
    (hcrs : cellContainsPoint c lon lat ≠ .err .crsVertex) (hccw : cellContainsPoint c lon lat ≠ .panic .notCCW) :
    ∃ d, cellContainsPoint c lon lat = .ok d := by
  rcases (cellContainsPoint_valid c hv hr lon lat).cases with h | h | h
  · exact h
  · exact absurd h hcrs
  · exact absurd h hccw

/-- stronger form: the triangles compute and the cell's own polygon passes the winding test -/
theorem cellContainsPoint_ok_of_triangles (hT : SphTrianglesCompute) (c : Cell) (hv : c.Valid) (hr : c.res ≠ -1)
    (hw : ∀ p, getPentagon c = .ok p → windingCorrect p = true) (lon lat : Float) :
    ∃ d, cellContainsPoint c lon lat = .ok d := by
  obtain ⟨p, hp⟩ := getPentagon_valid c hv hr
  obtain ⟨pp, hpp⟩ := (dodecaForward_within (fromLonLat lon lat).1 (fromLonLat lon lat).2 c.origin hv.origin_lt
    (hT.within c.origin hv.origin_lt)).exists_ok
  rewrite [cellContainsPoint_eq, hpp, Outcome.bind_ok, hp, Outcome.bind_ok]
  unfold polyContains
  rewrite [hw p hp]
  exact ⟨_, rfl⟩

theorem cellToBoundary_ok_of_triangles (hT : SphTrianglesCompute) (id : Nat) (closed : Bool) (segs : Option Nat)
    (hd : ∃ c, deserialize id = .ok c) :
    (∃ ring, cellToBoundary id closed segs = .ok ring) ∨ cellToBoundary id closed segs = .panic .fuel := by
  obtain ⟨c, hc⟩ := hd
  have ho := (deserialize_ok_valid' id c hc).origin_lt
  rcases (cellToBoundary_decoded_within id closed segs c hc
    fun v => dodecaInverse_within v c.origin ho (hT.within c.origin ho)).elim with h | ⟨_, _, h⟩ | ⟨k, h, hk⟩
  · exact Or.inl h
  · exact h.elim
  · subst hk; exact Or.inr h

theorem normalizeLongitudes_panic (l : List (Float × Float)) (k : PanicKind) (h : normalizeLongitudes l = .panic k) :
    ∃ lon center, unwrapLon 64 lon center = .panic k := by
  rewrite [normalizeLongitudes_eq_fast] at h
  cases l with
  | nil => cases h
  | cons a as =>
    unfold normalizeLongitudesFast at h
    obtain ⟨⟨lon, lat⟩, _, hx⟩ := mapOutcome'_panic _ k _ h
    rcases Outcome.bind_eq_panic hx with hx | ⟨_, _, hx⟩
    · exact ⟨lon, _, hx⟩
    · cases hx

/-- **the only panic of `cell_to_boundary`**: one of the two `while` loops of `normalize_longitudes`
fails to bring a longitude within 180° of the centre longitude in 64 steps of 360° -/
theorem cellToBoundary_panic (id : Nat) (closed : Bool) (segs : Option Nat) (k : PanicKind)
    (h : cellToBoundary id closed segs = .panic k) :
    k = .fuel ∧ ∃ lon center, unwrapLon 64 lon center = .panic .fuel := by
  cases (cellToBoundary_within id closed segs).of_panic h
  refine ⟨rfl, ?_⟩
  rcases deserialize_cases id with ⟨c, hc⟩ | hc
  · have hv := deserialize_ok_valid' id c hc
    by_cases hr : c.res = -1
    · rewrite [cellToBoundary_world id closed segs (by rewrite [← deserialize_res id c hc]; exact hr)] at h
      cases h
    obtain ⟨p, hp⟩ := getPentagon_valid c hv hr
    rewrite [cellToBoundary_decoded_eq id closed segs c hc hr, hp, Outcome.bind_ok] at h
    -- the panic is not in the projection stage (`crsVertex` is an error), nor in the final match
    rcases Outcome.bind_eq_panic h with hm | ⟨sph, _, h⟩
    · obtain ⟨v, _, hv'⟩ := mapOutcome'_panic _ _ _ hm
      exact ((dodecaInverse_okOrCrs v c.origin hv.origin_lt).of_panic hv').elim
    rcases Outcome.bind_eq_panic h with hn | ⟨nb, _, h⟩
    · exact normalizeLongitudes_panic _ _ hn
    · cases nb <;> cases h
  · rewrite [cellToBoundary_undecodable id closed segs hc] at h; cases h

/-- the id-based centre call and both projection directions never panic, for any input at all -/
theorem float_calls_never_panic :
    (∀ id : Nat, (cellToLonLat id).isPanic = false) ∧
    (∀ (theta phi : Float) (o : Nat), (dodecaForward theta phi o).isPanic = false) ∧
    (∀ (f : V2) (o : Nat), (dodecaInverse f o).isPanic = false) :=
  ⟨fun id => (cellToLonLat_within id).not_panic, fun t p o => (dodecaForward_outcomes t p o).not_panic,
   fun f o => (dodecaInverse_outcomes f o).not_panic⟩

/-- **`float_api_total`**: outcome-level totality of the float-valued public calls, for every 64-bit (indeed
every natural) id, every `Float` (NaN and infinities included), every option value, every origin id and
every integer resolution.  Float-dependent events that remain: the error `crsVertex`, the panic `notCCW`
(containment path only) and the loop fuel of `normalize_longitudes` (boundary only). -/
theorem float_api_total :
    -- 1. cell_to_lonlat
    (∀ id : Nat, (∃ p, cellToLonLat id = .ok p) ∨ cellToLonLat id = .err .badOrigin ∨
        cellToLonLat id = .err .crsVertex) ∧
    -- 2. cell_to_boundary
    (∀ (id : Nat) (closed : Bool) (segs : Option Nat),
        (∃ ring, cellToBoundary id closed segs = .ok ring) ∨ cellToBoundary id closed segs = .err .badOrigin ∨
        cellToBoundary id closed segs = .err .crsVertex ∨ cellToBoundary id closed segs = .panic .fuel) ∧
    -- 3. a5cell_contains_point on the record of a decodable non-world id
    (∀ (id : Nat) (c : Cell) (lon lat : Float), deserialize id = .ok c → getResolution id ≠ -1 →
        (∃ d, cellContainsPoint c lon lat = .ok d) ∨ cellContainsPoint c lon lat = .err .crsVertex ∨
        cellContainsPoint c lon lat = .panic .notCCW) ∧
    -- 4. the projection, both directions
    (∀ (theta phi : Float) (o : Nat),
        (∃ v, dodecaForward theta phi o = .ok v) ∨ (dodecaForward theta phi o = .err .crsVertex ∧ o < 12) ∨
        (dodecaForward theta phi o = .err .invalidOrigin ∧ 12 ≤ o)) ∧
    (∀ (f : V2) (o : Nat),
        (∃ v, dodecaInverse f o = .ok v) ∨ (dodecaInverse f o = .err .crsVertex ∧ o < 12) ∨
        (dodecaInverse f o = .err .invalidOrigin ∧ 12 ≤ o)) ∧
    -- get_pentagon on the record of a decodable non-world id
    (∀ (id : Nat) (c : Cell), deserialize id = .ok c → getResolution id ≠ -1 → ∃ p, getPentagon c = .ok p) ∧
    -- cell_area: the saturating count always fits a u64
    (∀ r : Int, getNumCells r < 2 ^ 64) :=
  ⟨cellToLonLat_outcomes, cellToBoundary_outcomes,
   fun id c lon lat hd hr => (cellContainsPoint_valid c (deserialize_ok_valid' id c hd)
     (by rewrite [deserialize_res id c hd]; exact hr) lon lat).cases,
   fun t p o => ProjErr.cases (dodecaForward_outcomes t p o), fun f o => ProjErr.cases (dodecaInverse_outcomes f o),
   fun id c hd hr => getPentagon_valid c (deserialize_ok_valid' id c hd) (by rewrite [deserialize_res id c hd]; exact hr),
   getNumCells_lt⟩

/-- the record-level calls are NOT total on hand-made records (public struct, public fields) -/
theorem record_api_findings :
    (∀ c : Cell, 12 ≤ c.origin → getPentagon c = .panic .indexOOB) ∧
    (∀ c : Cell, c.origin < 12 → c.res < 0 → getPentagon c = .panic .fuel) ∧
    (∀ (c : Cell) (lon lat : Float), c.origin < 12 → c.res < 0 →
        cellContainsPoint c lon lat = .err .crsVertex ∨ cellContainsPoint c lon lat = .panic .fuel) ∧
    (∀ (c : Cell) (lon lat : Float), 12 ≤ c.origin → cellContainsPoint c lon lat = .err .invalidOrigin) :=
  ⟨getPentagon_bad_origin, getPentagon_negative_res,
   fun c lon lat ho hr => cellContainsPoint_negative_res c ho hr lon lat,
   fun c lon lat ho => cellContainsPoint_bad_origin c ho lon lat⟩

-- a resolution-4 cell, a stray-bit alias of it, a non-cell, the world cell
example : deserialize 0x92d8000000000000 = .ok ⟨7, 3, 0x2d, 4⟩ := by decide
example : (⟨7, 3, 0x2d, 4⟩ : Cell).Valid := by decide
example : ∃ p, getPentagon ⟨7, 3, 0x2d, 4⟩ = .ok p := getPentagon_valid _ (by decide) (by decide)
example : OkOrCrs (cellToLonLat 0x92d8000000000001) :=
  cellToLonLat_decoded _ ⟨7, 3, 0x2d, 4⟩ (by decide)
example : (cellToBoundary 0x92d8000000000000 true (some 0)).Within (· = .crsVertex) (· = .fuel) :=
  cellToBoundary_decoded _ _ _ ⟨7, 3, 0x2d, 4⟩ (by decide)
example : (cellToBoundary 0x92d8000000000000 false none).Within (· = .crsVertex) (· = .fuel) :=
  cellToBoundary_decoded _ _ _ ⟨7, 3, 0x2d, 4⟩ (by decide)
example : cellToLonLat 0xf200000000000000 = .err .badOrigin := cellToLonLat_undecodable _ (by decide)
example : cellToBoundary 0xf200000000000000 true (some 7) = .err .badOrigin :=
  cellToBoundary_undecodable _ _ _ (by decide)
example (lon lat : Float) : Benign (cellContainsPoint ⟨7, 3, 0x2d, 4⟩ lon lat) :=
  cellContainsPoint_valid _ (by decide) (by decide) lon lat
-- the world record is what `deserialize` returns for id 0 (and for id 1, 2, 3, …: no marker bit)
example : deserialize 1 = .ok ⟨0, 0, 0, -1⟩ := by decide
example : getPentagon ⟨0, 0, 0, -1⟩ = .panic .fuel := getPentagon_negative_res _ (by decide) (by decide)
example : getPentagon ⟨12, 0, 0, 0⟩ = .panic .indexOOB := getPentagon_bad_origin _ (by decide)
-- `s_to_anchor` with a position that does not fit its depth, reversed orientation 1: subtraction overflow
example : (sToAnchor 16 2 1).isPanic = true := (sToAnchor_isPanic_iff 16 2 1).2 (Or.inl ⟨by decide, Or.inr (by decide)⟩)
example : dodecaInverse ⟨0.0, 0.0⟩ 12 = .err .invalidOrigin := dodecaInverse_bad_origin _ _ (by decide)
example : (cellArea (-7) = fc Gen.AUTHALIC_AREA) := by
  rcases cellArea_cases (-7) with ⟨_, h⟩ | ⟨h, _⟩ | ⟨h, _⟩
  · exact h
  · omega
  · omega

end A5
