import Mathlib.Analysis.SpecialFunctions.Trigonometric.Inverse
import A5.Model.OriginInt
/-! The distance measure of `find_nearest_origin` over the reals, and the argmin loop over a linear order.

`haversine(point, axis)` in `origin.rs` carries the comment "TODO figure out derivation!".  Here is the
derivation: for *all* real angles it equals `(1 - ⟪p, a⟫) / 2 = sin²(δ/2)` where `p`, `a` are the unit
vectors `to_cartesian` assigns to the two spherical points and `δ` is their great-circle distance.
So minimising it is maximising the dot product, i.e. minimising the great-circle distance. -/
namespace A5
open Real

/-- `haversine` with real arithmetic -/
noncomputable def haversineR (θ φ θ₂ φ₂ : ℝ) : ℝ :=
  sin ((φ₂ - φ) / 2) ^ 2 + sin ((θ₂ - θ) / 2) ^ 2 * sin φ * sin φ₂

/-- it is the generic-scalar `haversineG` (whose `Float` instance is the model, by `rfl`) at `Real.sin` -/
theorem haversineR_eq_haversineG (θ φ θ₂ φ₂ : ℝ) :
    haversineR θ φ θ₂ φ₂ = haversineG Real.sin 2 θ φ θ₂ φ₂ := by
  unfold haversineR haversineG; ring

/-- `to_cartesian`: `(sin φ cos θ, sin φ sin θ, cos φ)` -/
noncomputable def toCartesianR (θ φ : ℝ) : ℝ × ℝ × ℝ := (sin φ * cos θ, sin φ * sin θ, cos φ)

def dot3 (a b : ℝ × ℝ × ℝ) : ℝ := a.1 * b.1 + a.2.1 * b.2.1 + a.2.2 * b.2.2

theorem toCartesianR_unit (θ φ : ℝ) : dot3 (toCartesianR θ φ) (toCartesianR θ φ) = 1 := by
  simp only [dot3, toCartesianR]
  linear_combination sin φ ^ 2 * sin_sq_add_cos_sq θ + sin_sq_add_cos_sq φ

/-- Cauchy–Schwarz for unit vectors of ℝ³: `2 ± 2 u·v = |u ± v|² ≥ 0` -/
theorem dot3_mem_Icc (u v : ℝ × ℝ × ℝ) (hu : dot3 u u = 1) (hv : dot3 v v = 1) :
    dot3 u v ∈ Set.Icc (-1 : ℝ) 1 := by
  unfold dot3 at *
  have hp : 0 ≤ (u.1 + v.1) ^ 2 + (u.2.1 + v.2.1) ^ 2 + (u.2.2 + v.2.2) ^ 2 := by positivity
  have hm : 0 ≤ (u.1 - v.1) ^ 2 + (u.2.1 - v.2.1) ^ 2 + (u.2.2 - v.2.2) ^ 2 := by positivity
  exact ⟨by linarith, by linarith⟩

theorem sin_sq_half (x : ℝ) : sin (x / 2) ^ 2 = 1 / 2 - cos x / 2 := by
  have h : 2 * (x / 2) = x := by ring
  rw [sin_sq_eq_half_sub, h]

theorem haversine_is_chord (θ φ θ₂ φ₂ : ℝ) :
    haversineR θ φ θ₂ φ₂ = (1 - dot3 (toCartesianR θ φ) (toCartesianR θ₂ φ₂)) / 2 := by
  unfold haversineR dot3 toCartesianR
  rw [sin_sq_half, sin_sq_half, cos_sub, cos_sub]
  simp only
  ring

/-- great-circle distance between two spherical points -/
noncomputable def gcDist (θ φ θ₂ φ₂ : ℝ) : ℝ := arccos (dot3 (toCartesianR θ φ) (toCartesianR θ₂ φ₂))

theorem dot3_toCartesianR_mem (θ φ θ₂ φ₂ : ℝ) :
    dot3 (toCartesianR θ φ) (toCartesianR θ₂ φ₂) ∈ Set.Icc (-1 : ℝ) 1 :=
  dot3_mem_Icc _ _ (toCartesianR_unit θ φ) (toCartesianR_unit θ₂ φ₂)

theorem haversine_is_hav_gcDist (θ φ θ₂ φ₂ : ℝ) :
    haversineR θ φ θ₂ φ₂ = sin (gcDist θ φ θ₂ φ₂ / 2) ^ 2 := by
  have h := dot3_toCartesianR_mem θ φ θ₂ φ₂
  rw [haversine_is_chord, sin_sq_half, gcDist, cos_arccos h.1 h.2]
  ring

theorem haversineR_mem (θ φ θ₂ φ₂ : ℝ) : haversineR θ φ θ₂ φ₂ ∈ Set.Icc (0 : ℝ) 1 := by
  have h := dot3_toCartesianR_mem θ φ θ₂ φ₂
  rw [haversine_is_chord]
  constructor <;> [linarith [h.2]; linarith [h.1]]

theorem haversine_le_iff_dot (θ φ θa φa θb φb : ℝ) :
    haversineR θ φ θa φa ≤ haversineR θ φ θb φb ↔
      dot3 (toCartesianR θ φ) (toCartesianR θb φb) ≤ dot3 (toCartesianR θ φ) (toCartesianR θa φa) := by
  rw [haversine_is_chord, haversine_is_chord]
  constructor <;> intro h <;> linarith

theorem haversine_le_iff_gcDist (θ φ θa φa θb φb : ℝ) :
    haversineR θ φ θa φa ≤ haversineR θ φ θb φb ↔ gcDist θ φ θa φa ≤ gcDist θ φ θb φb := by
  rw [haversine_le_iff_dot]
  exact (strictAntiOn_arccos.le_iff_ge (dot3_toCartesianR_mem θ φ θa φa)
    (dot3_toCartesianR_mem θ φ θb φb)).symm

theorem haversine_lt_iff_gcDist (θ φ θa φa θb φb : ℝ) :
    haversineR θ φ θa φa < haversineR θ φ θb φb ↔ gcDist θ φ θa φa < gcDist θ φ θb φb := by
  rw [← not_le, ← not_le, haversine_le_iff_gcDist]

/-- Over a linear order, `argminGo f l m b` (the loop of `find_nearest_origin` started with running
minimum `m` and candidate `b`) either finds no value below `m` and returns `b`, or returns the *first*
element of `l` at which `f` attains its minimum over `l` (strictly smaller than everything before it,
at most everything after it), and that minimum is below `m`. -/
theorem argminGo_spec {α β : Type} [LinearOrder β] (f : α → β) :
    ∀ (l : List α) (m : β) (b : α),
      ((∀ y ∈ l, m ≤ f y) ∧ argminGo f l m b = b) ∨
      (∃ pre x post, l = pre ++ x :: post ∧ argminGo f l m b = x ∧ f x < m ∧
          (∀ y ∈ pre, f x < f y) ∧ (∀ y ∈ post, f x ≤ f y)) := by
  intro l
  induction l with
  | nil => intro m b; exact Or.inl ⟨by simp, rfl⟩
  | cons a l ih =>
    intro m b
    rw [argminGo]
    split_ifs with h
    · rcases ih (f a) a with ⟨hall, hres⟩ | ⟨pre, x, post, rfl, hres, hlt, hpre, hpost⟩
      · exact Or.inr ⟨[], a, l, rfl, hres, h, by simp, hall⟩
      · exact Or.inr ⟨a :: pre, x, post, rfl, hres, hlt.trans h, by simpa [hlt] using hpre, hpost⟩
    · rcases ih m b with ⟨hall, hres⟩ | ⟨pre, x, post, rfl, hres, hlt, hpre, hpost⟩
      · exact Or.inl ⟨by simpa [not_lt.1 h] using hall, hres⟩
      · exact Or.inr ⟨a :: pre, x, post, rfl, hres, hlt,
          by simpa [hlt.trans_le (not_lt.1 h)] using hpre, hpost⟩

theorem argminGo_min {α β : Type} [LinearOrder β] (f : α → β) (l : List α) (m : β) (b : α)
    (h : ∃ y ∈ l, f y < m) :
    argminGo f l m b ∈ l ∧ ∀ y ∈ l, f (argminGo f l m b) ≤ f y := by
  rcases argminGo_spec f l m b with ⟨hall, _⟩ | ⟨pre, x, post, hl, hres, _, hpre, hpost⟩
  · obtain ⟨y, hy, hlt⟩ := h
    exact absurd (hall y hy) (not_le.2 hlt)
  · rw [hres, hl]
    refine ⟨by simp, ?_⟩
    intro y hy
    rcases List.mem_append.1 hy with hy | hy
    · exact le_of_lt (hpre y hy)
    · rcases List.mem_cons.1 hy with rfl | hy
      · exact le_refl _
      · exact hpost y hy

/-- the initial bound `2` stands for the code's `+∞`: the measure is `≤ 1` -/
theorem nearest_real (θ φ : ℝ) (axes : List (ℝ × ℝ)) (b : ℝ × ℝ) (hne : axes ≠ []) :
    let r := argminGo (fun a : ℝ × ℝ => haversineR θ φ a.1 a.2) axes 2 b
    r ∈ axes ∧ ∀ a ∈ axes, gcDist θ φ r.1 r.2 ≤ gcDist θ φ a.1 a.2 := by
  intro r
  obtain ⟨a0, l, rfl⟩ := List.exists_cons_of_ne_nil hne
  have h := argminGo_min (fun a : ℝ × ℝ => haversineR θ φ a.1 a.2) (a0 :: l) 2 b
    ⟨a0, by simp, by have := (haversineR_mem θ φ a0.1 a0.2).2; linarith⟩
  refine ⟨h.1, fun a ha => ?_⟩
  exact (haversine_le_iff_gcDist θ φ r.1 r.2 a.1 a.2).1 (h.2 a ha)

end A5
