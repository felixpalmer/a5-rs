import A5.Model.Hex
/-! Lemmas about the hex codec `A5/Model/Hex.lean`.  Strings are lists of byte values. -/
namespace A5

/-- ASCII hex digit, either case (exactly the bytes `from_str_radix(_, 16)` accepts as digits) -/
def IsHexDigit (b : Nat) : Prop := (48 ≤ b ∧ b ≤ 57) ∨ (97 ≤ b ∧ b ≤ 102) ∨ (65 ≤ b ∧ b ≤ 70)

/-- `'0'..'9'` or `'a'..'f'` (what `format!("{:x}")` produces) -/
def IsLowerHexDigit (b : Nat) : Prop := (48 ≤ b ∧ b ≤ 57) ∨ (97 ≤ b ∧ b ≤ 102)

instance (b : Nat) : Decidable (IsHexDigit b) := by unfold IsHexDigit; infer_instance
instance (b : Nat) : Decidable (IsLowerHexDigit b) := by unfold IsLowerHexDigit; infer_instance

theorem IsLowerHexDigit.isHexDigit {b : Nat} (h : IsLowerHexDigit b) : IsHexDigit b := by
  unfold IsLowerHexDigit at h; unfold IsHexDigit; omega

/-- base-16 value of a byte string, most significant digit first, starting from `acc`
(non-digits count as 0; only used on digit strings) -/
def hexValueFrom (acc : Nat) : List Nat → Nat
  | [] => acc
  | b :: bs => hexValueFrom (acc * 16 + (hexVal b).getD 0) bs

/-- base-16 value of a digit string (unbounded) -/
def hexValue (s : List Nat) : Nat := hexValueFrom 0 s

theorem hexVal_hexDigitChar (d : Nat) (h : d < 16) : hexVal (hexDigitChar d) = some d := by
  by_cases h10 : d < 10
  · simp only [hexDigitChar, if_pos h10, hexVal]
    rewrite [if_pos (by omega)]
    exact congrArg some (by omega)
  · simp only [hexDigitChar, if_neg h10, hexVal]
    rewrite [if_neg (by omega), if_pos (by omega)]
    exact congrArg some (by omega)

theorem hexDigitChar_lower (d : Nat) (h : d < 16) : IsLowerHexDigit (hexDigitChar d) := by
  unfold IsLowerHexDigit hexDigitChar
  split <;> omega

theorem hexDigitChar_eq_zero (d : Nat) (h0 : hexDigitChar d = 48) : d = 0 := by
  unfold hexDigitChar at h0
  split at h0 <;> omega

theorem hexVal_isSome_iff (b : Nat) : (hexVal b).isSome = true ↔ IsHexDigit b := by
  unfold hexVal IsHexDigit
  split
  · simp only [Option.isSome_some, true_iff]; omega
  · split
    · simp only [Option.isSome_some, true_iff]; omega
    · split
      · simp only [Option.isSome_some, true_iff]; omega
      · simp only [Option.isSome_none, Bool.false_eq_true, false_iff]; omega

theorem hexVal_of_digit (b : Nat) (h : IsHexDigit b) : ∃ d, hexVal b = some d ∧ d < 16 := by
  unfold hexVal
  unfold IsHexDigit at h
  split
  · exact ⟨_, rfl, by omega⟩
  · split
    · exact ⟨_, rfl, by omega⟩
    · split
      · exact ⟨_, rfl, by omega⟩
      · omega

theorem hexVal_none_of_not_digit (b : Nat) (h : ¬ IsHexDigit b) : hexVal b = none :=
  Option.not_isSome_iff_eq_none.mp (mt (hexVal_isSome_iff b).mp h)

theorem hexDigitsAux_zero (fuel : Nat) (acc : List Nat) : hexDigitsAux fuel 0 acc = acc := by
  cases fuel with
  | zero => rfl
  | succ f => simp only [hexDigitsAux, if_true]

theorem hexDigitsAux_succ (fuel n : Nat) (acc : List Nat) (hn : n ≠ 0) :
    hexDigitsAux (fuel + 1) n acc = hexDigitsAux fuel (n / 16) (hexDigitChar (n % 16) :: acc) := by
  simp only [hexDigitsAux, if_neg hn]

theorem hexDigitsAux_append (fuel : Nat) : ∀ (n : Nat) (acc : List Nat),
    hexDigitsAux fuel n acc = hexDigitsAux fuel n [] ++ acc := by
  induction fuel with
  | zero => intro n acc; rfl
  | succ f ih =>
    intro n acc
    by_cases hn : n = 0
    · subst hn; rewrite [hexDigitsAux_zero, hexDigitsAux_zero]; rfl
    · rewrite [hexDigitsAux_succ f n acc hn, hexDigitsAux_succ f n [] hn, ih (n / 16) (_ :: acc),
        ih (n / 16) [_], List.append_assoc]
      rfl

theorem hexDigitsAux_snoc (fuel n : Nat) (hn : n ≠ 0) :
    hexDigitsAux (fuel + 1) n [] = hexDigitsAux fuel (n / 16) [] ++ [hexDigitChar (n % 16)] := by
  rewrite [hexDigitsAux_succ fuel n [] hn, hexDigitsAux_append]
  rfl

theorem div16_lt {n f : Nat} (h : n < 16 ^ (f + 1)) : n / 16 < 16 ^ f :=
  Nat.div_lt_of_lt_mul (by rewrite [Nat.mul_comm, ← Nat.pow_succ]; exact h)

theorem hexDigitsAux_fuel (f : Nat) : ∀ (f' n : Nat) (acc : List Nat), n < 16 ^ f → f ≤ f' →
    hexDigitsAux f' n acc = hexDigitsAux f n acc := by
  induction f with
  | zero =>
    intro f' n acc hn _
    have : n = 0 := by simp only [Nat.pow_zero] at hn; omega
    subst this
    rewrite [hexDigitsAux_zero, hexDigitsAux_zero]; rfl
  | succ f ih =>
    intro f' n acc hn hff
    obtain ⟨g, rfl⟩ : ∃ g, f' = g + 1 := ⟨f' - 1, by omega⟩
    by_cases h0 : n = 0
    · subst h0; rewrite [hexDigitsAux_zero, hexDigitsAux_zero]; rfl
    · rewrite [hexDigitsAux_succ g n acc h0, hexDigitsAux_succ f n acc h0]
      exact ih g (n / 16) _ (div16_lt hn) (by omega)

theorem hexDigitsAux_length (fuel : Nat) : ∀ n, (hexDigitsAux fuel n []).length ≤ fuel := by
  induction fuel with
  | zero => intro n; exact Nat.le_refl 0
  | succ f ih =>
    intro n
    by_cases hn : n = 0
    · subst hn; rewrite [hexDigitsAux_zero]; exact Nat.zero_le _
    · rewrite [hexDigitsAux_snoc f n hn, List.length_append]
      have := ih (n / 16)
      simp only [List.length_cons, List.length_nil]
      omega

theorem hexDigitsAux_lower (fuel : Nat) : ∀ n, ∀ b ∈ hexDigitsAux fuel n [], IsLowerHexDigit b := by
  induction fuel with
  | zero => intro n b hb; cases hb
  | succ f ih =>
    intro n b hb
    by_cases hn : n = 0
    · subst hn; rewrite [hexDigitsAux_zero] at hb; cases hb
    · rewrite [hexDigitsAux_snoc f n hn] at hb
      rcases List.mem_append.mp hb with h | h
      · exact ih _ b h
      · rewrite [List.mem_singleton] at h
        subst h
        exact hexDigitChar_lower _ (Nat.mod_lt _ (by omega))

theorem hexDigitsAux_head (fuel : Nat) : ∀ n, n ≠ 0 → n < 16 ^ fuel →
    ∃ b rest, hexDigitsAux fuel n [] = b :: rest ∧ b ≠ 48 := by
  induction fuel with
  | zero => intro n hn hlt; simp only [Nat.pow_zero] at hlt; omega
  | succ f ih =>
    intro n hn hlt
    rewrite [hexDigitsAux_snoc f n hn]
    by_cases hq : n / 16 = 0
    · rewrite [hq, hexDigitsAux_zero]
      refine ⟨_, [], rfl, ?_⟩
      intro h48
      have := hexDigitChar_eq_zero _ h48
      omega
    · obtain ⟨b, rest, e, hb⟩ := ih (n / 16) hq (div16_lt hlt)
      rewrite [e]
      exact ⟨b, rest ++ [_], rfl, hb⟩

theorem hexValueFrom_append (l r : List Nat) : ∀ a, hexValueFrom a (l ++ r) = hexValueFrom (hexValueFrom a l) r := by
  induction l with
  | nil => intro a; rfl
  | cons b bs ih => intro a; exact ih _

theorem le_hexValueFrom (s : List Nat) : ∀ a, a ≤ hexValueFrom a s := by
  induction s with
  | nil => intro a; exact Nat.le_refl a
  | cons b bs ih =>
    intro a
    have := ih (a * 16 + (hexVal b).getD 0)
    show a ≤ hexValueFrom (a * 16 + (hexVal b).getD 0) bs
    omega

theorem hexValue_digits (fuel : Nat) : ∀ n, n < 16 ^ fuel → hexValue (hexDigitsAux fuel n []) = n := by
  induction fuel with
  | zero => intro n hn; simp only [Nat.pow_zero] at hn; have : n = 0 := by omega
            subst this; rfl
  | succ f ih =>
    intro n hlt
    by_cases hn : n = 0
    · subst hn; rewrite [hexDigitsAux_zero]; rfl
    · have h := ih (n / 16) (div16_lt hlt)
      unfold hexValue at h ⊢
      rewrite [hexDigitsAux_snoc f n hn, hexValueFrom_append, h]
      show n / 16 * 16 + (hexVal (hexDigitChar (n % 16))).getD 0 = n
      rewrite [hexVal_hexDigitChar _ (Nat.mod_lt _ (by omega))]
      show n / 16 * 16 + n % 16 = n
      omega

theorem hexAccum_digits (s : List Nat) : ∀ acc, acc < 2 ^ 64 → (∀ b ∈ s, IsHexDigit b) →
    hexAccum s acc =
      if hexValueFrom acc s < 2 ^ 64 then .ok (hexValueFrom acc s) else .err .hexParse := by
  induction s with
  | nil =>
    intro acc hacc _
    show Outcome.ok acc = if acc < 2 ^ 64 then Outcome.ok acc else _
    rewrite [if_pos hacc]; rfl
  | cons b bs ih =>
    intro acc hacc hall
    obtain ⟨d, hd, hd16⟩ := hexVal_of_digit b (hall b (List.mem_cons_self))
    have hstep : hexValueFrom acc (b :: bs) = hexValueFrom (acc * 16 + d) bs := by
      show hexValueFrom (acc * 16 + (hexVal b).getD 0) bs = _
      rewrite [hd]; rfl
    rewrite [hstep]
    simp only [hexAccum, hd]
    by_cases hov : acc * 16 < 2 ^ 64 ∧ acc * 16 + d < 2 ^ 64
    · rewrite [if_pos hov]
      exact ih _ hov.2 (fun x hx => hall x (List.mem_cons_of_mem _ hx))
    · rewrite [if_neg hov]
      have := le_hexValueFrom bs (acc * 16 + d)
      rewrite [if_neg (by omega)]; rfl

theorem hexAccum_never_panics (s : List Nat) : ∀ acc, (hexAccum s acc).isPanic = false := by
  induction s with
  | nil => intro acc; rfl
  | cons b bs ih =>
    intro acc
    simp only [hexAccum]
    split
    · rfl
    · split
      · exact ih _
      · rfl

theorem hexToU64_cons (b : Nat) (bs : List Nat) (h43 : b ≠ 43) (h45 : b ≠ 45) :
    hexToU64 (b :: bs) = hexAccum (b :: bs) 0 := by
  unfold hexToU64
  split
  · rename_i h; cases h
  · rename_i h; injection h with h _; omega
  · rename_i h; injection h with h _; omega
  · rename_i h; injection h with h _; omega
  · rfl

theorem hexToU64_nil : hexToU64 [] = .err .hexParse := rfl

theorem hexToU64_digits (s : List Nat) (hne : s ≠ []) (hall : ∀ b ∈ s, IsHexDigit b) :
    hexToU64 s = if hexValue s < 2 ^ 64 then .ok (hexValue s) else .err .hexParse := by
  cases s with
  | nil => exact absurd rfl hne
  | cons b bs =>
    have hb := hall b (List.mem_cons_self)
    unfold IsHexDigit at hb
    rewrite [hexToU64_cons b bs (by omega) (by omega)]
    exact hexAccum_digits (b :: bs) 0 (by omega) hall

theorem hexToU64_overflow (s : List Nat) (hall : ∀ b ∈ s, IsHexDigit b) (hov : 2 ^ 64 ≤ hexValue s) :
    hexToU64 s = .err .hexParse := by
  by_cases hne : s = []
  · subst hne; rfl
  · rewrite [hexToU64_digits s hne hall, if_neg (by omega)]; rfl

theorem hexToU64_never_panics (s : List Nat) : (hexToU64 s).isPanic = false := by
  unfold hexToU64
  split
  · rfl
  · rfl
  · rfl
  · exact hexAccum_never_panics _ _
  · exact hexAccum_never_panics _ _

/-- any byte that is not a hex digit (in particular `-`, space, `x`, `g`) makes the digit loop fail; `hexToU64` runs it
on the whole string, or on the rest after one leading `+` -/
theorem hexAccum_bad_byte (s : List Nat) (b : Nat) (hb : b ∈ s) (hbad : ¬ IsHexDigit b) :
    ∀ acc, hexAccum s acc = .err .hexParse := by
  induction s with
  | nil => cases hb
  | cons x xs ih =>
    intro acc
    rcases List.mem_cons.mp hb with h | h
    · subst h
      simp only [hexAccum, hexVal_none_of_not_digit b hbad]
    · simp only [hexAccum]
      split
      · rfl
      · split
        · exact ih h _
        · rfl

theorem u64ToHex_zero : u64ToHex 0 = [48] := rfl

theorem u64ToHex_pos (n : Nat) (hn : n ≠ 0) : u64ToHex n = hexDigitsAux 16 n [] := by
  unfold u64ToHex; rewrite [if_neg hn]; rfl

theorem lt_16_pow_16 (n : Nat) (h : n < 2 ^ 64) : n < 16 ^ 16 := by
  have e : (16 : Nat) ^ 16 = 2 ^ 64 := by decide
  rewrite [e]; exact h

theorem u64ToHex_lower (n : Nat) : ∀ b ∈ u64ToHex n, IsLowerHexDigit b := by
  intro b hb
  by_cases hn : n = 0
  · subst hn
    rewrite [u64ToHex_zero, List.mem_singleton] at hb
    subst hb; exact Or.inl ⟨Nat.le_refl _, by omega⟩
  · rewrite [u64ToHex_pos n hn] at hb
    exact hexDigitsAux_lower 16 n b hb

theorem u64ToHex_length (n : Nat) (h : n < 2 ^ 64) : 1 ≤ (u64ToHex n).length ∧ (u64ToHex n).length ≤ 16 := by
  by_cases hn : n = 0
  · subst hn; rewrite [u64ToHex_zero]; exact ⟨Nat.le_refl _, by decide⟩
  · rewrite [u64ToHex_pos n hn]
    obtain ⟨b, rest, e, _⟩ := hexDigitsAux_head 16 n hn (lt_16_pow_16 n h)
    refine ⟨?_, hexDigitsAux_length 16 n⟩
    rewrite [e]; exact Nat.succ_le_succ (Nat.zero_le _)

/-- no leading zeros: the first byte is `'0'` only for `n = 0` -/
theorem u64ToHex_head (n : Nat) (h : n < 2 ^ 64) (h0 : (u64ToHex n).head? = some 48) : n = 0 := by
  apply Classical.byContradiction
  intro hn
  rewrite [u64ToHex_pos n hn] at h0
  obtain ⟨b, rest, e, hb⟩ := hexDigitsAux_head 16 n hn (lt_16_pow_16 n h)
  rewrite [e] at h0
  exact hb (Option.some.inj h0)

theorem hexValue_u64ToHex (n : Nat) (h : n < 2 ^ 64) : hexValue (u64ToHex n) = n := by
  by_cases hn : n = 0
  · subst hn; rfl
  · rewrite [u64ToHex_pos n hn]
    exact hexValue_digits 16 n (lt_16_pow_16 n h)

theorem hexToU64_u64ToHex (n : Nat) (h : n < 2 ^ 64) : hexToU64 (u64ToHex n) = .ok n := by
  rewrite [hexToU64_digits _ (List.ne_nil_of_length_pos (u64ToHex_length n h).1) (fun b hb => (u64ToHex_lower n b hb).isHexDigit),
    hexValue_u64ToHex n h, if_pos h]
  rfl

/-- fuel 16 is enough: any larger fuel gives the same string for a 64-bit value -/
theorem u64ToHex_fuel (n fuel : Nat) (h : n < 2 ^ 64) (hf : 16 ≤ fuel) (hn : n ≠ 0) :
    hexDigitsAux fuel n [] = u64ToHex n := by
  rewrite [u64ToHex_pos n hn]
  exact hexDigitsAux_fuel 16 fuel n [] (lt_16_pow_16 n h) hf

end A5
