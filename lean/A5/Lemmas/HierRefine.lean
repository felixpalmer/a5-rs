import A5.Lemmas.HierRefineParent
import A5.Lemmas.HierRefineChildren
/-! The hierarchy functions refine the `Path` tree: entry point.  The two refinement theorems are
`Path.cellToParent_enc` (`HierRefineParent`) and `Path.cellToChildren_enc` (`HierRefineChildren`). -/
namespace A5

namespace Path

theorem nodup_map_enc_ordered {p : Path} (hp : WF p) (r : Int) (hr : r ≤ 29) :
    ((descendantsOrdered p r).map enc).Nodup :=
  nodup_map_of_inj (descendantsOrdered_nodup p hp r)
    (fun _ ha _ hb h => enc_injective (wf_of_mem_ordered hp hr ha) (wf_of_mem_ordered hp hr hb) h)

end Path
end A5
