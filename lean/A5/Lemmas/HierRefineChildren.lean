import A5.Lemmas.HierRefineParent
/-! `cellToChildren` refines `Path.descendantsOrdered` on every canonical id.

The triple loop is named `childLoop`; its innermost loop enumerates `descend n` of a deep path (the digits of the counter,
most significant first); the three source levels (world, face, deeper) differ only in the two outer loops. -/
namespace A5

def childLoop (origins segments : List Nat) (sh cnt : Nat) (new : Int) : Outcome (List Nat) :=
  flatMapOutcome (fun o =>
    flatMapOutcome (fun seg =>
      mapOutcome (fun i => u64Add sh i >>= fun ns => serialize ⟨o, seg, ns, new⟩) (List.range cnt))
      segments) origins

theorem childLoop_ok (origins segments : List Nat) (sh cnt : Nat) (new : Int) (g : Nat → Nat → List Nat)
    (h : ∀ o ∈ origins, ∀ seg ∈ segments,
      mapOutcome (fun i => u64Add sh i >>= fun ns => serialize ⟨o, seg, ns, new⟩) (List.range cnt) = .ok (g o seg)) :
    childLoop origins segments sh cnt new = .ok (origins.flatMap (fun o => segments.flatMap (g o))) := by
  unfold childLoop
  exact flatMapOutcome_ok _ _ _ (fun o ho => flatMapOutcome_ok _ _ _ (fun seg hs => h o ho seg hs))

theorem childLoop_err (origins segments : List Nat) (sh cnt : Nat) (new : Int) (e : ErrKind)
    (ho : origins ≠ []) (hs : segments ≠ [])
    (h : ∀ o ∈ origins, ∀ seg ∈ segments,
      mapOutcome (fun i => u64Add sh i >>= fun ns => serialize ⟨o, seg, ns, new⟩) (List.range cnt) = .err e) :
    childLoop origins segments sh cnt new = .err e := by
  unfold childLoop
  exact flatMapOutcome_err _ _ _ ho (fun o ho' => flatMapOutcome_err _ _ _ hs (fun seg hs' => h o ho' seg hs'))

theorem cellToChildren_of_deserialize (id : Nat) (c : Cell) (h : deserialize id = .ok c) (r' : Int) :
    cellToChildren id (some r') =
      if r' < c.res then .err .targetCoarser
      else if r' > 30 then .err .exceedsMax
      else if r' = c.res then serialize c >>= fun x => .ok [x]
      else if r' - max c.res 1 > 20 then .err .diffTooLarge
      else (if r' - max c.res 1 > 0 then u64Shl c.s (2 * (r' - max c.res 1).toNat) else .ok c.s) >>= fun shifted =>
        childLoop (if c.res = -1 then List.range 12 else [c.origin])
          (if (c.res = -1 ∧ r' > 0) ∨ c.res = 0 then [0, 1, 2, 3, 4] else [c.segment])
          shifted (if r' - max c.res 1 ≤ 0 then 1 else 4 ^ (r' - max c.res 1).toNat) r' := by
  unfold cellToChildren
  rewrite [h]
  simp only [Outcome.bind_ok]
  rfl

theorem childCount_eq (d : Int) : (if d ≤ 0 then 1 else 4 ^ d.toNat) = 4 ^ d.toNat := by
  by_cases h : d ≤ 0
  · rewrite [if_pos h, Int.toNat_of_nonpos h]; rfl
  · rewrite [if_neg h]; rfl

theorem childShift_ok (s : Nat) (d : Int) (h1 : d ≤ 20) (h2 : s * 4 ^ d.toNat < 2 ^ 64) :
    (if d > 0 then u64Shl s (2 * d.toNat) else .ok s) = .ok (s * 4 ^ d.toNat) := by
  by_cases h : d > 0
  · rewrite [if_pos h, u64Shl_ok _ _ (by omega) (by rewrite [two_pow_two_mul]; exact h2), two_pow_two_mul]
    rfl
  · rewrite [if_neg h, Int.toNat_of_nonpos (by omega), Nat.pow_zero, Nat.mul_one]; rfl

theorem cellToChildren_loop (id : Nat) (c : Cell) (h : deserialize id = .ok c) (r' : Int)
    (h1 : c.res < r') (h2 : r' ≤ 30) (h3 : r' - max c.res 1 ≤ 20)
    (hs : c.s * 4 ^ (r' - max c.res 1).toNat < 2 ^ 64) :
    cellToChildren id (some r') =
      childLoop (if c.res = -1 then List.range 12 else [c.origin])
        (if (c.res = -1 ∧ r' > 0) ∨ c.res = 0 then [0, 1, 2, 3, 4] else [c.segment])
        (c.s * 4 ^ (r' - max c.res 1).toNat) (4 ^ (r' - max c.res 1).toNat) r' := by
  rewrite [cellToChildren_of_deserialize id c h, if_neg (by omega), if_neg (by omega), if_neg (by omega),
    if_neg (by omega), childShift_ok _ _ h3 hs, childCount_eq]
  simp only [Outcome.bind_ok]

namespace Path

theorem descend_deep_eq (f k : Nat) (n : Nat) (ds : List Nat) :
    descend n (deep f k ds) = (List.range (4 ^ n)).map (fun i => deep f k (ds ++ digits n i)) := by
  induction n generalizing ds with
  | zero => simp [descend, digits]
  | succ n ih =>
    rewrite [Nat.pow_succ, Nat.mul_comm, range_mul_map]
    simp only [descend, children, List.flatMap_map]
    refine flatMap_congr' (fun d _ => ?_)
    rewrite [ih]
    refine List.map_congr_left (fun i hi => ?_)
    rewrite [digits_succ_block n d i (List.mem_range.1 hi), List.append_assoc]
    rfl

theorem four_pow_le_of_le {a b : Nat} (h : a ≤ b) : 4 ^ a ≤ 4 ^ b := Nat.pow_le_pow_right (by omega) h

theorem four_pow_29 : 4 ^ 29 = 2 ^ 58 := by decide

theorem shift_add_four_pow_le (s a n : Nat) (hs : s < 4 ^ a) (h : a + n ≤ 29) : s * 4 ^ n + 4 ^ n ≤ 2 ^ 58 := by
  have h1 : (s + 1) * 4 ^ n ≤ 4 ^ a * 4 ^ n := Nat.mul_le_mul_right _ hs
  rewrite [← Nat.pow_add, Nat.add_mul, Nat.one_mul] at h1
  have h2 := four_pow_le_of_le h
  rewrite [four_pow_29] at h2
  omega

theorem wf_append_digits (f k : Nat) (ds : List Nat) (n i : Nat) (hf : f < 12) (hk : k < 5)
    (hd : ∀ d ∈ ds, d < 4) (hl : ds.length + n ≤ 28) (hi : i < 4 ^ n) : WF (deep f k (ds ++ digits n i)) := by
  refine ⟨hf, hk, ?_, by rewrite [List.length_append, length_digits]; exact hl⟩
  intro d hd'
  rcases List.mem_append.1 hd' with h | h
  · exact hd d h
  · exact digits_lt n i hi d h

/-- The innermost loop below `deep f k ds`.  `sh`, `seg`, `r` are variables tied by equations, so that the lemma applies
to the loop in the shape `cellToChildren_loop` leaves it (`0 * 4 ^ n`, a member of the segment list, `1 + n`). -/
theorem innerLoop_ok (f k : Nat) (ds : List Nat) (n : Nat) (hf : f < 12) (hk : k < 5) (hd : ∀ d ∈ ds, d < 4)
    (hl : ds.length + n ≤ 28) (sh : Nat) (hsh : sh = value ds * 4 ^ n)
    (seg : Nat) (hseg : seg = (k + firstQuintant f) % 5) (r : Int) (hr : r = 1 + (ds.length : Int) + (n : Int)) :
    mapOutcome (fun i => u64Add sh i >>= fun ns => serialize ⟨f, seg, ns, r⟩) (List.range (4 ^ n))
      = .ok ((descend n (deep f k ds)).map enc) := by
  subst hsh hseg hr
  have e : (descend n (deep f k ds)).map enc =
      (List.range (4 ^ n)).map (fun i => enc (deep f k (ds ++ digits n i))) := by
    rewrite [descend_deep_eq, List.map_map]; rfl
  rewrite [e]
  refine mapOutcome_ok _ _ _ (fun i hi => ?_)
  have hi' := List.mem_range.1 hi
  have hb := shift_add_four_pow_le (value ds) ds.length n (value_lt ds hd) (by omega)
  rewrite [u64Add_ok _ _ (by omega)]
  simp only [Outcome.bind_ok]
  have hw := wf_append_digits f k ds n i hf hk hd hl hi'
  rewrite [← serialize_toCell hw]
  refine congrArg serialize ?_
  simp only [toCell, Cell.mk.injEq, true_and]
  refine ⟨?_, ?_⟩
  · rewrite [value_append, length_digits, value_digits n i hi']; rfl
  · rewrite [List.length_append, length_digits]; omega

theorem innerLoop_err_30 (o seg sh n : Nat) (hb : sh + 4 ^ n ≤ 2 ^ 64) :
    mapOutcome (fun i => u64Add sh i >>= fun ns => serialize ⟨o, seg, ns, 30⟩) (List.range (4 ^ n))
      = .err .resTooLarge := by
  refine mapOutcome_err _ _ _ (mt List.range_eq_nil.mp (Nat.ne_of_gt (Nat.pow_pos (by omega)))) (fun i hi => ?_)
  have hi' := List.mem_range.1 hi
  rewrite [u64Add_ok _ _ (by omega)]
  exact serialize_res_too_large ⟨o, seg, sh + i, 30⟩ (Int.le_refl 30)

theorem descendantsAt_quint (f k n : Nat) : descendantsAt (deep f k []) (1 + (n : Int)) = descend n (deep f k []) := by
  rewrite [descendantsAt_of_le (by simp only [res, List.length_nil]; omega)]
  have : (1 + (n : Int) - res (deep f k [])).toNat = n := by simp only [res, List.length_nil]; omega
  rewrite [this]; rfl

/-- what the two inner loops produce below face `f`, `n` levels below the quintants -/
def quintChildren (f n : Nat) : List Nat :=
  [0, 1, 2, 3, 4].flatMap (fun seg => (descend n (deep f ((seg + 5 - firstQuintant f) % 5) [])).map enc)

theorem quintChildren_eq (f n : Nat) :
    quintChildren f n = ((quintsOrdered f).flatMap (fun q => descendantsAt q (1 + (n : Int)))).map enc := by
  have e : List.range 5 = [0, 1, 2, 3, 4] := by decide
  simp only [quintChildren, quintsOrdered, List.flatMap_map, List.map_flatMap, descendantsAt_quint, e]

theorem quint_loop (f n : Nat) (hf : f < 12) (hn : n ≤ 28) (seg : Nat) (hs : seg ∈ [0, 1, 2, 3, 4]) :
    mapOutcome (fun i => u64Add (0 * 4 ^ n) i >>= fun ns => serialize ⟨f, seg, ns, 1 + (n : Int)⟩) (List.range (4 ^ n))
      = .ok ((descend n (deep f ((seg + 5 - firstQuintant f) % 5) [])).map enc) := by
  have hq := firstQuintant_lt f hf
  have hs5 : seg < 5 := by
    simp only [List.mem_cons, List.not_mem_nil, or_false] at hs; omega
  exact innerLoop_ok f _ [] n hf (Nat.mod_lt _ (by omega)) (by simp) (by simp only [List.length_nil]; omega)
    _ (by rewrite [value_nil]; rfl) seg (by omega) _ (by simp only [List.length_nil]; omega)

theorem children_world_zero : cellToChildren (enc world) (some 0) = .ok ((descendantsOrdered world 0).map enc) := by
  rewrite [cellToChildren_loop _ _ (deserialize_enc_path (p := world) trivial) 0
    (by decide) (by decide) (by decide) (by decide)]
  have e : childLoop (List.range 12) [0] (0 * 4 ^ 0) (4 ^ 0) 0
      = .ok ((List.range 12).flatMap (fun o => [0].flatMap (fun _ => [o * 2 ^ 58 + 2 ^ 57]))) := by
    refine childLoop_ok _ _ _ _ _ (fun o _ => [o * 2 ^ 58 + 2 ^ 57]) (fun o ho seg hs => ?_)
    have ho' := List.mem_range.1 ho
    simp only [List.mem_singleton] at hs
    subst hs
    refine (mapOutcome_ok _ (fun _ => o * 2 ^ 58 + 2 ^ 57) _ (fun i _ => ?_)).trans ?_
    · rewrite [u64Add_ok _ _ (by simp only [Nat.pow_zero, List.mem_range] at *; omega)]
      simp only [Outcome.bind_ok]
      rewrite [serialize_ok o 0 _ 0 ho' (by omega) (by omega) (by omega) (Or.inl (by omega)), encNat_res0]
      rfl
    · rfl
  refine Eq.trans ?_ (e.trans ?_)
  · rfl
  · refine congrArg Outcome.ok ?_
    rewrite [ordered_world_zero, List.map_map]
    simp only [List.flatMap_cons, List.flatMap_nil, List.append_nil]
    exact List.map_eq_flatMap.symm

theorem children_world_succ (n : Nat) (hn : n ≤ 20) :
    cellToChildren (enc world) (some (1 + (n : Int))) = .ok ((descendantsOrdered world (1 + (n : Int))).map enc) := by
  have hd : (1 + (n : Int) - max (toCell world).res 1).toNat = n := by
    show (1 + (n : Int) - max (-1) 1).toNat = n
    omega
  rewrite [cellToChildren_loop _ _ (deserialize_enc_path (p := world) trivial) _
    (by show (-1 : Int) < _; omega) (by omega) (by show 1 + (n : Int) - max (-1) 1 ≤ 20; omega)
    (by show 0 * _ < _; omega), hd]
  have e : childLoop (List.range 12) [0, 1, 2, 3, 4] (0 * 4 ^ n) (4 ^ n) (1 + (n : Int))
      = .ok ((List.range 12).flatMap (fun o => quintChildren o n)) :=
    childLoop_ok _ _ _ _ _ _ (fun o ho seg hs => quint_loop o n (List.mem_range.1 ho) (by omega) seg hs)
  refine Eq.trans ?_ (e.trans ?_)
  · refine congrArg (fun l => childLoop (List.range 12) l (0 * 4 ^ n) (4 ^ n) (1 + (n : Int))) ?_
    show (if ((-1 : Int) = -1 ∧ 1 + (n : Int) > 0) ∨ (-1 : Int) = 0 then [0, 1, 2, 3, 4] else [0]) = _
    rewrite [if_pos (by omega)]; rfl
  · refine congrArg Outcome.ok ?_
    simp only [descendantsOrdered]
    rewrite [if_neg (by omega), List.map_flatMap]
    exact flatMap_congr' (fun f _ => quintChildren_eq f n)

theorem children_face_succ (f : Nat) (hf : f < 12) (n : Nat) (hn : n ≤ 20) :
    cellToChildren (enc (face f)) (some (1 + (n : Int))) =
      .ok ((descendantsOrdered (face f) (1 + (n : Int))).map enc) := by
  have hd : (1 + (n : Int) - max (toCell (face f)).res 1).toNat = n := by
    show (1 + (n : Int) - max 0 1).toNat = n
    omega
  rewrite [cellToChildren_loop _ _ (deserialize_enc_path (p := face f) hf) _
    (by show (0 : Int) < _; omega) (by omega) (by show 1 + (n : Int) - max 0 1 ≤ 20; omega)
    (by show 0 * _ < _; omega), hd]
  have e : childLoop [f] [0, 1, 2, 3, 4] (0 * 4 ^ n) (4 ^ n) (1 + (n : Int))
      = .ok ([f].flatMap (fun o => quintChildren o n)) :=
    childLoop_ok _ _ _ _ _ _ (fun o ho seg hs => by
      simp only [List.mem_singleton] at ho; subst ho
      exact quint_loop o n hf (by omega) seg hs)
  refine Eq.trans ?_ (e.trans ?_)
  · rfl
  · refine congrArg Outcome.ok ?_
    simp only [descendantsOrdered]
    rewrite [if_neg (by omega), List.flatMap_cons, List.flatMap_nil, List.append_nil]
    exact quintChildren_eq f n

theorem children_deep (f k : Nat) (ds : List Nat) (hp : WF (deep f k ds)) (n : Nat) (hn1 : 1 ≤ n) (hn : n ≤ 20)
    (hl : ds.length + n ≤ 28) :
    cellToChildren (enc (deep f k ds)) (some (1 + (ds.length : Int) + (n : Int))) =
      .ok ((descendantsOrdered (deep f k ds) (1 + (ds.length : Int) + (n : Int))).map enc) := by
  obtain ⟨hf, hk, hd, hl'⟩ := id hp
  have hdn : (1 + (ds.length : Int) + (n : Int) - max (toCell (deep f k ds)).res 1).toNat = n := by
    show (1 + (ds.length : Int) + (n : Int) - max (1 + (ds.length : Int)) 1).toNat = n
    omega
  have hb := shift_add_four_pow_le (value ds) ds.length n (value_lt ds hd) (by omega)
  have hp4 : 0 < 4 ^ n := Nat.pow_pos (by omega)
  rewrite [cellToChildren_loop _ _ (deserialize_enc_path hp) _
    (by show (1 + (ds.length : Int)) < _; omega) (by omega)
    (by show 1 + (ds.length : Int) + (n : Int) - max (1 + (ds.length : Int)) 1 ≤ 20; omega)
    (by rewrite [hdn]; show value ds * 4 ^ n < _; omega), hdn]
  have e : childLoop [f] [(k + firstQuintant f) % 5] (value ds * 4 ^ n) (4 ^ n) (1 + (ds.length : Int) + (n : Int))
      = .ok ([f].flatMap (fun _ => [(k + firstQuintant f) % 5].flatMap
          (fun _ => (descend n (deep f k ds)).map enc))) :=
    childLoop_ok _ _ _ _ _ (fun _ _ => (descend n (deep f k ds)).map enc) (fun o ho seg hs => by
      simp only [List.mem_singleton] at ho hs; subst ho hs
      exact innerLoop_ok o k ds n hf hk hd hl _ rfl _ rfl _ rfl)
  refine Eq.trans ?_ (e.trans ?_)
  · have e1 : (if (toCell (deep f k ds)).res = -1 then List.range 12 else [(toCell (deep f k ds)).origin]) = [f] := by
      show (if (1 + (ds.length : Int)) = -1 then List.range 12 else [f]) = [f]
      rewrite [if_neg (by omega)]; rfl
    have e2 : (if ((toCell (deep f k ds)).res = -1 ∧ 1 + (ds.length : Int) + (n : Int) > 0) ∨
        (toCell (deep f k ds)).res = 0 then [0, 1, 2, 3, 4] else [(toCell (deep f k ds)).segment])
        = [(k + firstQuintant f) % 5] := by
      show (if ((1 + (ds.length : Int)) = -1 ∧ 1 + (ds.length : Int) + (n : Int) > 0) ∨
        (1 + (ds.length : Int)) = 0 then [0, 1, 2, 3, 4] else [(k + firstQuintant f) % 5]) = _
      rewrite [if_neg (by omega)]; rfl
    rewrite [e1, e2]; rfl
  · refine congrArg Outcome.ok ?_
    simp only [descendantsOrdered, List.flatMap_cons, List.flatMap_nil, List.append_nil]
    rewrite [descendantsAt_of_le (by simp only [res]; omega)]
    have : (1 + (ds.length : Int) + (n : Int) - res (deep f k ds)).toNat = n := by simp only [res]; omega
    rewrite [this]; rfl

theorem cellToChildren_enc_ok {p : Path} (hp : WF p) (r' : Int) (h1 : res p ≤ r') (h2 : r' ≤ 29)
    (h3 : r' - max (res p) 1 ≤ 20) :
    cellToChildren (enc p) (some r') = .ok ((descendantsOrdered p r').map enc) := by
  by_cases heq : r' = res p
  · rewrite [heq, descendantsOrdered_self, cellToChildren_of_deserialize _ _ (deserialize_enc_path hp), res_toCell,
      if_neg (by omega), if_neg (by have := res_le hp; omega), if_pos rfl, serialize_toCell hp]
    rfl
  cases p with
  | world =>
    simp only [res] at h1 h3 heq
    by_cases h0 : r' = 0
    · subst h0; exact children_world_zero
    · obtain ⟨n, rfl⟩ : ∃ n : Nat, r' = 1 + (n : Int) := ⟨(r' - 1).toNat, by omega⟩
      exact children_world_succ n (by omega)
  | face f =>
    simp only [res] at h1 h3 heq
    obtain ⟨n, rfl⟩ : ∃ n : Nat, r' = 1 + (n : Int) := ⟨(r' - 1).toNat, by omega⟩
    exact children_face_succ f hp n (by omega)
  | deep f k ds =>
    simp only [res] at h1 h3 heq
    obtain ⟨n, rfl⟩ : ∃ n : Nat, r' = 1 + (ds.length : Int) + (n : Int) :=
      ⟨(r' - 1 - (ds.length : Int)).toNat, by omega⟩
    exact children_deep f k ds hp n (by omega) (by omega) (by omega)

/-- at target 30 (one past the finest resolution) with at most 20 levels: the encoder rejects the first child -/
theorem cellToChildren_enc_30 {p : Path} (hp : WF p) (h3 : 30 - max (res p) 1 ≤ 20) :
    cellToChildren (enc p) (some 30) = .err .resTooLarge := by
  have hr := res_le hp
  have hg := res_ge p
  have hs : (toCell p).s * 4 ^ (30 - max (res p) 1).toNat + 4 ^ (30 - max (res p) 1).toNat ≤ 2 ^ 58 := by
    cases p with
    | world => simp only [res] at h3; omega
    | face f => simp only [res] at h3; omega
    | deep f k ds =>
      obtain ⟨hf, hk, hd, hl'⟩ := hp
      simp only [res] at h3 ⊢
      exact shift_add_four_pow_le (value ds) ds.length _ (value_lt ds hd) (by omega)
  have hp4 : 0 < 4 ^ (30 - max (res p) 1).toNat := Nat.pow_pos (by omega)
  rewrite [cellToChildren_loop _ _ (deserialize_enc_path hp) 30 (by rewrite [res_toCell]; omega) (by omega)
    (by rewrite [res_toCell]; exact h3) (by rewrite [res_toCell]; omega), res_toCell]
  refine childLoop_err _ _ _ _ _ _ ?_ ?_ (fun o _ seg _ => innerLoop_err_30 o seg _ _ (by omega))
  · split
    · decide
    · exact List.cons_ne_nil _ _
  · split
    · decide
    · exact List.cons_ne_nil _ _

/-- **children / descendants.**  The complete behaviour of `cell_to_children(id, Some(r'))` on the id of any
cell `p`: error "coarser" below `res p`; error "exceeds maximum" above 30; `[id]` at `res p`; error "difference
too large" beyond 20 levels (counted from resolution 1 for the world and base cells); at `r' = 30` the encoder's
error "resolution too large"; otherwise the ids of the descendants of `p` at `r'`, in `descendantsOrdered`. -/
theorem cellToChildren_enc {p : Path} (hp : WF p) (r' : Int) :
    cellToChildren (enc p) (some r') =
      if r' < res p then .err .targetCoarser
      else if r' > 30 then .err .exceedsMax
      else if r' = res p then .ok [enc p]
      else if r' - max (res p) 1 > 20 then .err .diffTooLarge
      else if r' = 30 then .err .resTooLarge
      else .ok ((descendantsOrdered p r').map enc) := by
  have hr := res_le hp
  by_cases h1 : r' < res p
  · rewrite [if_pos h1, cellToChildren_of_deserialize _ _ (deserialize_enc_path hp), res_toCell, if_pos h1]; rfl
  rewrite [if_neg h1]
  by_cases h2 : r' > 30
  · rewrite [if_pos h2, cellToChildren_of_deserialize _ _ (deserialize_enc_path hp), res_toCell, if_neg h1, if_pos h2]
    rfl
  rewrite [if_neg h2]
  by_cases h3 : r' = res p
  · rewrite [if_pos h3, cellToChildren_enc_ok hp r' (by omega) (by omega) (by omega), h3, descendantsOrdered_self]
    rfl
  rewrite [if_neg h3]
  by_cases h4 : r' - max (res p) 1 > 20
  · rewrite [if_pos h4, cellToChildren_of_deserialize _ _ (deserialize_enc_path hp), res_toCell, if_neg h1, if_neg h2,
      if_neg h3, if_pos h4]
    rfl
  rewrite [if_neg h4]
  by_cases h5 : r' = 30
  · rewrite [if_pos h5, h5]; exact cellToChildren_enc_30 hp (by omega)
  · rewrite [if_neg h5]; exact cellToChildren_enc_ok hp r' (by omega) (by omega) (by omega)

theorem cellToChildren_default {p : Path} (hp : WF p) :
    cellToChildren (enc p) none = cellToChildren (enc p) (some (res p + 1)) := by
  have h1 := res_ge p
  have h2 := res_le hp
  simp only [cellToChildren, deserialize_enc_path hp, Outcome.bind_ok, res_toCell]
  rewrite [i32Add_ok _ _ (by omega)]
  rfl

theorem cellToChildren_none_enc {p : Path} (hp : WF p) (h : res p ≤ 28) :
    cellToChildren (enc p) none = .ok ((descendantsOrdered p (res p + 1)).map enc) := by
  have h1 := res_ge p
  rewrite [cellToChildren_default hp]
  exact cellToChildren_enc_ok hp _ (by omega) (by omega) (by omega)

/-- at the finest resolution the default target is 30, which the encoder rejects -/
theorem cellToChildren_none_29 {p : Path} (hp : WF p) (h : res p = 29) :
    cellToChildren (enc p) none = .err .resTooLarge := by
  rewrite [cellToChildren_default hp, h]
  exact cellToChildren_enc_30 hp (by omega)

theorem getRes0Cells_eq : getRes0Cells = .ok ((List.range 12).map (fun f => enc (face f))) := by
  have e : getRes0Cells = cellToChildren (enc world) (some 0) := rfl
  rewrite [e, children_world_zero]
  rewrite [ordered_world_zero, List.map_map]
  rfl

end Path
end A5
