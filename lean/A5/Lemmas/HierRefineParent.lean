import A5.Lemmas.PathCodec
import A5.Lemmas.OutcomeLemmas
/-! `cellToParent` refines `Path.ancestorAt` / `Path.parent` on every canonical id. -/
namespace A5

namespace Path

/-- **parent / ancestor lookup.**  On the id of any cell `p`, `cell_to_parent(id, Some(r'))` is: the world id
for `r' = -1`; the error "negative" for `r' < -1`; the error "finer" for `r' > res p`; otherwise the id of the
ancestor of `p` at resolution `r'`. -/
theorem cellToParent_enc {p : Path} (hp : WF p) (r' : Int) :
    cellToParent (enc p) (some r') =
      if r' = -1 then .ok 0 else if r' < 0 then .err .negative
      else if r' > res p then .err .targetFiner else .ok (enc (ancestorAt p r')) := by
  simp only [cellToParent, deserialize_enc_path hp, Outcome.bind_ok, res_toCell, Gen.WORLD_CELL]
  by_cases h1 : r' = -1
  · rewrite [if_pos h1, if_pos h1]; rfl
  rewrite [if_neg h1, if_neg h1]
  by_cases h2 : r' < 0
  · rewrite [if_pos h2, if_pos h2]; rfl
  rewrite [if_neg h2, if_neg h2]
  by_cases h3 : r' > res p
  · rewrite [if_pos h3, if_pos h3]; rfl
  rewrite [if_neg h3, if_neg h3]
  by_cases h4 : r' = res p
  · rewrite [if_pos h4, h4, ancestorAt_self p _ (Int.le_refl _)]; exact serialize_toCell hp
  rewrite [if_neg h4]
  cases p with
  | world => simp only [res] at h3; omega
  | face f => simp only [res] at h3 h4; omega
  | deep f k ds =>
    have hwf := hp
    obtain ⟨hf, hk, hd, hl⟩ := hp
    have h3 : r' < 1 + (ds.length : Int) := by simp only [res] at h3 h4; omega
    have hseg := Nat.mod_lt (k + firstQuintant f) (show 0 < 5 by omega)
    simp only [res, toCell]
    rcases nonneg_cases (Int.not_lt.mp h2) with rfl | ⟨L, rfl⟩
    · rewrite [u64Shr_ok _ _ (by omega)]
      exact (serialize_ok f _ _ _ hf (by omega) (by omega) (by omega) (Or.inl (by omega))).trans
        (congrArg Outcome.ok (encNat_res0 f _ _))
    · have hw := wf_ancestorAt hwf (1 + (L : Int))
      rewrite [ancestorAt_deep_succ] at hw ⊢
      rewrite [show (1 + (ds.length : Int) - (1 + (L : Int))).toNat = ds.length - L by omega, u64Shr_ok _ _ (by omega),
        Outcome.bind_ok, ← serialize_toCell hw]
      refine congrArg serialize ?_
      simp only [toCell, Cell.mk.injEq, true_and]
      exact ⟨by rewrite [value_take ds hd, two_pow_two_mul]; rfl, by rewrite [List.length_take]; omega⟩

theorem cellToParent_anc {p : Path} (hp : WF p) (a : Int) (h1 : -1 ≤ a) (h2 : a ≤ res p) :
    cellToParent (enc p) (some a) = .ok (enc (ancestorAt p a)) := by
  rewrite [cellToParent_enc hp]
  by_cases h : a = -1
  · rewrite [if_pos h, h, ancestorAt_of_neg p (by decide)]; rfl
  · rewrite [if_neg h, if_neg (by omega), if_neg (by omega)]; rfl

theorem cellToParent_default {p : Path} (hp : WF p) :
    cellToParent (enc p) none = cellToParent (enc p) (some (res p - 1)) := by
  have h1 := res_ge p
  have h2 := res_le hp
  simp only [cellToParent, deserialize_enc_path hp, Outcome.bind_ok, res_toCell]
  rewrite [i32Sub_ok _ _ (by omega)]
  rfl

theorem cellToParent_none_enc {p : Path} (hp : WF p) (h : p ≠ world) :
    cellToParent (enc p) none = .ok (enc (parent p)) := by
  have h1 := res_nonneg h
  rewrite [cellToParent_default hp, cellToParent_anc hp _ (by omega) (by omega), parent_eq_ancestorAt]
  rfl

/-- on the world cell the default argument asks for resolution `-2`, which is rejected -/
theorem cellToParent_none_world : cellToParent (enc world) none = .err .negative := by
  rewrite [cellToParent_default (p := world) trivial, cellToParent_enc (p := world) trivial]
  rfl

end Path
end A5
