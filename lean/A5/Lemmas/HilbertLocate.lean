import A5.Lemmas.HilbertDigits
import Mathlib.Tactic.Linarith
import Mathlib.Tactic.Ring
import Mathlib.Tactic.FieldSimp
import Mathlib.Tactic.IntervalCases
import Mathlib.Algebra.Order.Field.Basic
import Mathlib.Algebra.Order.Field.Rat
/-! # Geometric core of C17: locating a point of an anchor's lattice triangle reproduces the digits

Everything is proved over an arbitrary linearly ordered field `K` (so over `ℚ` and `ℝ`).
`T(F)` (`InT F`) is the open lattice triangle attached to the flip state `F`; `2·T(F)` is the disjoint
union (up to boundaries) of the four pieces `c(d,F) + T(F·flips d)` and `ijToQuaternary` names the piece
(`subdivision`, `subdivision_contained`, `subdivision_complete`).  These are proved for `F = (1, 1)` only;
the linear involution `std F` carries `T(F)`, the classifier and the pieces of any other state to those
of `(1, 1)`.  The main theorem `locate_of_inTri` says that the inverse walk `locateDigits`, started on
any point strictly inside the triangle of the anchor built by `accumOffset` from the digits `ds`,
returns exactly `ds` (and the anchor's flips). -/
namespace A5.HilbertLocate
open A5

def IsFlip (F : Int × Int) : Prop := F = (1, 1) ∨ F = (1, -1) ∨ F = (-1, 1) ∨ F = (-1, -1)

theorem yes_eq : Gen.YES = -1 := by decide
theorem start_eq : (Gen.NO, Gen.NO) = ((1 : Int), (1 : Int)) := by decide
theorem isFlip_start : IsFlip (Gen.NO, Gen.NO) := Or.inl start_eq

def childIJ (d : Nat) (F : Int × Int) : Int × Int := kjToIJ (quaternaryToKJ d F)
def nextF (d : Nat) (F : Int × Int) : Int × Int := mulFlips F (quaternaryToFlips d)

theorem childIJ_0_pp : childIJ 0 (1, 1) = (0, 0) := by decide
theorem childIJ_1_pp : childIJ 1 (1, 1) = (1, 0) := by decide
theorem childIJ_2_pp : childIJ 2 (1, 1) = (0, 1) := by decide
theorem childIJ_3_pp : childIJ 3 (1, 1) = (1, 1) := by decide
theorem nextF_0_pp : nextF 0 (1, 1) = (1, 1) := by decide
theorem nextF_1_pp : nextF 1 (1, 1) = (1, -1) := by decide
theorem nextF_2_pp : nextF 2 (1, 1) = (1, 1) := by decide
theorem nextF_3_pp : nextF 3 (1, 1) = (-1, 1) := by decide

/-- the child offsets of the other three states are the images of those of `(1, 1)` under `std F` (below) -/
theorem childIJ_std (d : Nat) (hd : d < 4) (F : Int × Int) (hF : IsFlip F) :
    childIJ d F = (F.2 * (childIJ d (1, 1)).1,
      if F.1 = F.2 then F.1 * (childIJ d (1, 1)).2 else F.1 * ((childIJ d (1, 1)).1 + (childIJ d (1, 1)).2)) := by
  rcases hF with rfl | rfl | rfl | rfl <;> interval_cases d <;> decide

theorem nextF_eq_mulFlips (d : Nat) (F : Int × Int) : nextF d F = mulFlips F (nextF d (1, 1)) := by
  unfold nextF; rewrite [one_mulFlips]; rfl

theorem isFlip_nextF (d : Nat) (hd : d < 4) (F : Int × Int) (hF : IsFlip F) : IsFlip (nextF d F) := by
  rcases hF with rfl | rfl | rfl | rfl <;> interval_cases d <;> unfold IsFlip <;> decide

set_option linter.unusedSectionVars false
section triangles
variable {K : Type} [Field K] [LinearOrder K] [IsStrictOrderedRing K]

/-- literals of the generic `ij_to_s` code in a field -/
def fieldLits : Lits K := { ofInt := fun z => (z : K), invPow2 := fun i => 1 / (2 : K) ^ i }

/-- the open lattice triangle `T(F)` of the flip state `F`, in IJ coordinates.  In the quantities `a = ±(u + v)`,
`b = ±u`, `c = ±v` that `ij_to_quaternary` forms from the flips and compares with `1`, it is `b > 0, c > 0, a < 1`
(no flip or both) resp. `b > 0, c < 1, a > 0` (one flip). -/
def InT (F : Int × Int) (u v : K) : Prop :=
  if F = (1, 1) then 0 < u ∧ 0 < v ∧ u + v < 1
  else if F = (1, -1) then -1 < u ∧ u < 0 ∧ 0 < v ∧ v < 1 ∧ 0 < u + v
  else if F = (-1, 1) then 0 < u ∧ u < 1 ∧ -1 < v ∧ v < 0 ∧ u + v < 0
  else if F = (-1, -1) then -1 < u ∧ u < 0 ∧ -1 < v ∧ v < 0 ∧ -1 < u + v
  else False

theorem inT_pp (u v : K) : InT (1, 1) u v ↔ 0 < u ∧ 0 < v ∧ u + v < 1 := by
  simp [InT]
theorem inT_pm (u v : K) : InT (1, -1) u v ↔ -1 < u ∧ u < 0 ∧ 0 < v ∧ v < 1 ∧ 0 < u + v := by
  simp [InT]
theorem inT_mp (u v : K) : InT (-1, 1) u v ↔ 0 < u ∧ u < 1 ∧ -1 < v ∧ v < 0 ∧ u + v < 0 := by
  simp [InT]
theorem inT_mm (u v : K) : InT (-1, -1) u v ↔ -1 < u ∧ u < 0 ∧ -1 < v ∧ v < 0 ∧ -1 < u + v := by
  simp [InT]

theorem inT_hex (F : Int × Int) (hF : IsFlip F) (u v : K) (h : InT F u v) :
    -1 < u ∧ u < 1 ∧ -1 < v ∧ v < 1 ∧ -1 < u + v ∧ u + v < 1 := by
  rcases hF with rfl | rfl | rfl | rfl
  · obtain ⟨a, b, c⟩ := (inT_pp u v).1 h
    exact ⟨by linarith only [a], by linarith only [b, c], by linarith only [b], by linarith only [a, c],
      by linarith only [a, b], c⟩
  · obtain ⟨a, b, c, d, e⟩ := (inT_pm u v).1 h
    exact ⟨a, by linarith only [b], by linarith only [c], d, by linarith only [e], by linarith only [b, d]⟩
  · obtain ⟨a, b, c, d, e⟩ := (inT_mp u v).1 h
    exact ⟨by linarith only [a], b, c, by linarith only [d], by linarith only [a, c], by linarith only [e]⟩
  · obtain ⟨a, b, c, d, e⟩ := (inT_mm u v).1 h
    exact ⟨a, by linarith only [b], c, by linarith only [d], e, by linarith only [b, d]⟩

theorem ijq_pp (u v : K) : ijToQuaternary fieldLits u v (1, 1) =
    if u + v < 1 then 0 else if 1 < u then 3 else if 1 < v then 2 else 1 := by
  simp [ijToQuaternary, fieldLits, yes_eq]
theorem ijq_pm (u v : K) : ijToQuaternary fieldLits u v (1, -1) =
    if v < 1 then 0 else if 1 < -u then 3 else if 1 < u + v then 2 else 1 := by
  simp [ijToQuaternary, fieldLits, yes_eq]
theorem ijq_mp (u v : K) : ijToQuaternary fieldLits u v (-1, 1) =
    if -v < 1 then 0 else if 1 < u then 3 else if 1 < -(u + v) then 2 else 1 := by
  simp [ijToQuaternary, fieldLits, yes_eq]
theorem ijq_mm (u v : K) : ijToQuaternary fieldLits u v (-1, -1) =
    if -(u + v) < 1 then 0 else if 1 < -u then 3 else if 1 < -v then 2 else 1 := by
  simp [ijToQuaternary, fieldLits, yes_eq]

theorem inT_piece0 (u v : K) : InT (nextF 0 (1, 1)) (u - ((childIJ 0 (1, 1)).1 : K)) (v - ((childIJ 0 (1, 1)).2 : K)) ↔
    0 < u ∧ 0 < v ∧ u + v < 1 := by
  rw [nextF_0_pp, childIJ_0_pp, inT_pp, Int.cast_zero, sub_zero, sub_zero]
theorem inT_piece1 (u v : K) : InT (nextF 1 (1, 1)) (u - ((childIJ 1 (1, 1)).1 : K)) (v - ((childIJ 1 (1, 1)).2 : K)) ↔
    0 < u ∧ u < 1 ∧ 0 < v ∧ v < 1 ∧ 1 < u + v := by
  rw [nextF_1_pp, childIJ_1_pp, inT_pm, Int.cast_zero, Int.cast_one, sub_zero, lt_sub_iff_add_lt, neg_add_cancel, sub_neg,
    sub_add_eq_add_sub, sub_pos]
theorem inT_piece2 (u v : K) : InT (nextF 2 (1, 1)) (u - ((childIJ 2 (1, 1)).1 : K)) (v - ((childIJ 2 (1, 1)).2 : K)) ↔
    0 < u ∧ 1 < v ∧ u + v < 2 := by
  rw [nextF_2_pp, childIJ_2_pp, inT_pp, Int.cast_zero, Int.cast_one, sub_zero, sub_pos, ← add_sub_assoc, sub_lt_iff_lt_add,
    one_add_one_eq_two]
theorem inT_piece3 (u v : K) : InT (nextF 3 (1, 1)) (u - ((childIJ 3 (1, 1)).1 : K)) (v - ((childIJ 3 (1, 1)).2 : K)) ↔
    1 < u ∧ u < 2 ∧ 0 < v ∧ v < 1 ∧ u + v < 2 := by
  rw [nextF_3_pp, childIJ_3_pp, inT_mp, Int.cast_one, sub_pos, sub_lt_iff_lt_add, one_add_one_eq_two, lt_sub_iff_add_lt,
    neg_add_cancel, sub_neg, sub_add_sub_comm, sub_neg, one_add_one_eq_two]

theorem inT_pp_scale {c : K} (hc : 0 < c) (u v : K) :
    InT (1, 1) (u * (1 / c)) (v * (1 / c)) ↔ 0 < u ∧ 0 < v ∧ u + v < c := by
  rw [inT_pp, ← add_mul, mul_pos_iff_of_pos_right (one_div_pos.2 hc), mul_pos_iff_of_pos_right (one_div_pos.2 hc),
    mul_one_div, div_lt_one hc]

theorem subdivision_pp (d : Nat) (hd : d < 4) (u v : K)
    (h : InT (nextF d (1, 1)) (u - ((childIJ d (1, 1)).1 : K)) (v - ((childIJ d (1, 1)).2 : K))) :
    ijToQuaternary fieldLits u v (1, 1) = d := by
  rewrite [ijq_pp]
  interval_cases d
  · rw [if_pos ((inT_piece0 u v).1 h).2.2]
  · obtain ⟨-, h2, -, h4, h5⟩ := (inT_piece1 u v).1 h
    rw [if_neg (lt_asymm h5), if_neg (lt_asymm h2), if_neg (lt_asymm h4)]
  · obtain ⟨h1, h2, h3⟩ := (inT_piece2 u v).1 h
    rw [if_neg (by linarith only [h1, h2]), if_neg (by linarith only [h2, h3]), if_pos h2]
  · obtain ⟨h1, -, h3, -, -⟩ := (inT_piece3 u v).1 h
    rw [if_neg (by linarith only [h1, h3]), if_pos h1]

theorem subdivision_contained_pp (d : Nat) (hd : d < 4) (u v : K)
    (h : InT (nextF d (1, 1)) (u - ((childIJ d (1, 1)).1 : K)) (v - ((childIJ d (1, 1)).2 : K))) :
    InT (1, 1) (u * (1 / 2)) (v * (1 / 2)) := by
  rewrite [inT_pp_scale two_pos]
  interval_cases d
  · obtain ⟨h1, h2, h3⟩ := (inT_piece0 u v).1 h
    exact ⟨h1, h2, h3.trans one_lt_two⟩
  · obtain ⟨h1, h2, h3, h4, -⟩ := (inT_piece1 u v).1 h
    exact ⟨h1, h3, by linarith only [h2, h4]⟩
  · obtain ⟨h1, h2, h3⟩ := (inT_piece2 u v).1 h
    exact ⟨h1, zero_lt_one.trans h2, h3⟩
  · obtain ⟨h1, -, h3, -, h5⟩ := (inT_piece3 u v).1 h
    exact ⟨zero_lt_one.trans h1, h3, h5⟩

theorem subdivision_complete_pp (u v : K) (hin : InT (1, 1) (u * (1 / 2)) (v * (1 / 2)))
    (h1 : u + v ≠ 1) (h2 : u ≠ 1) (h3 : v ≠ 1) :
    ijToQuaternary fieldLits u v (1, 1) < 4 ∧
      InT (nextF (ijToQuaternary fieldLits u v (1, 1)) (1, 1))
        (u - ((childIJ (ijToQuaternary fieldLits u v (1, 1)) (1, 1)).1 : K))
        (v - ((childIJ (ijToQuaternary fieldLits u v (1, 1)) (1, 1)).2 : K)) := by
  obtain ⟨a, b, c⟩ := (inT_pp_scale two_pos u v).1 hin
  rewrite [ijq_pp]
  split_ifs with c1 c2 c3
  · exact ⟨by decide, (inT_piece0 u v).2 ⟨a, b, c1⟩⟩
  · exact ⟨by decide, (inT_piece3 u v).2 ⟨c2, by linarith only [b, c], b, by linarith only [c2, c], c⟩⟩
  · exact ⟨by decide, (inT_piece2 u v).2 ⟨a, c3, c⟩⟩
  · -- the middle piece is the only one bounded by the three cut lines
    exact ⟨by decide, (inT_piece1 u v).2 ⟨a, lt_of_le_of_ne (not_lt.1 c2) h2, b, lt_of_le_of_ne (not_lt.1 c3) h3,
      lt_of_le_of_ne (not_lt.1 c1) h1.symm⟩⟩

/-- the linear involution `σ_F` with `T(F) = σ_F⁻¹ T(1,1)` -/
def std (F : Int × Int) (u v : K) : K × K :=
  ((F.2 : K) * u, if F.1 = F.2 then (F.1 : K) * v else (F.1 : K) * (u + v))

theorem inT_std (F : Int × Int) (hF : IsFlip F) (u v : K) :
    InT F u v ↔ InT (1, 1) (std F u v).1 (std F u v).2 := by
  rcases hF with rfl | rfl | rfl | rfl <;>
    simp only [inT_pp, inT_pm, inT_mp, inT_mm, std, Int.cast_one, Int.cast_neg, one_mul, neg_mul,
      reduceCtorEq, if_true, if_false, Int.reduceNeg] <;>
    constructor <;> intro h <;> (try refine ⟨?_, ?_, ?_, ?_, ?_⟩) <;> (try refine ⟨?_, ?_, ?_⟩) <;>
    linarith only [h.1, h.2.1, h.2.2]

theorem ijq_std (F : Int × Int) (hF : IsFlip F) (u v : K) :
    ijToQuaternary fieldLits u v F = ijToQuaternary fieldLits (std F u v).1 (std F u v).2 (1, 1) := by
  rcases hF with rfl | rfl | rfl | rfl <;>
    simp only [ijq_pp, ijq_pm, ijq_mp, ijq_mm, std, Int.cast_one, Int.cast_neg, one_mul, neg_mul,
      reduceCtorEq, if_true, if_false, Int.reduceNeg, neg_add_cancel_left, add_neg_cancel_left, neg_add]

theorem std_child (F : Int × Int) (hF : IsFlip F) (d : Nat) (hd : d < 4) (u v : K) :
    std (nextF d F) (u - ((childIJ d F).1 : K)) (v - ((childIJ d F).2 : K)) =
      std (nextF d (1, 1)) ((std F u v).1 - ((childIJ d (1, 1)).1 : K)) ((std F u v).2 - ((childIJ d (1, 1)).2 : K)) := by
  rewrite [childIJ_std d hd F hF, nextF_eq_mulFlips d F]
  rcases hF with rfl | rfl | rfl | rfl <;> interval_cases d <;>
    simp only [childIJ_0_pp, childIJ_1_pp, childIJ_2_pp, childIJ_3_pp, nextF_0_pp, nextF_1_pp, nextF_2_pp, nextF_3_pp,
      mulFlips, std, Int.cast_zero, Int.cast_one, Int.cast_neg, Int.cast_ofNat, reduceCtorEq, if_true, if_false,
      Int.reduceNeg, Int.reduceMul, Int.reduceAdd] <;>
    refine Prod.ext ?_ ?_ <;> ring

theorem std_half (F : Int × Int) (u v : K) :
    std F (u * (1 / 2)) (v * (1 / 2)) = ((std F u v).1 * (1 / 2), (std F u v).2 * (1 / 2)) := by
  unfold std
  split <;> simp only [mul_assoc, ← add_mul]

theorem std_cuts (F : Int × Int) (hF : IsFlip F) (u v : K)
    (h1 : u + v ≠ (F.1 : K)) (h2 : u ≠ (F.2 : K)) (h3 : v ≠ (F.1 : K)) :
    (std F u v).1 + (std F u v).2 ≠ 1 ∧ (std F u v).1 ≠ 1 ∧ (std F u v).2 ≠ 1 := by
  rcases hF with rfl | rfl | rfl | rfl <;>
    simp only [std, Int.cast_one, Int.cast_neg, one_mul, neg_mul, reduceCtorEq, if_true, if_false,
      Int.reduceNeg] at h1 h2 h3 ⊢
  · exact ⟨h1, h2, h3⟩
  · exact ⟨fun e => h3 (by linarith only [e]), fun e => h2 (by linarith only [e]), h1⟩
  · exact ⟨fun e => h3 (by linarith only [e]), h2, fun e => h1 (by linarith only [e])⟩
  · exact ⟨fun e => h1 (by linarith only [e]), fun e => h2 (by linarith only [e]), fun e => h3 (by linarith only [e])⟩

theorem inT_child (F : Int × Int) (hF : IsFlip F) (d : Nat) (hd : d < 4) (u v : K) :
    InT (nextF d F) (u - ((childIJ d F).1 : K)) (v - ((childIJ d F).2 : K)) ↔
      InT (nextF d (1, 1)) ((std F u v).1 - ((childIJ d (1, 1)).1 : K)) ((std F u v).2 - ((childIJ d (1, 1)).2 : K)) := by
  rw [inT_std _ (isFlip_nextF d hd F hF), inT_std _ (isFlip_nextF d hd _ (Or.inl rfl)), std_child F hF d hd]

/-- **Subdivision.** If `q - c(d,F)` lies in the triangle of the next flip state, the classifier
`ijToQuaternary` returns `d` on `q`. -/
theorem subdivision (F : Int × Int) (hF : IsFlip F) (d : Nat) (hd : d < 4) (u v : K)
    (h : InT (nextF d F) (u - ((childIJ d F).1 : K)) (v - ((childIJ d F).2 : K))) :
    ijToQuaternary fieldLits u v F = d := by
  rewrite [ijq_std F hF]
  exact subdivision_pp d hd _ _ ((inT_child F hF d hd u v).1 h)

/-- **Containment.** `c(d,F) + T(F·flips d) ⊆ 2·T(F)`. -/
theorem subdivision_contained (F : Int × Int) (hF : IsFlip F) (d : Nat) (hd : d < 4) (u v : K)
    (h : InT (nextF d F) (u - ((childIJ d F).1 : K)) (v - ((childIJ d F).2 : K))) :
    InT F (u * (1 / 2)) (v * (1 / 2)) := by
  rewrite [inT_std F hF, std_half]
  exact subdivision_contained_pp d hd _ _ ((inT_child F hF d hd u v).1 h)

/-- **Completeness of the subdivision** (converse of `subdivision` + exhaustiveness): a point of the
doubled triangle `2·T(F)` that is on none of the three cut lines `u + v = F.1`, `u = F.2`, `v = F.1`
lies in the piece named by `ijToQuaternary`. -/
theorem subdivision_complete (F : Int × Int) (hF : IsFlip F) (u v : K)
    (hin : InT F (u * (1 / 2)) (v * (1 / 2)))
    (h1 : u + v ≠ (F.1 : K)) (h2 : u ≠ (F.2 : K)) (h3 : v ≠ (F.1 : K)) :
    ijToQuaternary fieldLits u v F < 4 ∧
      InT (nextF (ijToQuaternary fieldLits u v F) F)
        (u - ((childIJ (ijToQuaternary fieldLits u v F) F).1 : K))
        (v - ((childIJ (ijToQuaternary fieldLits u v F) F).2 : K)) := by
  rewrite [inT_std F hF, std_half] at hin
  obtain ⟨k1, k2, k3⟩ := std_cuts F hF u v h1 h2 h3
  have key := subdivision_complete_pp _ _ hin k1 k2 k3
  rewrite [← ijq_std F hF] at key
  exact ⟨key.1, (inT_child F hF _ key.1 u v).2 key.2⟩

end triangles

theorem accumOffset_succ (i : Nat) (ds : List Nat) (off F : Int × Int) :
    accumOffset (i + 1) ds off F =
      accumOffset i ds (off.1 * 2 + (quaternaryToKJ (ds.getD i 0) F).1,
        off.2 * 2 + (quaternaryToKJ (ds.getD i 0) F).2) (nextF (ds.getD i 0) F) := rfl

theorem accumOffset_congr (ds ds' : List Nat) (m : Nat) (h : ∀ i, i < m → ds.getD i 0 = ds'.getD i 0) :
    ∀ off F : Int × Int, accumOffset m ds off F = accumOffset m ds' off F := by
  induction m with
  | zero => exact fun _ _ => rfl
  | succ m ih =>
    intro off F
    rewrite [accumOffset_succ, accumOffset_succ, h m (by omega)]
    exact ih (fun i hi => h i (by omega)) _ _

theorem accumOffset_flips (ds : List Nat) (hds : ∀ i, ds.getD i 0 < 4) (m : Nat) :
    ∀ off F : Int × Int, IsFlip F → IsFlip (accumOffset m ds off F).2 := by
  induction m with
  | zero => exact fun _ _ hF => hF
  | succ m ih => exact fun _ F hF => ih _ _ (isFlip_nextF _ (hds m) F hF)

theorem accumOffset_isFlip (n : Nat) (ds : List Nat) (hds : ∀ d ∈ ds, d < 4) :
    IsFlip (accumOffset n ds (0, 0) (Gen.NO, Gen.NO)).2 :=
  accumOffset_flips ds (getD_lt_of_forall_mem ds hds) n _ _ isFlip_start

theorem accumOffset_lin (m : Nat) (ds : List Nat) : ∀ (off F : Int × Int),
    accumOffset m ds off F =
      ((2 ^ m * off.1 + (accumOffset m ds (0, 0) F).1.1, 2 ^ m * off.2 + (accumOffset m ds (0, 0) F).1.2),
        (accumOffset m ds (0, 0) F).2) := by
  induction m with
  | zero => intro off F; simp [accumOffset]
  | succ m ih =>
    intro off F
    rewrite [accumOffset_succ, accumOffset_succ, ih, ih (0 * 2 + _, 0 * 2 + _)]
    refine Prod.ext (Prod.ext ?_ ?_) rfl <;> (dsimp only; ring)

/-- the anchor (IJ offset, flips) that the forward walk builds from the lowest `m` digits of `ds`
starting in flip state `F` -/
def anchorOf (m : Nat) (ds : List Nat) (F : Int × Int) : (Int × Int) × (Int × Int) :=
  (kjToIJ (accumOffset m ds (0, 0) F).1, (accumOffset m ds (0, 0) F).2)

theorem anchorOf_zero (ds : List Nat) (F : Int × Int) : anchorOf 0 ds F = ((0, 0), F) := rfl

theorem anchorOf_succ (m : Nat) (ds : List Nat) (F : Int × Int) :
    anchorOf (m + 1) ds F =
      ((2 ^ m * (childIJ (ds.getD m 0) F).1 + (anchorOf m ds (nextF (ds.getD m 0) F)).1.1,
        2 ^ m * (childIJ (ds.getD m 0) F).2 + (anchorOf m ds (nextF (ds.getD m 0) F)).1.2),
        (anchorOf m ds (nextF (ds.getD m 0) F)).2) := by
  unfold anchorOf
  rewrite [accumOffset_succ, accumOffset_lin]
  refine Prod.ext (Prod.ext ?_ ?_) rfl <;> (simp only [kjToIJ, childIJ]; ring)

theorem anchorOf_congr (ds ds' : List Nat) (m : Nat) (F : Int × Int)
    (h : ∀ i, i < m → ds.getD i 0 = ds'.getD i 0) : anchorOf m ds F = anchorOf m ds' F := by
  unfold anchorOf
  rewrite [accumOffset_congr ds ds' m h]; rfl

section generic
variable {α : Type} [Add α] [Sub α] [Mul α] [Neg α] [LT α] [DecidableLT α]

theorem locateDigits_succ (L : Lits α) (x y : α) (i : Nat) (P : α × α) (F : Int × Int) (acc : List Nat)
    (d : Nat) (hd : ijToQuaternary L ((x - P.1) * L.invPow2 i) ((y - P.2) * L.invPow2 i) F = d) :
    locateDigits L x y (i + 1) P F acc =
      locateDigits L x y i (P.1 + L.ofInt (childIJ d F).1 * L.ofInt (2 ^ i),
        P.2 + L.ofInt (childIJ d F).2 * L.ofInt (2 ^ i)) (nextF d F) (d :: acc) := by
  subst hd; rfl
end generic

section walk
variable {K : Type} [Field K] [LinearOrder K] [IsStrictOrderedRing K]

theorem inT_congr {F : Int × Int} {u v u' v' : K} (hu : u = u') (hv : v = v') (h : InT F u v) :
    InT F u' v' := by subst hu; subst hv; exact h

theorem scale_sub (u c : K) (m : Nat) : (u - 2 ^ m * c) * (1 / 2 ^ m) = u * (1 / 2 ^ m) - c := by
  rw [sub_mul, mul_one_div (2 ^ m * c), mul_div_cancel_left₀ _ (pow_ne_zero m (two_ne_zero' K))]

theorem scale_half (u : K) (m : Nat) : u * (1 / 2 ^ m) * (1 / 2) = u * (1 / 2 ^ (m + 1)) := by
  rw [mul_assoc, one_div_mul_one_div, ← pow_succ]

theorem anchor_contained (ds : List Nat) (hds : ∀ i, ds.getD i 0 < 4) : ∀ (m : Nat) (F : Int × Int),
    IsFlip F → ∀ (u v : K),
      InT (anchorOf m ds F).2 (u - ((anchorOf m ds F).1.1 : K)) (v - ((anchorOf m ds F).1.2 : K)) →
      InT F (u * (1 / 2 ^ m)) (v * (1 / 2 ^ m)) := by
  intro m
  induction m with
  | zero =>
    intro F hF u v h
    rewrite [anchorOf_zero] at h
    simpa using h
  | succ m ih =>
    intro F hF u v h
    have hd := hds m
    rewrite [anchorOf_succ] at h
    dsimp only at h
    have h2 := ih (nextF (ds.getD m 0) F) (isFlip_nextF _ hd F hF)
      (u - 2 ^ m * ((childIJ (ds.getD m 0) F).1 : K)) (v - 2 ^ m * ((childIJ (ds.getD m 0) F).2 : K))
      (inT_congr (by push_cast; ring) (by push_cast; ring) h)
    rewrite [scale_sub, scale_sub] at h2
    have h3 := subdivision_contained F hF _ hd (u * (1 / 2 ^ m)) (v * (1 / 2 ^ m)) h2
    rewrite [scale_half, scale_half] at h3
    exact h3

/-- the state in the middle of the inverse walk: from pivot `P` and flips `F`, a point of the anchor triangle of the
lowest `m` digits is located at those digits -/
theorem locateDigits_anchorOf (ds : List Nat) (hds : ∀ i, ds.getD i 0 < 4) (x y : K) : ∀ (m : Nat), m ≤ ds.length →
    ∀ (F : Int × Int), IsFlip F → ∀ (P : K × K) (acc : List Nat),
      InT (anchorOf m ds F).2 (x - P.1 - ((anchorOf m ds F).1.1 : K)) (y - P.2 - ((anchorOf m ds F).1.2 : K)) →
      locateDigits fieldLits x y m P F acc = (ds.take m ++ acc, (anchorOf m ds F).2) := by
  intro m
  induction m with
  | zero =>
    intro _ F _ P acc _
    rewrite [anchorOf_zero]
    simp [locateDigits]
  | succ m ih =>
    intro hm F hF P acc h
    have hd := hds m
    have hF' := isFlip_nextF _ hd F hF
    rewrite [anchorOf_succ] at h ⊢
    dsimp only at h ⊢
    have h2 := anchor_contained ds hds m _ hF'
      (x - P.1 - 2 ^ m * ((childIJ (ds.getD m 0) F).1 : K))
      (y - P.2 - 2 ^ m * ((childIJ (ds.getD m 0) F).2 : K))
      (inT_congr (by push_cast; ring) (by push_cast; ring) h)
    rewrite [scale_sub, scale_sub] at h2
    have h3 := subdivision F hF _ hd ((x - P.1) * (1 / 2 ^ m)) ((y - P.2) * (1 / 2 ^ m)) h2
    rewrite [locateDigits_succ fieldLits x y m P F acc _ h3, ih (by omega) _ hF', take_succ_getD ds m (by omega)]
    · simp
    · refine inT_congr ?_ ?_ h <;> (simp only [fieldLits]; push_cast; ring)

theorem locate_of_inTri (n : Nat) (ds : List Nat) (hlen : ds.length = n) (hds : ∀ d ∈ ds, d < 4) (x y : K)
    (h : InT (anchorOf n ds (Gen.NO, Gen.NO)).2 (x - ((anchorOf n ds (Gen.NO, Gen.NO)).1.1 : K))
      (y - ((anchorOf n ds (Gen.NO, Gen.NO)).1.2 : K))) :
    locateDigits fieldLits x y n ((0 : K), (0 : K)) (Gen.NO, Gen.NO) [] = (ds, (anchorOf n ds (Gen.NO, Gen.NO)).2) := by
  rewrite [start_eq] at h ⊢
  rw [locateDigits_anchorOf ds (getD_lt_of_forall_mem ds hds) x y n (by omega) (1, 1) (Or.inl rfl) ((0 : K), (0 : K)) []
    (inT_congr (by rw [sub_zero]) (by rw [sub_zero]) h), ← hlen, List.take_length, List.append_nil]

/-- every triangle `T(F)` is non-empty: an explicit interior point -/
def interiorPt (F : Int × Int) : K × K :=
  if F = (1, 1) then (1 / 3, 1 / 3) else if F = (1, -1) then (-1 / 3, 2 / 3)
  else if F = (-1, 1) then (1 / 3, -2 / 3) else (-1 / 3, -1 / 3)

theorem interiorPt_pp : (interiorPt (1, 1) : K × K) = (1 / 3, 1 / 3) := if_pos rfl
theorem interiorPt_pm : (interiorPt (1, -1) : K × K) = (-1 / 3, 2 / 3) := by simp [interiorPt]
theorem interiorPt_mp : (interiorPt (-1, 1) : K × K) = (1 / 3, -2 / 3) := by simp [interiorPt]
theorem interiorPt_mm : (interiorPt (-1, -1) : K × K) = (-1 / 3, -1 / 3) := by simp [interiorPt]

theorem interiorPt_inT (F : Int × Int) (hF : IsFlip F) :
    InT F (interiorPt F : K × K).1 (interiorPt F : K × K).2 := by
  rcases hF with rfl | rfl | rfl | rfl
  · rewrite [inT_pp, interiorPt_pp]; norm_num
  · rewrite [inT_pm, interiorPt_pm]; norm_num
  · rewrite [inT_mp, interiorPt_mp]; norm_num
  · rewrite [inT_mm, interiorPt_mm]; norm_num

/-- the triangle `(a, b) + T(F)` contains its centroid `(a, b) + interiorPt F` -/
theorem inT_centroid (F : Int × Int) (hF : IsFlip F) (a b : K) :
    InT F (a + (interiorPt F).1 - a) (b + (interiorPt F).2 - b) :=
  inT_congr (add_sub_cancel_left _ _).symm (add_sub_cancel_left _ _).symm (interiorPt_inT F hF)

theorem anchor_triangle_in_quintant (n : Nat) (ds : List Nat) (hds : ∀ d ∈ ds, d < 4) (u v : K)
    (h : InT (anchorOf n ds (Gen.NO, Gen.NO)).2 (u - ((anchorOf n ds (Gen.NO, Gen.NO)).1.1 : K))
      (v - ((anchorOf n ds (Gen.NO, Gen.NO)).1.2 : K))) :
    0 < u ∧ 0 < v ∧ u + v < 2 ^ n := by
  rewrite [start_eq] at h
  exact (inT_pp_scale (by positivity) u v).1 (anchor_contained ds (getD_lt_of_forall_mem ds hds) n (1, 1) (Or.inl rfl) u v h)

/-- locating the centroid `offset + interiorPt flips` of the anchor triangle of `ds` returns `ds` -/
theorem locate_centroid (n : Nat) (ds : List Nat) (hlen : ds.length = n) (hds : ∀ d ∈ ds, d < 4) :
    locateDigits (fieldLits : Lits K)
      (((kjToIJ (accumOffset n ds (0, 0) (Gen.NO, Gen.NO)).1).1 : K) +
        (interiorPt (accumOffset n ds (0, 0) (Gen.NO, Gen.NO)).2).1)
      (((kjToIJ (accumOffset n ds (0, 0) (Gen.NO, Gen.NO)).1).2 : K) +
        (interiorPt (accumOffset n ds (0, 0) (Gen.NO, Gen.NO)).2).2)
      n ((0 : K), (0 : K)) (Gen.NO, Gen.NO) [] = (ds, (accumOffset n ds (0, 0) (Gen.NO, Gen.NO)).2) :=
  locate_of_inTri n ds hlen hds _ _ (inT_centroid _ (accumOffset_isFlip n ds hds) _ _)

end walk

/-- Two digit lists with the same anchor (IJ offset and flips) are equal: the anchor
triangles of distinct curve positions are distinct. -/
theorem anchor_triangle_injective (n : Nat) (ds ds' : List Nat) (hl : ds.length = n) (hl' : ds'.length = n)
    (hds : ∀ d ∈ ds, d < 4) (hds' : ∀ d ∈ ds', d < 4)
    (he : (kjToIJ (accumOffset n ds (0, 0) (Gen.NO, Gen.NO)).1, (accumOffset n ds (0, 0) (Gen.NO, Gen.NO)).2) =
      (kjToIJ (accumOffset n ds' (0, 0) (Gen.NO, Gen.NO)).1, (accumOffset n ds' (0, 0) (Gen.NO, Gen.NO)).2)) :
    ds = ds' := by
  have e1 := congrArg Prod.fst he
  have e2 := congrArg Prod.snd he
  dsimp only at e1 e2
  have h1 := locate_centroid (K := ℚ) n ds hl hds
  have h2 := locate_centroid (K := ℚ) n ds' hl' hds'
  rewrite [← e1, ← e2] at h2
  exact congrArg Prod.fst (h1.symm.trans h2)

theorem offset_bounds_of_centroid (F : Int × Int) (hF : IsFlip F) (o1 o2 N : Int)
    (h1 : 0 < (o1 : ℚ) + (interiorPt F).1) (h2 : 0 < (o2 : ℚ) + (interiorPt F).2)
    (h3 : (o1 : ℚ) + (interiorPt F).1 + ((o2 : ℚ) + (interiorPt F).2) < N) :
    0 ≤ o1 ∧ 0 ≤ o2 ∧ o1 + o2 ≤ N ∧ (F.1 = 1 → o1 + o2 < N) ∧ (F.2 = -1 → 1 ≤ o1) ∧ (F.1 = -1 → 1 ≤ o2) := by
  -- three times the centroid is a lattice point
  have key : ∀ c1 c2 : Int, (interiorPt F : ℚ × ℚ) = ((c1 : ℚ) / 3, (c2 : ℚ) / 3) →
      0 < 3 * o1 + c1 ∧ 0 < 3 * o2 + c2 ∧ 3 * o1 + c1 + (3 * o2 + c2) < 3 * N := by
    intro c1 c2 e
    rewrite [e] at h1 h2 h3
    refine ⟨?_, ?_, ?_⟩ <;> rewrite [← Int.cast_lt (R := ℚ)] <;> push_cast <;> linarith only [h1, h2, h3]
  rcases hF with rfl | rfl | rfl | rfl
  · have := key 1 1 (by rw [interiorPt_pp]; norm_num)
    dsimp only; omega
  · have := key (-1) 2 (by rw [interiorPt_pm]; norm_num)
    dsimp only; omega
  · have := key 1 (-2) (by rw [interiorPt_mp]; norm_num)
    dsimp only; omega
  · have := key (-1) (-1) (by rw [interiorPt_mm]; norm_num)
    dsimp only; omega

/-- Integer bounds on the anchor offset `(oi, oj)` (IJ) of every length-`n` digit list: it is a
lattice point of the closed quintant triangle, with the sharper one-sided bounds that depend on the
flips. -/
theorem anchor_offset_bounds (n : Nat) (ds : List Nat) (hds : ∀ d ∈ ds, d < 4) :
    let A := accumOffset n ds (0, 0) (Gen.NO, Gen.NO)
    let o := kjToIJ A.1
    0 ≤ o.1 ∧ 0 ≤ o.2 ∧ o.1 + o.2 ≤ 2 ^ n ∧
      (A.2.1 = 1 → o.1 + o.2 < 2 ^ n) ∧ (A.2.2 = -1 → 1 ≤ o.1) ∧ (A.2.1 = -1 → 1 ≤ o.2) := by
  intro A o
  obtain ⟨q1, q2, q3⟩ := anchor_triangle_in_quintant (K := ℚ) n ds hds _ _
    (inT_centroid _ (accumOffset_isFlip n ds hds) _ _)
  exact offset_bounds_of_centroid A.2 (accumOffset_isFlip n ds hds) o.1 o.2 (2 ^ n) q1 q2 (by push_cast; exact q3)

/-- the anchor of the digit list `[3,1]` (value `1·4 + 3 = 7`, depth 2): IJ offset `(1,2)`, flips `(YES,YES)` -/
example : (kjToIJ (accumOffset 2 [3, 1] (0, 0) (Gen.NO, Gen.NO)).1, (accumOffset 2 [3, 1] (0, 0) (Gen.NO, Gen.NO)).2)
    = ((1, 2), (Gen.YES, Gen.YES)) := by decide

/-- `locate_of_inTri` instantiated: the point `(2/3, 5/3) = (1,2) + (-1/3,-1/3)` lies in the anchor
triangle of `[3,1]`, hence is located at `[3,1]`. -/
example : locateDigits fieldLits (2 / 3 : ℚ) (5 / 3) 2 ((0 : ℚ), (0 : ℚ)) (Gen.NO, Gen.NO) [] = ([3, 1], (-1, -1)) := by
  have e : anchorOf 2 [3, 1] (Gen.NO, Gen.NO) = ((1, 2), (-1, -1)) := by decide
  have h := locate_of_inTri (K := ℚ) 2 [3, 1] rfl (by decide) (2 / 3) (5 / 3)
  rewrite [e] at h
  exact h (by rw [inT_mm]; norm_num)

/-- the same fact by direct evaluation of the model in `ℚ` (independent of the theorem) -/
example : locateDigits fieldLits (2 / 3 : ℚ) (5 / 3) 2 ((0 : ℚ), (0 : ℚ)) (Gen.NO, Gen.NO) [] = ([3, 1], (-1, -1)) := by
  decide +kernel

/-- the hypothesis of `anchor_triangle_injective` can fail: `[3,1]` and `[1,3]` have different anchors -/
example : (kjToIJ (accumOffset 2 [1, 3] (0, 0) (Gen.NO, Gen.NO)).1, (accumOffset 2 [1, 3] (0, 0) (Gen.NO, Gen.NO)).2)
    ≠ (kjToIJ (accumOffset 2 [3, 1] (0, 0) (Gen.NO, Gen.NO)).1, (accumOffset 2 [3, 1] (0, 0) (Gen.NO, Gen.NO)).2) := by
  decide

end A5.HilbertLocate
