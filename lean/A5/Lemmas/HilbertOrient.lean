import A5.Lemmas.HilbertDigits
import A5.Lemmas.HilbertLocate
/-! # Orientation wrappers of the Hilbert walk: `sToAnchor` / `ijToS`

`sToAnchor s n o` = optional reversal of `s`, the internal walk, the `flipIJ` stage (swap + `FLIP_SHIFT`
compensation) and the `invertJ` stage (`j ↦ 2^n - (i+j)`, `flips.1 ↦ -flips.1`).
`ijToS x y n o` = prologue (swap if `flipIJ`, then `y ↦ 2^n - (x+y)` if `invertJ`), the internal inverse
walk, optional reversal.  This file shows that the two fit together: the lattice triangle
`anchorTri a = offset + T(flips)` of the FINAL anchor is mapped by the prologue into the triangle of the
internal anchor (same table `InT` in all six orientations), hence locating any point of it returns `s`.

Remark (recorded as `flags_exclusive`): the stage order of `sToAnchor` (flip, then invert) and of the
prologue of `ijToS` (swap, then invert) are only compatible because no orientation sets both `flipIJ` and
`invertJ`; this is checked on the generated flag sets. -/
set_option linter.unusedSectionVars false
namespace A5
open A5.HilbertLocate

theorem flags_agree : ∀ o, o < 6 →
    Gen.IJ2S_REVERSE_SET.contains o = oriReverse o ∧ Gen.IJ2S_INVERT_J_SET.contains o = oriInvertJ o ∧
      Gen.IJ2S_FLIP_IJ_SET.contains o = oriFlipIJ o := by decide

theorem flags_exclusive : ∀ o, o < 6 → ¬(oriFlipIJ o = true ∧ oriInvertJ o = true) := by decide

def flipStage (a : Anchor) : Anchor :=
  let off : Int × Int := (a.offset.2, a.offset.1)
  let off := if a.flips.1 == Gen.YES then (off.1 + Gen.FLIP_SHIFT.1, off.2 + Gen.FLIP_SHIFT.2) else off
  let off := if a.flips.2 == Gen.YES then (off.1 - Gen.FLIP_SHIFT.1, off.2 - Gen.FLIP_SHIFT.2) else off
  { a with offset := off }

def invertStage (n : Nat) (a : Anchor) : Anchor :=
  { a with flips := (-a.flips.1, a.flips.2),
           offset := (a.offset.1, (2 ^ n : Int) - (a.offset.1 + a.offset.2)) }

/-- curve position after the optional reversal -/
def adjustS (rev : Bool) (n s : Nat) : Nat := if rev then 4 ^ n - s - 1 else s

def finalAnchor (s n : Nat) (invertJ flipIJ : Bool) : Anchor :=
  let a := sToAnchorInternal s n invertJ flipIJ
  let a := if flipIJ then flipStage a else a
  if invertJ then invertStage n a else a

theorem adjustS_lt (rev : Bool) (n s : Nat) (hs : s < 4 ^ n) : adjustS rev n s < 4 ^ n := by
  unfold adjustS; split <;> omega

theorem adjustS_adjustS (rev : Bool) (n s : Nat) (hs : s < 4 ^ n) : adjustS rev n (adjustS rev n s) = s := by
  unfold adjustS; split <;> omega

theorem sToAnchor_eq (s n o : Nat) (hn : n ≤ 30) (hs : s < 4 ^ n) :
    sToAnchor s n o = .ok (finalAnchor (adjustS (oriReverse o) n s) n (oriInvertJ o) (oriFlipIJ o)) := by
  unfold sToAnchor finalAnchor adjustS
  cases oriReverse o <;> cases oriInvertJ o <;>
    simp only [if_true, if_false, Bool.false_eq_true, Outcome.bind_ok, ge_iff_le,
      if_neg (by omega : ¬ 64 ≤ 2 * n), if_neg (by omega : ¬ 4 ^ n < s + 1), if_neg (by omega : ¬ 31 ≤ n), gt_iff_lt] <;> rfl

section generic
variable {α : Type} [Add α] [Sub α] [Mul α] [Neg α] [LT α] [DecidableLT α]

/-- the point handed to `ijToSInternal` by the prologue of `ijToS` -/
def prologue (L : Lits α) (x y : α) (n : Nat) (invertJ flipIJ : Bool) : α × α :=
  let p := if flipIJ then (y, x) else (x, y)
  if invertJ then (p.1, L.ofInt (2 ^ n) - (p.1 + p.2)) else p

theorem ijToS_eq (L : Lits α) (x y : α) (n o : Nat) (hn : n ≤ 30) (ho : o < 6) :
    ijToS L x y n o = .ok (adjustS (oriReverse o) n
      (ijToSInternal L (prologue L x y n (oriInvertJ o) (oriFlipIJ o)).1
        (prologue L x y n (oriInvertJ o) (oriFlipIJ o)).2 (oriInvertJ o) (oriFlipIJ o) n)) := by
  obtain ⟨f1, f2, f3⟩ := flags_agree o ho
  unfold ijToS prologue adjustS
  rewrite [f1, f2, f3]
  cases oriReverse o <;> cases oriInvertJ o <;>
    simp only [if_true, if_false, Bool.false_eq_true, Outcome.bind_ok, ge_iff_le, gt_iff_lt,
      if_neg (by omega : ¬ 64 ≤ 2 * n), if_neg (by omega : ¬ 31 ≤ n)]
  all_goals first
    | rfl
    | (rewrite [if_neg (Nat.not_lt.2 (ijToSInternal_lt ..))]; rfl)

theorem ijToS_lt (L : Lits α) (x y : α) (n o s : Nat) (h : ijToS L x y n o = .ok s) : s < 4 ^ n := by
  -- the epilogue (optional reversal) keeps a position `t < 4^n` below `4^n`
  have key : ∀ (r : Bool) (x' y' : α) (b1 b2 : Bool),
      (if r = true then
        if 2 * n ≥ 64 then Outcome.panic .shlOverflow
        else if ijToSInternal L x' y' b1 b2 n + 1 > 4 ^ n then .panic .subOverflow
        else .ok (4 ^ n - ijToSInternal L x' y' b1 b2 n - 1)
      else Outcome.ok (ijToSInternal L x' y' b1 b2 n)) = .ok s → s < 4 ^ n := by
    intro r x' y' b1 b2 h
    have := ijToSInternal_lt L x' y' b1 b2 n
    split_ifs at h <;> cases h <;> omega
  unfold ijToS at h
  generalize Gen.IJ2S_REVERSE_SET.contains o = r at h
  generalize Gen.IJ2S_FLIP_IJ_SET.contains o = f at h
  generalize Gen.IJ2S_INVERT_J_SET.contains o = i at h
  by_cases hn : n ≥ 31 <;> cases f <;> cases i <;>
    simp only [hn, if_true, if_false, Bool.false_eq_true, Outcome.bind_ok, Outcome.bind_panic, reduceCtorEq] at h <;>
    exact key _ _ _ _ _ h
end generic

section triangles
variable {K : Type} [Field K] [LinearOrder K] [IsStrictOrderedRing K]

def anchorTri (a : Anchor) (x y : K) : Prop := InT a.flips (x - (a.offset.1 : K)) (y - (a.offset.2 : K))

/-- `FLIP_SHIFT` compensation of the `flipIJ` stage, as a function of the flips -/
def flipComp (F : Int × Int) : Int × Int :=
  let off : Int × Int := (0, 0)
  let off := if F.1 == Gen.YES then (off.1 + Gen.FLIP_SHIFT.1, off.2 + Gen.FLIP_SHIFT.2) else off
  if F.2 == Gen.YES then (off.1 - Gen.FLIP_SHIFT.1, off.2 - Gen.FLIP_SHIFT.2) else off

theorem flipStage_offset (a : Anchor) :
    (flipStage a).offset = (a.offset.2 + (flipComp a.flips).1, a.offset.1 + (flipComp a.flips).2) := by
  unfold flipStage flipComp
  simp only []
  split <;> split <;> refine Prod.ext ?_ ?_ <;> (dsimp only; omega)

/-- the mirror image of `T(F)` in the diagonal is `T(F)` translated by `flipComp F` -/
theorem inT_swap (F : Int × Int) (hF : IsFlip F) (u v : K) :
    InT F v u ↔ InT F (u - ((flipComp F).1 : K)) (v - ((flipComp F).2 : K)) := by
  -- once the translation is carried out, both sides are the same bounds with those on `u` and on `v` exchanged
  rcases hF with rfl | rfl | rfl | rfl <;>
    simp only [show flipComp (1, 1) = (0, 0) from rfl, show flipComp (1, -1) = (1, -1) from rfl,
      show flipComp (-1, 1) = (-1, 1) from rfl, show flipComp (-1, -1) = (0, 0) from rfl,
      inT_pp, inT_pm, inT_mp, inT_mm, Int.cast_zero, Int.cast_one, Int.cast_neg, sub_zero, sub_lt_iff_lt_add,
      lt_sub_iff_add_lt, sub_add_sub_comm, add_neg_cancel, neg_add_cancel, zero_add, add_comm v u]
  · exact and_left_comm
  all_goals constructor <;> exact fun ⟨a, b, c, d, e⟩ => ⟨c, d, a, b, e⟩

theorem isFlip_neg (F : Int × Int) (hF : IsFlip F) : IsFlip (-F.1, F.2) := by
  rcases hF with rfl | rfl | rfl | rfl <;> unfold IsFlip <;> decide

/-- negating the first flip reflects the triangle by `(u, w) ↦ (u, -(u + w))`: in standard position the two agree -/
theorem std_invert (F : Int × Int) (hF : IsFlip F) (u w : K) : std (-F.1, F.2) u w = std F u (-(u + w)) := by
  rcases hF with rfl | rfl | rfl | rfl <;>
    simp only [std, Int.reduceNeg, neg_neg, reduceCtorEq, if_true, if_false, Int.cast_one, Int.cast_neg, one_mul,
      neg_mul] <;>
    refine Prod.ext rfl ?_ <;> ring

theorem inT_invert (F : Int × Int) (hF : IsFlip F) (u w : K) :
    InT (-F.1, F.2) u w ↔ InT F u (-(u + w)) := by
  rw [inT_std _ (isFlip_neg F hF), inT_std F hF, std_invert F hF]

theorem flipStage_tri (a : Anchor) (hF : IsFlip a.flips) (x y : K) :
    anchorTri (flipStage a) x y ↔ anchorTri a y x := by
  refine Iff.trans ?_ (inT_swap a.flips hF (x - (a.offset.2 : K)) (y - (a.offset.1 : K))).symm
  unfold anchorTri
  rewrite [flipStage_offset]
  exact iff_of_eq (by congr 1 <;> (push_cast; ring))

theorem invertStage_tri (n : Nat) (a : Anchor) (hF : IsFlip a.flips) (x y : K) :
    anchorTri (invertStage n a) x y ↔ anchorTri a x (((2 ^ n : Int) : K) - (x + y)) := by
  refine Iff.trans (inT_invert a.flips hF _ _) ?_
  unfold anchorTri invertStage
  exact iff_of_eq (by congr 1; push_cast; ring)

theorem flipStage_isFlip (a : Anchor) (hF : IsFlip a.flips) : IsFlip (flipStage a).flips := hF
theorem invertStage_isFlip (n : Nat) (a : Anchor) (hF : IsFlip a.flips) : IsFlip (invertStage n a).flips :=
  isFlip_neg a.flips hF

theorem internal_isFlip (s n : Nat) (invertJ flipIJ : Bool) (hs : s < 4 ^ n) :
    IsFlip (sToAnchorInternal s n invertJ flipIJ).flips := by
  rewrite [sToAnchorInternal_eq s n invertJ flipIJ hs]
  exact accumOffset_isFlip n _ (shiftedDigits_spec s n invertJ flipIJ).2

theorem internal_locate (s n : Nat) (invertJ flipIJ : Bool) (hs : s < 4 ^ n) (x y : K)
    (h : anchorTri (sToAnchorInternal s n invertJ flipIJ) x y) :
    ijToSInternal fieldLits x y invertJ flipIJ n = s := by
  rewrite [sToAnchorInternal_eq s n invertJ flipIJ hs] at h
  obtain ⟨hl, hd⟩ := shiftedDigits_spec s n invertJ flipIJ
  have := locate_of_inTri n _ hl hd x y h
  exact ijToSInternal_roundtrip fieldLits x y invertJ flipIJ n s hs
    (by rewrite [show (fieldLits : Lits K).ofInt 0 = 0 from Int.cast_zero, this]; rfl)

theorem internal_in_quintant (s n : Nat) (invertJ flipIJ : Bool) (hs : s < 4 ^ n) (x y : K)
    (h : anchorTri (sToAnchorInternal s n invertJ flipIJ) x y) : 0 < x ∧ 0 < y ∧ x + y < 2 ^ n := by
  rewrite [sToAnchorInternal_eq s n invertJ flipIJ hs] at h
  exact anchor_triangle_in_quintant n _ (shiftedDigits_spec s n invertJ flipIJ).2 x y h

theorem finalAnchor_isFlip (s n : Nat) (invertJ flipIJ : Bool) (hs : s < 4 ^ n) :
    IsFlip (finalAnchor s n invertJ flipIJ).flips := by
  have h0 := internal_isFlip s n invertJ flipIJ hs
  unfold finalAnchor
  cases flipIJ <;> cases invertJ <;> simp only [if_true, if_false, Bool.false_eq_true]
  · exact h0
  · exact invertStage_isFlip n _ h0
  · exact h0
  · exact invertStage_isFlip n _ h0

theorem sToAnchor_isFlip (s n o : Nat) (hn : n ≤ 30) (hs : s < 4 ^ n) (a : Anchor) (h : sToAnchor s n o = .ok a) :
    IsFlip a.flips := by
  cases Outcome.ok.inj ((sToAnchor_eq s n o hn hs).symm.trans h)
  exact finalAnchor_isFlip _ n _ _ (adjustS_lt _ n s hs)

theorem finalAnchor_prologue (s n : Nat) (invertJ flipIJ : Bool) (hs : s < 4 ^ n)
    (hex : ¬(flipIJ = true ∧ invertJ = true)) (x y : K) :
    anchorTri (finalAnchor s n invertJ flipIJ) x y ↔
      anchorTri (sToAnchorInternal s n invertJ flipIJ) (prologue fieldLits x y n invertJ flipIJ).1
        (prologue fieldLits x y n invertJ flipIJ).2 := by
  have h0 := internal_isFlip s n invertJ flipIJ hs
  unfold finalAnchor prologue
  cases flipIJ <;> cases invertJ <;> simp only [if_true, if_false, Bool.false_eq_true]
  · exact invertStage_tri n _ h0 x y
  · exact flipStage_tri _ h0 x y
  · exact absurd ⟨rfl, rfl⟩ hex

theorem finalAnchor_locate (s n : Nat) (invertJ flipIJ : Bool) (hs : s < 4 ^ n)
    (hex : ¬(flipIJ = true ∧ invertJ = true)) (x y : K) (h : anchorTri (finalAnchor s n invertJ flipIJ) x y) :
    ijToSInternal fieldLits (prologue fieldLits x y n invertJ flipIJ).1
      (prologue fieldLits x y n invertJ flipIJ).2 invertJ flipIJ n = s :=
  internal_locate s n invertJ flipIJ hs _ _ ((finalAnchor_prologue s n invertJ flipIJ hs hex x y).1 h)

theorem prologue_quintant (n : Nat) (invertJ flipIJ : Bool) (hex : ¬(flipIJ = true ∧ invertJ = true)) (x y : K) :
    0 < (prologue fieldLits x y n invertJ flipIJ).1 ∧ 0 < (prologue fieldLits x y n invertJ flipIJ).2 ∧
      (prologue fieldLits x y n invertJ flipIJ).1 + (prologue fieldLits x y n invertJ flipIJ).2 < 2 ^ n ↔
    0 < x ∧ 0 < y ∧ x + y < 2 ^ n := by
  have e : (fieldLits : Lits K).ofInt (2 ^ n) = (2 : K) ^ n := by simp [fieldLits]
  unfold prologue
  cases flipIJ <;> cases invertJ <;> simp only [if_true, if_false, Bool.false_eq_true, e]
  · constructor <;> rintro ⟨a, b, c⟩ <;> exact ⟨a, by linarith only [c], by linarith only [b]⟩
  · rewrite [add_comm y x]; exact and_left_comm
  · exact absurd ⟨rfl, rfl⟩ hex

theorem anchorTri_nonempty (a : Anchor) (hF : IsFlip a.flips) :
    anchorTri a ((a.offset.1 : K) + (interiorPt a.flips).1) ((a.offset.2 : K) + (interiorPt a.flips).2) :=
  inT_centroid a.flips hF _ _

end triangles

section explicitField
variable (K : Type) [Field K] [LinearOrder K] [IsStrictOrderedRing K]

/-- For `n ≤ 30`, every orientation and every position `s < 4^n`, `sToAnchor` succeeds, its flips are a
`±1` pair, and `ijToS` of ANY point strictly inside the anchor's lattice triangle returns `s`. -/
theorem locate_anchor (n o s : Nat) (hn : n ≤ 30) (ho : o < 6) (hs : s < 4 ^ n) :
    ∃ a, sToAnchor s n o = .ok a ∧ IsFlip a.flips ∧
      ∀ x y : K, anchorTri a x y → ijToS fieldLits x y n o = .ok s := by
  have ha := adjustS_lt (oriReverse o) n s hs
  refine ⟨_, sToAnchor_eq s n o hn hs, finalAnchor_isFlip _ n _ _ ha, fun x y h => ?_⟩
  rewrite [ijToS_eq fieldLits x y n o hn ho,
    finalAnchor_locate _ n _ _ ha (fun hh => flags_exclusive o ho hh) x y h, adjustS_adjustS _ n s hs]
  rfl

theorem anchorTri_disjoint (n o s t : Nat) (hn : n ≤ 30) (ho : o < 6) (hs : s < 4 ^ n) (ht : t < 4 ^ n)
    (a b : Anchor) (ha : sToAnchor s n o = .ok a) (hb : sToAnchor t n o = .ok b) (x y : K)
    (hxa : anchorTri a x y) (hxb : anchorTri b x y) : s = t := by
  obtain ⟨a', ha', _, h1⟩ := locate_anchor K n o s hn ho hs
  obtain ⟨b', hb', _, h2⟩ := locate_anchor K n o t hn ho ht
  cases Outcome.ok.inj (ha.symm.trans ha')
  cases Outcome.ok.inj (hb.symm.trans hb')
  exact Outcome.ok.inj ((h1 x y hxa).symm.trans (h2 x y hxb))

theorem anchor_in_quintant (n o s : Nat) (hn : n ≤ 30) (ho : o < 6) (hs : s < 4 ^ n) (a : Anchor)
    (ha : sToAnchor s n o = .ok a) (x y : K) (h : anchorTri a x y) : 0 < x ∧ 0 < y ∧ x + y < 2 ^ n := by
  rewrite [sToAnchor_eq s n o hn hs] at ha
  cases Outcome.ok.inj ha
  have hex := fun hh => flags_exclusive o ho hh
  exact (prologue_quintant n _ _ hex x y).1 (internal_in_quintant _ n _ _ (adjustS_lt (oriReverse o) n s hs) _ _
    ((finalAnchor_prologue _ n _ _ (adjustS_lt (oriReverse o) n s hs) hex x y).1 h))

end explicitField

theorem anchor_injective (n o s t : Nat) (hn : n ≤ 30) (ho : o < 6) (hs : s < 4 ^ n) (ht : t < 4 ^ n)
    (a b : Anchor) (ha : sToAnchor s n o = .ok a) (hb : sToAnchor t n o = .ok b)
    (hoff : a.offset = b.offset) (hfl : a.flips = b.flips) : s = t := by
  -- the centroid of the common triangle
  have hp := anchorTri_nonempty (K := ℚ) a (sToAnchor_isFlip s n o hn hs a ha)
  refine anchorTri_disjoint ℚ n o s t hn ho hs ht a b ha hb _ _ hp ?_
  unfold anchorTri
  rewrite [← hoff, ← hfl]
  exact hp

section tiling
variable {K : Type} [Field K] [LinearOrder K] [IsStrictOrderedRing K]

/-- `(x, y)` is on no lattice line `x = z`, `y = z`, `x + y = z` (`z` an integer) -/
def OffLattice (x y : K) : Prop := ∀ z : Int, x ≠ (z : K) ∧ y ≠ (z : K) ∧ x + y ≠ (z : K)

theorem eq_int_of_scaled {x : K} {p f : Int} {m : Nat} (h : (x - (p : K)) * (1 / 2 ^ m) = (f : K)) :
    x = ((p + f * 2 ^ m : Int) : K) := by
  have hp : (2 : K) ^ m ≠ 0 := pow_ne_zero _ two_ne_zero
  field_simp at h
  push_cast
  linarith only [h]

/-- completeness of the recursive subdivision: a point of `p + 2^m·T(F)` (with `p` a lattice point) that is on
no lattice line lies in the anchor triangle of some list of `m` digits -/
theorem anchorOf_onto (x y : K) (hoff : OffLattice x y) : ∀ (m : Nat) (F : Int × Int), IsFlip F → ∀ (p : Int × Int),
    InT F ((x - (p.1 : K)) * (1 / 2 ^ m)) ((y - (p.2 : K)) * (1 / 2 ^ m)) →
    ∃ new : List Nat, new.length = m ∧ (∀ d ∈ new, d < 4) ∧
      InT (anchorOf m new F).2 (x - (p.1 : K) - ((anchorOf m new F).1.1 : K))
        (y - (p.2 : K) - ((anchorOf m new F).1.2 : K)) := by
  intro m
  induction m with
  | zero =>
    intro F _ p h
    refine ⟨[], rfl, by simp, ?_⟩
    rewrite [anchorOf_zero]
    exact inT_congr (by simp) (by simp) h
  | succ m ih =>
    intro F hF p h
    have hin : InT F ((x - (p.1 : K)) * (1 / 2 ^ m) * (1 / 2)) ((y - (p.2 : K)) * (1 / 2 ^ m) * (1 / 2)) := by
      rewrite [scale_half, scale_half]; exact h
    have h1 : (x - (p.1 : K)) * (1 / 2 ^ m) + (y - (p.2 : K)) * (1 / 2 ^ m) ≠ (F.1 : K) := fun hc =>
      (hoff _).2.2 (eq_int_of_scaled (p := p.1 + p.2) (by rewrite [← hc]; push_cast; ring))
    have h2 : (x - (p.1 : K)) * (1 / 2 ^ m) ≠ (F.2 : K) := fun hc => (hoff _).1 (eq_int_of_scaled hc)
    have h3 : (y - (p.2 : K)) * (1 / 2 ^ m) ≠ (F.1 : K) := fun hc => (hoff _).2.1 (eq_int_of_scaled hc)
    obtain ⟨hd, hT⟩ := subdivision_complete F hF _ _ hin h1 h2 h3
    generalize ijToQuaternary fieldLits ((x - (p.1 : K)) * (1 / 2 ^ m)) ((y - (p.2 : K)) * (1 / 2 ^ m)) F = d at hd hT
    obtain ⟨new', hl, h4, hI⟩ := ih (nextF d F) (isFlip_nextF d hd F hF)
      (p.1 + (childIJ d F).1 * 2 ^ m, p.2 + (childIJ d F).2 * 2 ^ m)
      (inT_congr (by rw [← scale_sub]; push_cast; ring) (by rw [← scale_sub]; push_cast; ring) hT)
    have hg : (new' ++ [d]).getD m 0 = d := by
      have := getD_append_length new' d
      rewrite [hl] at this
      exact this
    have hc : anchorOf m (new' ++ [d]) (nextF d F) = anchorOf m new' (nextF d F) :=
      anchorOf_congr _ _ m _ (fun i hi => getD_append_lt _ _ i (by omega))
    refine ⟨new' ++ [d], by rewrite [List.length_append, hl]; rfl, ?_, ?_⟩
    · intro e he
      rcases List.mem_append.1 he with h | h
      · exact h4 e h
      · rewrite [List.mem_singleton.1 h]; exact hd
    · rewrite [anchorOf_succ, hg, hc]
      dsimp only
      exact inT_congr (by push_cast; ring) (by push_cast; ring) hI

theorem internal_onto (n : Nat) (invertJ flipIJ : Bool) (x y : K)
    (hq : 0 < x ∧ 0 < y ∧ x + y < 2 ^ n) (hoff : OffLattice x y) :
    ∃ s, s < 4 ^ n ∧ anchorTri (sToAnchorInternal s n invertJ flipIJ) x y := by
  have hin : InT (1, 1) ((x - ((0 : Int) : K)) * (1 / 2 ^ n)) ((y - ((0 : Int) : K)) * (1 / 2 ^ n)) := by
    rewrite [Int.cast_zero, sub_zero, sub_zero]
    exact (inT_pp_scale (by positivity) x y).2 hq
  obtain ⟨ds, hl, h4, hT⟩ := anchorOf_onto x y hoff n (1, 1) (Or.inl rfl) (0, 0) hin
  obtain ⟨s, hs, hsd⟩ := shiftedDigits_surjective n invertJ flipIJ ds hl h4
  refine ⟨s, hs, ?_⟩
  rewrite [sToAnchorInternal_eq s n invertJ flipIJ hs, hsd]
  unfold anchorTri
  rewrite [start_eq]
  exact inT_congr (by simp [anchorOf]) (by simp [anchorOf]) hT

theorem finalAnchor_onto (n : Nat) (invertJ flipIJ : Bool) (hex : ¬(flipIJ = true ∧ invertJ = true)) (x y : K)
    (hq : 0 < x ∧ 0 < y ∧ x + y < 2 ^ n) (hoff : OffLattice x y) :
    ∃ s, s < 4 ^ n ∧ anchorTri (finalAnchor s n invertJ flipIJ) x y := by
  have e : (fieldLits : Lits K).ofInt (2 ^ n) = (2 : K) ^ n := by simp [fieldLits]
  -- the prologue point is again off the lattice
  have hoff' : OffLattice (prologue fieldLits x y n invertJ flipIJ).1 (prologue fieldLits x y n invertJ flipIJ).2 := by
    unfold prologue
    intro z
    cases flipIJ <;> cases invertJ <;> simp only [if_true, if_false, Bool.false_eq_true, e]
    · exact hoff z
    · refine ⟨(hoff z).1, fun hc => (hoff (2 ^ n - z)).2.2 ?_, fun hc => (hoff (2 ^ n - z)).2.1 ?_⟩
      · push_cast; linarith only [hc]
      · push_cast; linarith only [hc]
    · exact ⟨(hoff z).2.1, (hoff z).1, by rewrite [add_comm]; exact (hoff z).2.2⟩
    · exact absurd ⟨rfl, rfl⟩ hex
  obtain ⟨s, hs, h⟩ := internal_onto n invertJ flipIJ _ _ ((prologue_quintant n invertJ flipIJ hex x y).2 hq) hoff'
  exact ⟨s, hs, (finalAnchor_prologue s n invertJ flipIJ hs hex x y).2 h⟩

theorem anchor_onto (n o : Nat) (hn : n ≤ 30) (ho : o < 6) (x y : K)
    (hq : 0 < x ∧ 0 < y ∧ x + y < 2 ^ n) (hoff : OffLattice x y) :
    ∃ s, s < 4 ^ n ∧ ∃ a, sToAnchor s n o = .ok a ∧ anchorTri a x y := by
  obtain ⟨s0, hs0, h⟩ := finalAnchor_onto n (oriInvertJ o) (oriFlipIJ o) (fun hh => flags_exclusive o ho hh) x y hq hoff
  have hs := adjustS_lt (oriReverse o) n s0 hs0
  refine ⟨adjustS (oriReverse o) n s0, hs, _, sToAnchor_eq _ n o hn hs, ?_⟩
  rewrite [adjustS_adjustS _ n s0 hs0]
  exact h
end tiling
end A5
