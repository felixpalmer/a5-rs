import A5.Lemmas.BoundarySkel
import A5.Lemmas.HilbertDigits
/-! Integer/list *skeleton* of the point-to-cell lookup (`lonlat_to_estimate`, `a5cell_contains_point`,
the sample loop of `lonlat_to_cell`).  Every `Float` is treated as an arbitrary value: the lemmas are
about which outcomes (`ok` / which `err` / which `panic`) are possible and which integer fields the
produced cells have.  `lonlatToCellB` is `lonlat_to_cell` returning, with the id, the branch that produced it
(`LookupResult.branch`); `lonlatToCell` forgets the tag.  Core-only. -/
namespace A5

theorem origins_id (o : Origin) (h : o ∈ origins) : o.id < 12 := by
  unfold origins at h
  obtain ⟨i, hi, rfl⟩ := List.mem_map.1 h
  have hi' : i < 12 := List.mem_range.1 hi
  dsimp only
  generalize rawOrigins.getD (Gen.ORIGIN_ORDER.getD i 0) (0.0, 0.0, 0.0, 0) = t
  obtain ⟨a, b, c, d⟩ := t
  exact hi'

theorem originAt_id_lt (o : Nat) : (originAt o).id < 12 := by
  unfold originAt
  rewrite [List.getD_eq_getElem?_getD]
  cases h : origins[o]? with
  | none => show (default : Origin).id < 12; exact (by decide : (0 : Nat) < 12)
  | some x => exact origins_id x (List.mem_of_getElem? h)

theorem findNearestOrigin_go_ind (theta phi : Float) (P : Origin → Prop) :
    ∀ (l : List Origin) (d : Float) (best : Origin), (∀ o ∈ l, P o) → P best →
      P (findNearestOrigin.go theta phi l d best) := by
  intro l
  induction l with
  | nil => intro d best _ hb; exact hb
  | cons o os ih =>
    intro d best hl hb
    unfold findNearestOrigin.go
    dsimp only
    split
    · exact ih _ _ (fun x hx => hl x (List.mem_cons_of_mem _ hx)) (hl o List.mem_cons_self)
    · exact ih _ _ (fun x hx => hl x (List.mem_cons_of_mem _ hx)) hb

theorem findNearestOrigin_id (theta phi : Float) : (findNearestOrigin theta phi).id < 12 := by
  unfold findNearestOrigin
  exact findNearestOrigin_go_ind theta phi (fun o => o.id < 12) _ _ _ origins_id (originAt_id_lt 0)

theorem quintantToSegment_lt (q : Nat) (o : Origin) : (quintantToSegment q o).1 < 5 := by
  unfold quintantToSegment
  exact Nat.mod_lt _ (by omega)

theorem faceTriangleIndex_le (gamma : Float) : faceTriangleIndex gamma ≤ 9 := by
  unfold faceTriangleIndex
  dsimp only
  generalize f64ToI32 (gamma / fc Gen.PI_OVER_5).floor + 10 = a
  have h1 := Int.tmod_lt_of_pos a (b := 10) (by omega)
  have h2 := Int.lt_tmod_of_pos a (b := 10) (by omega)
  split <;> omega

theorem getFaceTriangle_ok (idx : Nat) (h : idx ≤ 9) (refl sq : Bool) :
    ∃ ft, getFaceTriangle idx refl sq = .ok ft := by
  unfold getFaceTriangle
  rewrite [if_neg (by simp only [Gen.FACE_TRIANGLE_MAX]; omega)]
  exact ⟨_, rfl⟩

theorem crsGetVertex_okOrCrs (p : V3) : OkOrCrs (crsGetVertex p) := by
  unfold crsGetVertex
  split
  · exact Outcome.Within.ok _
  · exact (Outcome.Within.err_iff _).2 rfl

theorem computeSphericalTriangle_okOrCrs (idx o : Nat) (refl : Bool) (hidx : idx ≤ 9) (ho : o < 12) :
    OkOrCrs (computeSphericalTriangle idx o refl) := by
  unfold computeSphericalTriangle
  rewrite [if_neg (by rewrite [origins_length]; omega)]
  obtain ⟨ft, hft⟩ := getFaceTriangle_ok idx hidx refl true
  dsimp only [toPolar, gnomonicInverse]
  rewrite [hft]
  simp only [Outcome.bind_ok]
  refine Outcome.Within.bind (crsGetVertex_okOrCrs _) fun va _ => ?_
  refine Outcome.Within.bind (crsGetVertex_okOrCrs _) fun vb _ => ?_
  refine Outcome.Within.bind (crsGetVertex_okOrCrs _) fun vc _ => ?_
  exact Outcome.Within.ok _

theorem dodecaForward_within {E : ErrKind → Prop} (theta phi : Float) (o : Nat) (ho : o < 12)
    (hE : ∀ idx refl, idx ≤ 9 → (computeSphericalTriangle idx o refl).Within E (fun _ => False)) :
    (dodecaForward theta phi o).Within E (fun _ => False) := by
  unfold dodecaForward
  rewrite [if_neg (by rewrite [origins_length]; omega)]
  dsimp only [toSpherical, gnomonicForward]
  obtain ⟨ft, hft⟩ := getFaceTriangle_ok _ (faceTriangleIndex_le _) _ false
  rewrite [hft]
  simp only [Outcome.bind_ok]
  exact Outcome.Within.bind (hE _ _ (faceTriangleIndex_le _)) fun st _ => Outcome.Within.ok _

theorem dodecaForward_okOrCrs (theta phi : Float) (o : Nat) (ho : o < 12) :
    OkOrCrs (dodecaForward theta phi o) :=
  dodecaForward_within theta phi o ho fun idx refl hidx => computeSphericalTriangle_okOrCrs idx o refl hidx ho

theorem serialize_sTooLarge (o seg s : Nat) (r : Int) (hr2 : 2 ≤ r) (hr : r ≤ 29) (ho : o < 12) (hs : seg < 5)
    (hS : ¬ s < 4 ^ (r - 1).toNat) : serialize ⟨o, seg, s, r⟩ = .err .sTooLarge := by
  rewrite [serialize_eq o seg s r ho (by omega) (by omega) hr]
  exact if_pos ⟨hr2, Nat.le_of_not_lt hS⟩

/-- a successful encoding is the encoding of a record the decoder can produce: the given one with the fields the
encoder ignores (`segment` and `s` at resolution 0, `s` at resolution 1) set to zero -/
theorem serialize_ok_valid (o seg s : Nat) (r : Int) (id : Nat) (ho : o < 12) (hs : seg < 5) (h0 : 0 ≤ r)
    (h29 : r ≤ 29) (h : serialize ⟨o, seg, s, r⟩ = .ok id) : ∃ c : Cell, c.Valid ∧ c.res = r ∧ encNat c = id := by
  rewrite [serialize_eq o seg s r ho (by omega) h0 h29] at h
  by_cases hS : 2 ≤ r ∧ 4 ^ (r - 1).toNat ≤ s
  · rewrite [if_pos hS] at h; cases h
  rewrite [if_neg hS] at h
  cases Outcome.ok.inj h
  by_cases hr0 : r = 0
  · subst hr0
    exact ⟨⟨o, 0, 0, 0⟩, Or.inr (Or.inl ⟨rfl, ho, rfl, rfl⟩), rfl, (encNat_res0 o 0 0).trans (encNat_res0 o seg s).symm⟩
  by_cases hr1 : r = 1
  · subst hr1
    exact ⟨⟨o, seg, 0, 1⟩, Or.inr (Or.inr (Or.inl ⟨rfl, ho, hs, rfl⟩)), rfl,
      (encNat_res1 o seg 0).trans (encNat_res1 o seg s).symm⟩
  · exact ⟨_, Or.inr (Or.inr (Or.inr ⟨by show 2 ≤ r; omega, h29, ho, hs, by show s < 4 ^ (r - 1).toNat; omega⟩)), rfl, rfl⟩

/-- `c` need not be `Valid`: the fields the encoder ignores may hold anything -/
theorem serialize_ok_layout (c : Cell) (id : Nat) (h : serialize c = .ok id) (ho : c.origin < 12)
    (hs : c.segment < 5) : Layout id ∧ getResolution id = c.res ∧ -1 ≤ c.res ∧ c.res ≤ 29 := by
  obtain ⟨o, seg, s, r⟩ := c
  show Layout id ∧ getResolution id = r ∧ -1 ≤ r ∧ r ≤ 29
  by_cases h30 : r ≥ 30
  · rewrite [serialize_res_too_large _ h30] at h; cases h
  by_cases hneg : r < -1
  · rewrite [serialize_res_negative _ hneg] at h; cases h
  by_cases hm1 : r = -1
  · subst hm1
    cases Outcome.ok.inj ((serialize_world o seg s).symm.trans h)
    exact ⟨Or.inl rfl, getResolution_zero, by omega, by omega⟩
  obtain ⟨c, hv, hr, rfl⟩ := serialize_ok_valid o seg s r id ho hs (by omega) (by omega) h
  exact ⟨layout_enc c hv, (getResolution_enc c hv).trans hr, by omega, by omega⟩

section generic
variable {α : Type} [Add α] [Sub α] [Mul α] [Neg α] [LT α] [DecidableLT α]

theorem ijToS_ok (L : Lits α) (x y : α) (n : Nat) (o : Orientation) (hn : n ≤ 30) :
    ∃ s, ijToS L x y n o = .ok s ∧ s < 4 ^ n := by
  unfold ijToS
  generalize Gen.IJ2S_REVERSE_SET.contains o = rev
  generalize Gen.IJ2S_INVERT_J_SET.contains o = inv
  generalize Gen.IJ2S_FLIP_IJ_SET.contains o = flip
  have key : ∀ (x y : α), ∃ s,
      (let s := ijToSInternal L x y inv flip n
        if rev then
          if 2 * n ≥ 64 then Outcome.panic PanicKind.shlOverflow
          else if s + 1 > 4 ^ n then Outcome.panic PanicKind.subOverflow
          else Outcome.ok (4 ^ n - s - 1)
        else Outcome.ok s) = .ok s ∧ s < 4 ^ n := by
    intro x y
    have hlt := ijToSInternal_lt L x y inv flip n
    have hpos : 0 < 4 ^ n := Nat.pow_pos (by omega)
    dsimp only
    cases rev
    · exact ⟨_, rfl, hlt⟩
    · simp only [if_true]
      rewrite [if_neg (by omega), if_neg (by omega)]
      exact ⟨_, rfl, by omega⟩
  cases flip <;> cases inv
  all_goals
    simp only [Bool.false_eq_true, if_false, if_true, Outcome.bind_ok]
    try rewrite [if_neg (by omega)]
    try simp only [Outcome.bind_ok]
    exact key _ _

end generic

/-- integer fields of a cell produced by `lonlat_to_estimate` at resolution `r` -/
def EstOK (r : Int) (c : Cell) : Prop :=
  c.res = r ∧ c.origin < 12 ∧ c.segment < 5 ∧ (if r < 2 then c.s = 0 else c.s < 4 ^ (r - 1).toNat)

theorem lonlatToEstimate_cases (lon lat : Float) (r : Int) (hr : r ≤ 29) :
    lonlatToEstimate lon lat r = .err .crsVertex ∨ ∃ c, lonlatToEstimate lon lat r = .ok c ∧ EstOK r c := by
  unfold lonlatToEstimate
  generalize fromLonLat lon lat = tp
  obtain ⟨theta, phi⟩ := tp
  dsimp only
  have hid := findNearestOrigin_id theta phi
  rcases (dodecaForward_okOrCrs theta phi _ hid).cases with h | ⟨dp, h⟩
  · rewrite [h]; exact Or.inl rfl
  · rewrite [h]
    simp only [Outcome.bind_ok]
    refine Or.inr ?_
    have hseg := quintantToSegment_lt (getQuintantPolar (toPolar dp).2) (findNearestOrigin theta phi)
    generalize quintantToSegment (getQuintantPolar (toPolar dp).2) (findNearestOrigin theta phi) = so at hseg ⊢
    obtain ⟨seg, ori⟩ := so
    dsimp only at hseg ⊢
    by_cases h2 : r < Gen.FIRST_HILBERT_RESOLUTION
    · rewrite [if_pos h2]
      have h2' : r < 2 := h2
      exact ⟨_, rfl, rfl, hid, hseg, by rewrite [if_pos h2']; rfl⟩
    · rewrite [if_neg h2]
      have h2' : ¬ r < 2 := h2
      have hF : Gen.FIRST_HILBERT_RESOLUTION = 2 := rfl
      generalize faceToIJ _ = ij
      obtain ⟨i, j⟩ := ij
      dsimp only
      obtain ⟨s, hs, hlt⟩ := ijToS_ok floatLits i j (1 + r - Gen.FIRST_HILBERT_RESOLUTION).toNat ori (by omega)
      rewrite [hs]
      simp only [Outcome.bind_ok]
      refine ⟨_, rfl, rfl, hid, hseg, ?_⟩
      rewrite [if_neg h2']
      have e : (1 + r - Gen.FIRST_HILBERT_RESOLUTION).toNat = (r - 1).toNat := by omega
      rewrite [e] at hlt
      exact hlt

theorem lonlatToEstimate_estOK {lon lat : Float} {r : Int} {c : Cell} (hr : r ≤ 29)
    (h : lonlatToEstimate lon lat r = .ok c) : EstOK r c := by
  rcases lonlatToEstimate_cases lon lat r hr with he | ⟨c', he, hc⟩
  · rewrite [h] at he; cases he
  · rewrite [h] at he; cases Outcome.ok.inj he; exact hc

theorem EstOK.valid {r : Int} {c : Cell} (h : EstOK r c) (h1 : 1 ≤ r) (hr : r ≤ 29) : c.Valid := by
  obtain ⟨hres, ho, hs, h4⟩ := h
  by_cases h2 : r < 2
  · rewrite [if_pos h2] at h4
    exact Or.inr (Or.inr (Or.inl ⟨by omega, ho, hs, h4⟩))
  · rewrite [if_neg h2, ← hres] at h4
    exact Or.inr (Or.inr (Or.inr ⟨by omega, by omega, ho, hs, h4⟩))

theorem serialize_est (r : Int) (c : Cell) (h : EstOK r c) (h0 : 0 ≤ r) (hr : r ≤ 29) :
    ∃ id, serialize c = .ok id ∧ Layout id ∧ getResolution id = r := by
  obtain ⟨o, seg, s, r'⟩ := c
  obtain ⟨h1, h2, h3, h4⟩ := h
  simp only at h1 h2 h3 h4
  subst h1
  have hok := serialize_ok o seg s r' h2 (by omega) h0 hr (by
    by_cases h : r' < 2
    · exact Or.inl h
    · rewrite [if_neg h] at h4; exact Or.inr h4)
  obtain ⟨hl, hres, _⟩ := serialize_ok_layout _ _ hok h2 h3
  exact ⟨_, hok, hl, hres⟩

/-- The two small resolutions that `a5cell_contains_point` answers inline are the corresponding branches of
`get_pentagon`, so the call is: projection, polygon, containment - the shape of `cellDistanceOutside`. -/
theorem cellContainsPoint_eq (c : Cell) (lon lat : Float) :
    cellContainsPoint c lon lat =
      (dodecaForward (fromLonLat lon lat).1 (fromLonLat lon lat).2 c.origin >>= fun pp =>
        getPentagon c >>= fun p => polyContains p pp) := by
  have hF : Gen.FIRST_HILBERT_RESOLUTION = 2 := rfl
  unfold cellContainsPoint
  rewrite [getPentagon_eq, origins_length]
  generalize fromLonLat lon lat = tp
  obtain ⟨theta, phi⟩ := tp
  generalize segmentToQuintant c.segment (originAt c.origin) = qo
  obtain ⟨q, o⟩ := qo
  dsimp only
  refine congrArg _ (funext fun pp => ?_)
  by_cases h12 : 12 ≤ c.origin
  · rewrite [if_pos h12, if_pos h12]; rfl
  rewrite [if_neg h12, if_neg h12]
  by_cases h1 : c.res = 1
  · rewrite [if_pos h1, if_pos (show c.res = Gen.FIRST_HILBERT_RESOLUTION - 1 by omega), Outcome.bind_ok]; rfl
  rewrite [if_neg (show ¬ c.res = Gen.FIRST_HILBERT_RESOLUTION - 1 by omega)]
  by_cases h0 : c.res = 0
  · rewrite [if_neg h1, if_pos h0, if_pos (show c.res = Gen.FIRST_HILBERT_RESOLUTION - 2 by omega), Outcome.bind_ok]; rfl
  · rewrite [if_neg (show ¬ c.res = Gen.FIRST_HILBERT_RESOLUTION - 2 by omega)]; rfl

theorem polyContains_benign (vs : Poly) (p : V2) : Benign (polyContains vs p) := by
  unfold polyContains
  split
  · exact (Outcome.Within.panic_iff _).2 rfl
  · exact Outcome.Within.ok _

/-- containment test on ANY record whose origin is a face and for which `get_pentagon` returns a polygon
(this covers the decoder's records and the estimates of `lonlat_to_cell`, whose unused fields are not
normalised): a signed distance, `crsVertex` (projection) or `notCCW` (winding assertion); nothing else -/
theorem cellContainsPoint_of_pentagon (c : Cell) (ho : c.origin < 12) (p : Poly) (hp : getPentagon c = .ok p)
    (lon lat : Float) : Benign (cellContainsPoint c lon lat) := by
  rewrite [cellContainsPoint_eq, hp]
  refine Outcome.Within.bind (dodecaForward_okOrCrs _ _ c.origin ho).benign fun pp _ => ?_
  rewrite [Outcome.bind_ok]
  exact polyContains_benign p pp

/-- **containment test on a record the decoder can produce (not the world record)** -/
theorem cellContainsPoint_valid (c : Cell) (hv : c.Valid) (hr : c.res ≠ -1) (lon lat : Float) :
    Benign (cellContainsPoint c lon lat) := by
  obtain ⟨p, hp⟩ := getPentagon_valid c hv hr
  exact cellContainsPoint_of_pentagon c hv.origin_lt p hp lon lat

/-- the distance used to rank a miss (fix for F16): `ok` or `crsVertex` (projection) - it has no winding test, hence no panic -/
theorem cellDistanceOutside_valid (c : Cell) (hv : c.Valid) (hr : c.res ≠ -1) (lon lat : Float) :
    OkOrCrs (cellDistanceOutside c lon lat) := by
  obtain ⟨p, hp⟩ := getPentagon_valid c hv hr
  unfold cellDistanceOutside
  rewrite [hp]
  refine Outcome.Within.bind (dodecaForward_okOrCrs _ _ c.origin hv.origin_lt) fun pp _ => ?_
  exact Outcome.Within.ok _

/-- the fallback choice: first maximum of the recorded distances (stable descending sort, head) -/
def firstMax (c0 : Cell × Float) (rest : List (Cell × Float)) : Cell × Float :=
  rest.foldl (fun (b : Cell × Float) c => if c.2 > b.2 then c else b) c0

theorem firstMax_mem : ∀ (rest : List (Cell × Float)) (c0 : Cell × Float), firstMax c0 rest ∈ c0 :: rest := by
  intro rest
  induction rest with
  | nil => intro c0; exact List.mem_cons_self
  | cons x xs ih =>
    intro c0
    show firstMax (if x.2 > c0.2 then x else c0) xs ∈ c0 :: x :: xs
    have h := ih (if x.2 > c0.2 then x else c0)
    rcases List.mem_cons.1 h with h | h
    · rewrite [h]
      split
      · exact List.mem_cons_of_mem _ List.mem_cons_self
      · exact List.mem_cons_self
    · exact List.mem_cons_of_mem _ (List.mem_cons_of_mem _ h)

theorem lookupLoop_nil_nil (lon lat : Float) (r : Int) (seen : List Nat) :
    lookupLoop lon lat r [] seen [] = .panic .indexOOB := rfl

theorem lookupLoop_nil_cons (lon lat : Float) (r : Int) (seen : List Nat) (c0 : Cell × Float)
    (rest : List (Cell × Float)) :
    lookupLoop lon lat r [] seen (c0 :: rest) =
      (serialize (firstMax c0 rest).1 >>= fun id => .ok ⟨id, -1⟩) := rfl

theorem lookupLoop_cons (lon lat : Float) (r : Int) (slon slat : Float) (samples : List (Float × Float))
    (seen : List Nat) (cells : List (Cell × Float)) :
    lookupLoop lon lat r ((slon, slat) :: samples) seen cells =
      (lonlatToEstimate slon slat r >>= fun est =>
        serialize est >>= fun key =>
        if seen.contains key then lookupLoop lon lat r samples seen cells
        else
          cellContainsPoint est lon lat >>= fun distance =>
          if distance > 0.0 then serialize est >>= fun id => .ok ⟨id, seen.length⟩
          else
            cellDistanceOutside est lon lat >>= fun outside =>
            lookupLoop lon lat r samples (seen ++ [key]) (cells ++ [(est, -outside)])) := rfl

/-- a hit: `id` encodes the estimate of one of the samples, and the model's own containment test of
that cell against the *query point* is strictly positive -/
def HitAt (lon lat : Float) (r : Int) (samples : List (Float × Float)) (id : Nat) : Prop :=
  ∃ c d, EstOK r c ∧ (∃ smp ∈ samples, lonlatToEstimate smp.1 smp.2 r = .ok c) ∧ serialize c = .ok id ∧
    cellContainsPoint c lon lat = .ok d ∧ d > 0.0

/-- a recorded miss: an estimate of one of the samples whose containment value is not positive, recorded with its
(negated) perpendicular distance to the query point -/
def Miss (lon lat : Float) (r : Int) (samples : List (Float × Float)) (e : Cell × Float) : Prop :=
  EstOK r e.1 ∧ (∃ smp ∈ samples, lonlatToEstimate smp.1 smp.2 r = .ok e.1) ∧
    (∃ d, cellContainsPoint e.1 lon lat = .ok d ∧ ¬ (d > 0.0)) ∧
    (∃ o, cellDistanceOutside e.1 lon lat = .ok o ∧ e.2 = -o)

/-- the fallback: `id` encodes the first maximum of the non-empty list of recorded misses -/
def FallbackAt (lon lat : Float) (r : Int) (samples : List (Float × Float)) (cells : List (Cell × Float))
    (id : Nat) : Prop :=
  ∃ extra c0 rest, (∀ e ∈ extra, Miss lon lat r samples e) ∧ cells ++ extra = c0 :: rest ∧
    EstOK r (firstMax c0 rest).1 ∧ serialize (firstMax c0 rest).1 = .ok id

/-- what the sample loop can end in when `cells` are the misses recorded so far: a `crsVertex` error, a `notCCW` panic, a hit
on one of the remaining `samples`, or the fallback over `cells` extended by misses among them -/
def LoopPost (lon lat : Float) (r : Int) (samples : List (Float × Float)) (cells : List (Cell × Float)) :
    Outcome LookupResult → Prop
  | .err e => e = .crsVertex
  | .panic k => k = .notCCW
  | .ok res => (0 ≤ res.branch ∧ HitAt lon lat r samples res.id) ∨
      (res.branch = -1 ∧ FallbackAt lon lat r samples cells res.id)

theorem Miss.mono {lon lat : Float} {r : Int} {samples : List (Float × Float)} {e : Cell × Float}
    (smp : Float × Float) (h : Miss lon lat r samples e) : Miss lon lat r (smp :: samples) e := by
  obtain ⟨h1, ⟨s, hs, h2⟩, h3, h4⟩ := h
  exact ⟨h1, ⟨s, List.mem_cons_of_mem _ hs, h2⟩, h3, h4⟩

theorem LoopPost.weaken {lon lat : Float} {r : Int} {samples : List (Float × Float)}
    {cells new : List (Cell × Float)} {x : Outcome LookupResult} (smp : Float × Float)
    (h : LoopPost lon lat r samples (cells ++ new) x) (hnew : ∀ e ∈ new, Miss lon lat r (smp :: samples) e) :
    LoopPost lon lat r (smp :: samples) cells x := by
  cases x with
  | err e => exact h
  | panic k => exact h
  | ok res =>
    rcases h with ⟨hb, c, d, h1, ⟨s, hs, h2⟩, h3, h4, h5⟩ | ⟨hb, extra, c0, rest, h1, h2, h3, h4⟩
    · exact Or.inl ⟨hb, c, d, h1, ⟨s, List.mem_cons_of_mem _ hs, h2⟩, h3, h4, h5⟩
    · refine Or.inr ⟨hb, new ++ extra, c0, rest, ?_, ?_, h3, h4⟩
      · intro e he
        rcases List.mem_append.1 he with he | he
        · exact hnew e he
        · exact (h1 e he).mono smp
      · rewrite [← List.append_assoc]; exact h2

theorem LoopPost.cons {lon lat : Float} {r : Int} {samples : List (Float × Float)} {cells : List (Cell × Float)}
    {x : Outcome LookupResult} (smp : Float × Float) (h : LoopPost lon lat r samples cells x) :
    LoopPost lon lat r (smp :: samples) cells x :=
  LoopPost.weaken (new := []) smp (by rewrite [List.append_nil]; exact h) (fun e he => absurd he List.not_mem_nil)

/-- MAIN loop invariant.  For curve resolutions `2 ≤ r ≤ 29`: if all recorded cells are estimates and
the fallback list is non-empty or nothing has been tried yet (and a sample remains), then the loop ends
in a hit, a fallback, a `crsVertex` error or a `notCCW` panic — nothing else. -/
theorem lookupLoop_post (lon lat : Float) (r : Int) (h2 : 2 ≤ r) (hr : r ≤ 29) :
    ∀ (samples : List (Float × Float)) (seen : List Nat) (cells : List (Cell × Float)),
      (∀ e ∈ cells, EstOK r e.1) → (cells ≠ [] ∨ (seen = [] ∧ samples ≠ [])) →
      LoopPost lon lat r samples cells (lookupLoop lon lat r samples seen cells) := by
  intro samples
  induction samples with
  | nil =>
    intro seen cells hall hJ
    cases cells with
    | nil => rcases hJ with h | ⟨_, h⟩ <;> exact absurd rfl h
    | cons c0 rest =>
      rewrite [lookupLoop_nil_cons]
      have hest := hall _ (firstMax_mem rest c0)
      obtain ⟨id, hid, _, _⟩ := serialize_est r _ hest (by omega) hr
      rewrite [hid]
      simp only [Outcome.bind_ok]
      exact Or.inr ⟨rfl, [], c0, rest, fun e he => absurd he List.not_mem_nil, List.append_nil _, hest, hid⟩
  | cons smp samples ih =>
    intro seen cells hall hJ
    obtain ⟨slon, slat⟩ := smp
    rewrite [lookupLoop_cons]
    rcases lonlatToEstimate_cases slon slat r hr with he | ⟨est, he, hest⟩
    · rewrite [he]; exact rfl
    rewrite [he]
    simp only [Outcome.bind_ok]
    obtain ⟨key, hkey, _, _⟩ := serialize_est r est hest (by omega) hr
    rewrite [hkey]
    simp only [Outcome.bind_ok]
    by_cases hc : seen.contains key = true
    · rewrite [if_pos hc]
      have hcells : cells ≠ [] := by
        rcases hJ with h | ⟨h, _⟩
        · exact h
        · subst h; cases hc
      exact (ih seen cells hall (Or.inl hcells)).cons (slon, slat)
    · rewrite [if_neg hc]
      have hv := hest.valid (by omega) hr
      have hres : est.res ≠ -1 := by rewrite [hest.1]; omega
      have hb := cellContainsPoint_valid est hv hres lon lat
      cases hd : cellContainsPoint est lon lat with
      | err e => exact hb.of_err hd
      | panic k => exact hb.of_panic hd
      | ok d =>
        simp only [Outcome.bind_ok]
        by_cases hpos : d > 0.0
        · rewrite [if_pos hpos]
          exact Or.inl ⟨Int.natCast_nonneg _, est, d, hest, ⟨(slon, slat), List.mem_cons_self, he⟩, hkey, hd, hpos⟩
        · rewrite [if_neg hpos]
          have hbo := cellDistanceOutside_valid est hv hres lon lat
          cases ho : cellDistanceOutside est lon lat with
          | err e => exact hbo.of_err ho
          | panic k => exact (hbo.of_panic ho).elim
          | ok o =>
            simp only [Outcome.bind_ok]
            refine LoopPost.weaken (new := [(est, -o)]) (slon, slat) ?_ ?_
            · refine ih _ _ ?_ (Or.inl (by simp))
              intro e he'
              rcases List.mem_append.1 he' with h | h
              · exact hall e h
              · cases List.mem_singleton.1 h; exact hest
            · intro e he'
              cases List.mem_singleton.1 he'
              exact ⟨hest, ⟨(slon, slat), List.mem_cons_self, he⟩, ⟨d, hd, hpos⟩, ⟨o, ho, rfl⟩⟩

theorem probeSamples_eq (lon lat : Float) (hres : Int) :
    ∃ tail, probeSamples lon lat hres = (lon, lat) :: tail ∧ tail.length = 25 := by
  unfold probeSamples
  exact ⟨_, rfl, by rewrite [List.length_map, List.length_range]; rfl⟩

theorem lonlatToCellB_outOfRange (lon lat : Float) (r : Int) (h : r < -1 ∨ 29 < r) :
    lonlatToCellB lon lat r = .err .resOutOfRange := by
  have hM : Gen.MAX_RESOLUTION = 30 := rfl
  unfold lonlatToCellB
  -- the range test is a `Bool` expression over `decide`s
  rewrite [if_neg (by omega), if_pos (by
    simp only [Bool.not_eq_eq_eq_not, Bool.not_true, Bool.and_eq_false_imp, decide_eq_true_eq, decide_eq_false_iff_not]; omega)]
  rfl

theorem lonlatToCellB_world (lon lat : Float) : lonlatToCellB lon lat (-1) = .ok ⟨0, -3⟩ := by
  unfold lonlatToCellB
  rewrite [if_pos rfl]
  rfl

theorem lonlatToCellB_inRange (lon lat : Float) (r : Int) (h0 : 0 ≤ r) (hr : r ≤ 29) :
    lonlatToCellB lon lat r =
      if r < 2 then lonlatToEstimate lon lat r >>= fun est => serialize est >>= fun id => .ok ⟨id, -2⟩
      else lookupLoop lon lat r (probeSamples lon lat (1 + r - 2)) [] [] := by
  have hM : Gen.MAX_RESOLUTION = 30 := rfl
  unfold lonlatToCellB
  -- the range test is a `Bool` expression over `decide`s
  rewrite [if_neg (by omega), if_neg (by
    simp only [Bool.not_eq_eq_eq_not, Bool.not_true, Bool.and_eq_false_imp, decide_eq_true_eq, decide_eq_false_iff_not]; omega)]
  rfl

/-- complete description of the outcomes of `lonlat_to_cell` (with the branch tag) for `-1 ≤ r ≤ 29` -/
def CellBPost (lon lat : Float) (r : Int) : Outcome LookupResult → Prop
  | .err e => e = .crsVertex ∧ 0 ≤ r
  | .panic k => k = .notCCW ∧ 2 ≤ r
  | .ok res => Layout res.id ∧ getResolution res.id = r ∧
      ((r = -1 ∧ res.id = 0 ∧ res.branch = -3) ∨
       (0 ≤ r ∧ r < 2 ∧ res.branch = -2 ∧
          ∃ c, EstOK r c ∧ lonlatToEstimate lon lat r = .ok c ∧ serialize c = .ok res.id) ∨
       (2 ≤ r ∧ 0 ≤ res.branch ∧ HitAt lon lat r (probeSamples lon lat (1 + r - 2)) res.id) ∨
       (2 ≤ r ∧ res.branch = -1 ∧ FallbackAt lon lat r (probeSamples lon lat (1 + r - 2)) [] res.id))

theorem lonlatToCellB_post (lon lat : Float) (r : Int) (hm : -1 ≤ r) (hr : r ≤ 29) :
    CellBPost lon lat r (lonlatToCellB lon lat r) := by
  by_cases hw : r = -1
  · subst hw
    rewrite [lonlatToCellB_world]
    exact ⟨Or.inl rfl, getResolution_zero, Or.inl ⟨rfl, rfl, rfl⟩⟩
  rewrite [lonlatToCellB_inRange lon lat r (by omega) hr]
  by_cases h2 : r < 2
  · rewrite [if_pos h2]
    rcases lonlatToEstimate_cases lon lat r hr with he | ⟨est, he, hest⟩
    · rewrite [he]; exact ⟨rfl, by omega⟩
    · obtain ⟨id, hid, hlay, hres⟩ := serialize_est r est hest (by omega) hr
      rewrite [he]
      simp only [Outcome.bind_ok]
      rewrite [hid]
      simp only [Outcome.bind_ok]
      exact ⟨hlay, hres, Or.inr (Or.inl ⟨by omega, h2, rfl, est, hest, he, hid⟩)⟩
  · rewrite [if_neg h2]
    obtain ⟨tail, hps, _⟩ := probeSamples_eq lon lat (1 + r - 2)
    have hpost := lookupLoop_post lon lat r (by omega) hr (probeSamples lon lat (1 + r - 2)) [] []
      (fun e he => absurd he List.not_mem_nil) (Or.inr ⟨rfl, by rewrite [hps]; exact List.cons_ne_nil _ _⟩)
    cases hl : lookupLoop lon lat r (probeSamples lon lat (1 + r - 2)) [] [] with
    | err e => rewrite [hl] at hpost; exact ⟨hpost, by omega⟩
    | panic k => rewrite [hl] at hpost; exact ⟨hpost, by omega⟩
    | ok res =>
      rewrite [hl] at hpost
      rcases hpost with ⟨hb, hhit⟩ | ⟨hb, hfb⟩
      · have hhit' := hhit
        obtain ⟨c, d, hest, _, hser, _, _⟩ := hhit'
        obtain ⟨hlay, hres, _, _⟩ := serialize_ok_layout c res.id hser hest.2.1 hest.2.2.1
        exact ⟨hlay, hres.trans hest.1, Or.inr (Or.inr (Or.inl ⟨by omega, hb, hhit⟩))⟩
      · have hfb' := hfb
        obtain ⟨extra, c0, rest, _, _, hest, hser⟩ := hfb'
        obtain ⟨hlay, hres, _, _⟩ := serialize_ok_layout _ res.id hser hest.2.1 hest.2.2.1
        exact ⟨hlay, hres.trans hest.1, Or.inr (Or.inr (Or.inr ⟨by omega, hb, hfb⟩))⟩

theorem lonlatToCellB_ok_post (lon lat : Float) (r : Int) (res : LookupResult)
    (h : lonlatToCellB lon lat r = .ok res) : -1 ≤ r ∧ r ≤ 29 ∧ CellBPost lon lat r (.ok res) := by
  by_cases hrange : r < -1 ∨ 29 < r
  · rewrite [lonlatToCellB_outOfRange lon lat r hrange] at h; cases h
  · have hpost := lonlatToCellB_post lon lat r (by omega) (by omega)
    rewrite [h] at hpost
    exact ⟨by omega, by omega, hpost⟩

theorem lonlatToCell_eq (lon lat : Float) (r : Int) :
    lonlatToCell lon lat r = (lonlatToCellB lon lat r >>= fun x => .ok x.id) := rfl

end A5
