import A5.Lemmas.FloatApiTotal
import A5.Lemmas.MemoLemmas
import A5.Model.MemoFloat
/-! Float API totality through the *memoised* projection (core-only).

`A5/Model/Geo.lean` recomputes every triangle; the Rust `DodecahedronProjection` caches them in two
per-thread vectors (30 + 240 slots) that are indexed with computed positions.  `A5/Model/Memo.lean` models
that state machine, `A5/Model/MemoFloat.lean` instantiates it with the float value functions.  The hypothesis
`SphTrianglesCompute` of the conditional success theorems of `FloatApiTotal.lean` is reduced here to the *finite* boolean
`memoSphTotalCheck` that the driver evaluates (240 triangles): one evaluation settles `crsVertex` for all inputs. -/
namespace A5
open A5.Memo

theorem computeSphericalTriangle_eq_memo (i o : Nat) (r : Bool) (hi : i ≤ 9) (ho : o < 12) :
    computeSphericalTriangle i o r = (memoParams.sphFrom (memoParams.faceVal ⟨i, r, true⟩) ⟨o, i, r⟩).1 := by
  have hft : getFaceTriangle i r true = .ok (memoParams.faceVal ⟨i, r, true⟩) := by
    unfold getFaceTriangle
    rewrite [if_neg (by simp only [Gen.FACE_TRIANGLE_MAX]; omega)]
    rfl
  show _ = (memoSphFrom (memoParams.faceVal ⟨i, r, true⟩) ⟨o, i, r⟩).1
  unfold computeSphericalTriangle memoSphFrom
  rewrite [if_neg (by rewrite [origins_length]; omega), hft]
  simp only [Outcome.bind_ok]
  dsimp only [toPolar, gnomonicInverse]
  generalize memoParams.faceVal ⟨i, r, true⟩ = ft
  generalize crsGetVertex (transformQuat (toCartesian _ _) (originAt o).quat) = x
  generalize crsGetVertex (transformQuat (toCartesian _ _) (originAt o).quat) = y
  generalize crsGetVertex (transformQuat (toCartesian _ _) (originAt o).quat) = z
  cases x <;> cases y <;> cases z <;> rfl

theorem memoParams_faceVal (k : FKey) :
    memoParams.faceVal k =
      if k.reflected then reflectedFaceTriangle k.idx k.squashed else baseFaceTriangle k.idx := Eq.trans rfl rfl

/-- (stated via rewriting, not `rfl`: the kernel would otherwise unfold the float triangle computations) -/
theorem memoParams_wf : memoParams.WF := by
  refine ⟨origins_length, fun i s s' => ?_⟩
  rewrite [memoParams_faceVal, memoParams_faceVal]
  simp only [Bool.false_eq_true, if_false]

theorem memoParams_classify_origin (a : DCall) : (memoParams.classify a).origin = a.origin := by
  show (let (rho, gamma) := a.polar
        (⟨a.origin, faceTriangleIndex gamma, shouldReflect rho gamma⟩ : SKey)).origin = a.origin
  generalize a.polar = rg
  obtain ⟨rho, gamma⟩ := rg
  rfl

theorem memoParams_classify_idx (a : DCall) : (memoParams.classify a).idx ≤ 9 := by
  show (let (rho, gamma) := a.polar
        (⟨a.origin, faceTriangleIndex gamma, shouldReflect rho gamma⟩ : SKey)).idx ≤ 9
  generalize a.polar = rg
  obtain ⟨rho, gamma⟩ := rg
  exact faceTriangleIndex_le gamma

theorem memo_pureCall_outcomes (a : DCall) :
    (pureCall memoParams a).Within (ProjErr a.origin) (fun _ => False) := by
  have hidx := memoParams_classify_idx a
  have hor := memoParams_classify_origin a
  unfold pureCall
  have hn : memoParams.numOrigins = 12 := origins_length
  by_cases ho : (memoParams.classify a).origin ≥ memoParams.numOrigins
  · rewrite [if_pos ho]
    exact (Outcome.Within.err_iff _).2 (Or.inr ⟨rfl, by omega⟩)
  rewrite [if_neg ho]
  generalize hk : memoParams.classify a = k at hidx hor ho ⊢
  obtain ⟨ko, ki, kr⟩ := k
  simp only at hidx hor ho
  rewrite [pureFace_ok memoParams ⟨ki, kr, false⟩ (by simp only [Gen.FACE_TRIANGLE_MAX]; exact hidx)]
  dsimp only
  have hs : pureSph memoParams ⟨ko, ki, kr⟩ = computeSphericalTriangle ki ko kr := by
    unfold pureSph
    rewrite [if_neg (Nat.not_le.mpr (slotS_lt ⟨ko, ki, kr⟩ (by simp only [Gen.FACE_TRIANGLE_MAX]; exact hidx)
      (by simp only [Gen.NUM_ORIGINS_WORLD]; omega))), if_neg ho,
      pureFace_ok memoParams ⟨ki, kr, true⟩ (by simp only [Gen.FACE_TRIANGLE_MAX]; exact hidx)]
    dsimp only
    exact (computeSphericalTriangle_eq_memo ki ko kr hidx (by omega)).symm
  rewrite [hs]
  have hw := computeSphericalTriangle_okOrCrs ki ko kr hidx (by omega)
  cases hc : computeSphericalTriangle ki ko kr with
  | ok st => exact Outcome.Within.ok _
  | err e => exact (Outcome.Within.err_iff _).2 (Or.inl ⟨hw.of_err hc, by omega⟩)
  | panic p => exact (hw.of_panic hc).elim

/-- **the memoised projection is total**: from any state reachable from a fresh instance (`Inv`), every
`forward` / `inverse` call - any origin id, any floats - returns a value, `crsVertex` or `invalidOrigin`.
No slot index is ever out of range and the invariant is kept. -/
theorem memo_call_outcomes (s : MemoState FaceTriangle SphTriangle) (hs : Inv memoParams s) (a : DCall) :
    ((call memoParams s a).2).Within (ProjErr a.origin) (fun _ => False) ∧ Inv memoParams (call memoParams s a).1 := by
  refine ⟨?_, call_inv memoParams_wf hs a⟩
  rewrite [call_res memoParams_wf hs a]
  exact memo_pureCall_outcomes a

/-- every history of calls from a fresh instance: all results are of the three kinds -/
theorem memo_history_outcomes (h : List DCall) (a : DCall) :
    ((call memoParams (run memoParams init h) a).2).Within (ProjErr a.origin) (fun _ => False) :=
  (memo_call_outcomes _ (run_inv memoParams_wf h inv_init) a).1

/-- the driver's boolean `memoSphTotalCheck` (all 12 · 10 · 2 keys compute) implies that no projection
call, forward or inverse, with a real face can fail -/
theorem sphTrianglesCompute_of_check (h : memoSphTotalCheck = true) : SphTrianglesCompute := by
  intro i o r hi ho
  have hmem : r ∈ [false, true] := by cases r <;> decide
  unfold memoSphTotalCheck at h
  rewrite [List.all_eq_true] at h
  have h1 := h o (List.mem_range.2 (by rewrite [origins_length]; exact ho))
  rewrite [List.all_eq_true] at h1
  have h2 := h1 i (List.mem_range.2 (by omega))
  rewrite [List.all_eq_true] at h2
  have h3 := h2 r hmem
  rewrite [computeSphericalTriangle_eq_memo i o r hi ho]
  dsimp only at h3
  generalize memoParams.sphFrom (memoParams.faceVal ⟨i, r, true⟩) ⟨o, i, r⟩ = res at h3 ⊢
  obtain ⟨x, n⟩ := res
  cases x with
  | ok st => exact ⟨st, rfl⟩
  | err e => simp only at h3; cases h3
  | panic p => simp only at h3; cases h3

/-- consequently: if the check evaluates to `true`, every decodable id has a centre, and every decodable id
has a boundary unless a longitude loop of `normalize_longitudes` runs out of fuel -/
theorem id_calls_ok_of_check (h : memoSphTotalCheck = true) (id : Nat) (hd : ∃ c, deserialize id = .ok c) :
    (∃ p, cellToLonLat id = .ok p) ∧
    (∀ closed segs, (∃ ring, cellToBoundary id closed segs = .ok ring) ∨
      cellToBoundary id closed segs = .panic .fuel) :=
  ⟨cellToLonLat_ok_of_triangles (sphTrianglesCompute_of_check h) id hd,
   fun closed segs => cellToBoundary_ok_of_triangles (sphTrianglesCompute_of_check h) id closed segs hd⟩

example : Inv memoParams (init : MemoState FaceTriangle SphTriangle) := inv_init
example : ((call memoParams init (.inv 0.0 0.0 200)).2).Within (ProjErr 200) (fun _ => False) :=
  (memo_call_outcomes init inv_init (.inv 0.0 0.0 200)).1
example (x y : Float) : (pureCall memoParams (.inv x y 12)) = .err .invalidOrigin := by
  unfold pureCall
  rewrite [if_pos (by rewrite [memoParams_classify_origin]; exact Nat.le_of_eq origins_length)]
  rfl

end A5
