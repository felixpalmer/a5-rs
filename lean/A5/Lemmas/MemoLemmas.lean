import A5.Model.Memo
/-! # Lemmas about the memo state machine (`A5/Model/Memo.lean`) used by property C13.

Core only.  All layout facts are obtained by unfolding the *generated* constants of `A5.Gen`, so a
change of an offset / stride / table length in the Rust source breaks these proofs after regeneration. -/
namespace A5.Memo
open A5 A5.Gen

/-- Unfold the generated layout constants to their literals (for `omega`). -/
macro "memo_consts" : tactic =>
  `(tactic| simp only [MEMO_FACE_SLOTS, MEMO_SPH_SLOTS, MEMO_FACE_SQUASHED_OFFSET, MEMO_FACE_REFLECTED_OFFSET,
      MEMO_SPH_STRIDE, MEMO_SPH_REFLECTED_OFFSET, FACE_TRIANGLE_MAX, NUM_ORIGINS_WORLD, CRS_WARN_AT,
      CRS_LOOKUPS_PER_TRIANGLE] at *)

theorem getD_set_eq {α} (l : List α) (i : Nat) (x d : α) (h : i < l.length) : (l.set i x).getD i d = x := by
  simp [List.getD_eq_getElem?_getD, h]

theorem getD_set_ne {α} (l : List α) (i j : Nat) (x d : α) (h : i ≠ j) : (l.set i x).getD j d = l.getD j d := by
  simp [List.getD_eq_getElem?_getD, h]

theorem getD_replicate_none {α} (n i : Nat) : (List.replicate n (none : Option α)).getD i none = none := by
  simp only [List.getD_eq_getElem?_getD, List.getElem?_replicate]
  split <;> rfl

theorem countP_set_fill {α} (l : List (Option α)) (i : Nat) (x : α) (h : i < l.length)
    (hn : l.getD i none = none) : (l.set i (some x)).countP Option.isSome = l.countP Option.isSome + 1 := by
  rewrite [List.getD_eq_getElem?_getD, List.getElem?_eq_getElem h] at hn
  rewrite [List.countP_set h, show l[i] = none from hn]
  rfl

theorem slotF_lt (k : FKey) (hk : k.idx ≤ FACE_TRIANGLE_MAX) : slotF k < MEMO_FACE_SLOTS := by
  unfold slotF; memo_consts; repeat' split
  all_goals omega

theorem slotS_lt (k : SKey) (hk : k.idx ≤ FACE_TRIANGLE_MAX) (ho : k.origin < NUM_ORIGINS_WORLD) :
    slotS k < MEMO_SPH_SLOTS := by
  unfold slotS; memo_consts; split <;> omega

theorem slotF_inj (k k' : FKey) (hk : k.idx ≤ FACE_TRIANGLE_MAX) (hk' : k'.idx ≤ FACE_TRIANGLE_MAX)
    (h : slotF k = slotF k') :
    k.idx = k'.idx ∧ k.reflected = k'.reflected ∧ (k.reflected = true → k.squashed = k'.squashed) := by
  obtain ⟨i, r, q⟩ := k
  obtain ⟨i', r', q'⟩ := k'
  unfold slotF at h
  memo_consts
  cases r <;> cases r' <;> cases q <;> cases q' <;> simp at h ⊢ <;> omega

theorem slotS_inj (k k' : SKey) (hk : k.idx ≤ FACE_TRIANGLE_MAX) (ho : k.origin < NUM_ORIGINS_WORLD)
    (hk' : k'.idx ≤ FACE_TRIANGLE_MAX) (ho' : k'.origin < NUM_ORIGINS_WORLD) (h : slotS k = slotS k') : k = k' := by
  obtain ⟨o, i, r⟩ := k
  obtain ⟨o', i', r'⟩ := k'
  unfold slotS at h
  memo_consts
  cases r <;> cases r' <;> simp at h ⊢ <;> omega

section
variable {FT ST Args Res : Type}

/-- What the proofs need to know about the pure ingredients: the origin table has the documented
size, and an unreflected face triangle does not depend on the `squashed` flag
(`get_base_face_triangle` does not take it). -/
structure Params.WF (P : Params FT ST Args Res) : Prop where
  numOrigins_eq : P.numOrigins = NUM_ORIGINS_WORLD
  faceVal_unreflected : ∀ i s s', P.faceVal ⟨i, false, s⟩ = P.faceVal ⟨i, false, s'⟩

/-- The pure value of a spherical-triangle key (for an in-range key). -/
def sphVal (P : Params FT ST Args Res) (k : SKey) : Outcome ST × Nat :=
  P.sphFrom (P.faceVal ⟨k.idx, k.reflected, true⟩) k

/-- Every filled slot holds the pure value of every in-range key that maps to it. -/
structure Inv (P : Params FT ST Args Res) (s : MemoState FT ST) : Prop where
  lenF : s.faces.length = MEMO_FACE_SLOTS
  lenS : s.sph.length = MEMO_SPH_SLOTS
  faceOk : ∀ (k : FKey) (v : FT), k.idx ≤ FACE_TRIANGLE_MAX → s.faces.getD (slotF k) none = some v → v = P.faceVal k
  sphOk : ∀ (k : SKey) (v : ST), k.idx ≤ FACE_TRIANGLE_MAX → k.origin < P.numOrigins →
    s.sph.getD (slotS k) none = some v → (sphVal P k).1 = .ok v

variable {P : Params FT ST Args Res}

theorem Params.WF.origin_lt (hw : P.WF) {o : Nat} (ho : o < P.numOrigins) : o < NUM_ORIGINS_WORLD :=
  hw.numOrigins_eq ▸ ho

theorem faceVal_of_slot_eq (hw : P.WF) (k k' : FKey) (hk : k.idx ≤ FACE_TRIANGLE_MAX)
    (hk' : k'.idx ≤ FACE_TRIANGLE_MAX) (h : slotF k = slotF k') : P.faceVal k = P.faceVal k' := by
  obtain ⟨hi, hr, hq⟩ := slotF_inj k k' hk hk' h
  obtain ⟨i, r, q⟩ := k
  obtain ⟨i', r', q'⟩ := k'
  simp only at hi hr hq
  subst hi; subst hr
  cases r with
  | false => exact hw.faceVal_unreflected _ _ _
  | true => rw [hq rfl]

theorem inv_init : Inv P (init : MemoState FT ST) where
  lenF := by simp [init]
  lenS := by simp [init]
  faceOk := by intro k v _ h; simp only [init, getD_replicate_none] at h; cases h
  sphOk := by intro k v _ _ h; simp only [init, getD_replicate_none] at h; cases h

theorem pureFace_ok (P : Params FT ST Args Res) (k : FKey) (hk : k.idx ≤ FACE_TRIANGLE_MAX) :
    pureFace P k = .ok (P.faceVal k) := by
  unfold pureFace
  rw [if_neg (Nat.not_lt.mpr hk), if_neg (Nat.not_le.mpr (slotF_lt k hk))]

theorem pureFace_err (P : Params FT ST Args Res) (k : FKey) (hk : FACE_TRIANGLE_MAX < k.idx) :
    pureFace P k = .err .other := by
  unfold pureFace
  rw [if_pos hk]

theorem getFace_spec (hw : P.WF) {s : MemoState FT ST} (hs : Inv P s) (k : FKey) (hk : k.idx ≤ FACE_TRIANGLE_MAX) :
    ∃ s1, getFaceTriangle P s k = (s1, .ok (P.faceVal k)) ∧ Inv P s1 ∧ s1.sph = s.sph ∧ s1.crsCalls = s.crsCalls := by
  have hlt : slotF k < s.faces.length := by rw [hs.lenF]; exact slotF_lt k hk
  unfold getFaceTriangle
  rw [if_neg (Nat.not_lt.mpr hk), if_neg (Nat.not_le.mpr hlt)]
  cases hget : s.faces.getD (slotF k) none with
  | some v =>
    refine ⟨s, ?_, hs, rfl, rfl⟩
    rw [hs.faceOk k v hk hget]
  | none =>
    refine ⟨_, rfl, ?_, rfl, rfl⟩
    refine ⟨by simp [hs.lenF], hs.lenS, ?_, hs.sphOk⟩
    intro k' v hk' h
    by_cases he : slotF k = slotF k'
    · rw [← he, getD_set_eq _ _ _ _ hlt] at h
      cases h
      exact faceVal_of_slot_eq hw k k' hk hk' he
    · rw [getD_set_ne _ _ _ _ _ he] at h
      exact hs.faceOk k' v hk' h

theorem getFace_err (P : Params FT ST Args Res) (s : MemoState FT ST) (k : FKey) (hk : FACE_TRIANGLE_MAX < k.idx) :
    getFaceTriangle P s k = (s, .err .other) := by
  unfold getFaceTriangle
  rw [if_pos hk]

/-- Result of `get_spherical_triangle` (called, as in `forward`/`inverse`, with an index that already
passed `get_face_triangle`): it equals the stateless value provided the origin is valid, or the slot is
out of the table, or the slot is empty.  (The remaining case — invalid origin whose slot index aliases a
filled slot of a valid key — is the finding documented in `A5/Props/C13.lean`.) -/
theorem getSph_res (hw : P.WF) {s : MemoState FT ST} (hs : Inv P s) (k : SKey) (hk : k.idx ≤ FACE_TRIANGLE_MAX)
    (h : k.origin < P.numOrigins ∨ MEMO_SPH_SLOTS ≤ slotS k ∨ s.sph.getD (slotS k) none = none) :
    (getSphericalTriangle P s k).2 = pureSph P k := by
  unfold getSphericalTriangle pureSph
  rw [hs.lenS]
  by_cases hb : MEMO_SPH_SLOTS ≤ slotS k
  · rw [if_pos hb, if_pos hb]
  · rw [if_neg hb, if_neg hb]
    cases hget : s.sph.getD (slotS k) none with
    | some v =>
      have ho : k.origin < P.numOrigins := by
        rcases h with h | h | h
        · exact h
        · exact absurd h hb
        · rw [hget] at h; cases h
      rw [if_neg (Nat.not_le.mpr ho), pureFace_ok P _ hk]
      exact (hs.sphOk k v hk ho hget).symm
    | none =>
      unfold computeSphericalTriangle
      by_cases ho : P.numOrigins ≤ k.origin
      · rw [if_pos ho, if_pos ho]
      · rw [if_neg ho, if_neg ho, pureFace_ok P _ hk]
        obtain ⟨s1, he, _, _, _⟩ := getFace_spec hw hs ⟨k.idx, k.reflected, true⟩ hk
        rw [he]
        simp only
        cases (P.sphFrom (P.faceVal ⟨k.idx, k.reflected, true⟩) k).1 <;> rfl

/-- `get_spherical_triangle` on an in-range key whose slot is empty: nested face lookup, the CRS
lookups are counted, and the triangle is stored iff the computation succeeded (a failure is NOT cached). -/
theorem getSph_fill (hw : P.WF) {s : MemoState FT ST} (hs : Inv P s) (k : SKey)
    (hk : k.idx ≤ FACE_TRIANGLE_MAX) (ho : k.origin < P.numOrigins) (hget : s.sph.getD (slotS k) none = none) :
    ∃ s1, Inv P s1 ∧ s1.sph = s.sph ∧ s1.crsCalls = s.crsCalls ∧
      ((∃ st, (sphVal P k).1 = .ok st ∧ (getSphericalTriangle P s k).1 =
          ⟨s1.faces, s1.sph.set (slotS k) (some st), s1.crsCalls + (sphVal P k).2⟩) ∨
       ((∀ st, (sphVal P k).1 ≠ .ok st) ∧ (getSphericalTriangle P s k).1 =
          ⟨s1.faces, s1.sph, s1.crsCalls + (sphVal P k).2⟩)) := by
  have hb : ¬ MEMO_SPH_SLOTS ≤ slotS k :=
    Nat.not_le.mpr (slotS_lt k hk (hw.origin_lt ho))
  unfold getSphericalTriangle
  rw [hs.lenS, if_neg hb, hget]
  simp only
  unfold computeSphericalTriangle
  rw [if_neg (Nat.not_le.mpr ho)]
  obtain ⟨s1, he, hi1, hsph, hcrs⟩ := getFace_spec hw hs ⟨k.idx, k.reflected, true⟩ hk
  refine ⟨s1, hi1, hsph, hcrs, ?_⟩
  rw [he]
  simp only [sphVal]
  cases hv : (P.sphFrom (P.faceVal ⟨k.idx, k.reflected, true⟩) k).1 with
  | ok st => left; exact ⟨st, rfl, rfl⟩
  | err e => right; exact ⟨fun st h => (nomatch h), rfl⟩
  | panic p => right; exact ⟨fun st h => (nomatch h), rfl⟩

theorem getSph_same (P : Params FT ST Args Res) (s : MemoState FT ST) (k : SKey)
    (h : ¬ (k.idx ≤ FACE_TRIANGLE_MAX ∧ k.origin < P.numOrigins ∧ s.sph.getD (slotS k) none = none)) :
    (getSphericalTriangle P s k).1 = s := by
  unfold getSphericalTriangle
  split
  · rfl
  · cases hget : s.sph.getD (slotS k) none with
    | some v => rfl
    | none =>
      simp only
      unfold computeSphericalTriangle
      by_cases ho : P.numOrigins ≤ k.origin
      · rw [if_pos ho]
      · rw [if_neg ho]
        have hk : FACE_TRIANGLE_MAX < k.idx := by
          apply Nat.lt_of_not_le
          intro hk
          exact h ⟨hk, Nat.not_le.mp ho, hget⟩
        rw [getFace_err P s _ hk]

theorem getSph_inv (hw : P.WF) {s : MemoState FT ST} (hs : Inv P s) (k : SKey) :
    Inv P (getSphericalTriangle P s k).1 := by
  by_cases h : k.idx ≤ FACE_TRIANGLE_MAX ∧ k.origin < P.numOrigins ∧ s.sph.getD (slotS k) none = none
  · obtain ⟨hk, ho, hget⟩ := h
    obtain ⟨s1, hi1, hsph, _, hcase⟩ := getSph_fill hw hs k hk ho hget
    have hlt : slotS k < s1.sph.length := by
      rw [hi1.lenS]; exact slotS_lt k hk (hw.origin_lt ho)
    rcases hcase with ⟨st, hv, he⟩ | ⟨_, he⟩
    · rw [he]
      refine ⟨hi1.lenF, by simp [hi1.lenS], hi1.faceOk, ?_⟩
      intro k' v hk' ho' h'
      simp only at h'
      by_cases hsl : slotS k = slotS k'
      · have hkk : k = k' := slotS_inj k k' hk (hw.origin_lt ho) hk'
          (hw.origin_lt ho') hsl
        subst hkk
        rw [getD_set_eq _ _ _ _ hlt] at h'
        cases h'
        exact hv
      · rw [getD_set_ne _ _ _ _ _ hsl] at h'
        exact hi1.sphOk k' v hk' ho' h'
    · rw [he]
      exact ⟨hi1.lenF, hi1.lenS, hi1.faceOk, hi1.sphOk⟩
  · rw [getSph_same P s k h]; exact hs

/-- The counter is paid for by filled slots. -/
def CrsInv (s : MemoState FT ST) : Prop := s.crsCalls ≤ CRS_LOOKUPS_PER_TRIANGLE * sphFilled s

/-- Hypothesis of `C13.crs_quiet` (T4 of `A5/Props/C13.lean`), a finite fact about the float model, checked by
evaluation: for each of the in-range keys the three CRS lookups succeed. -/
structure SphTotal (P : Params FT ST Args Res) : Prop where
  ok : ∀ k : SKey, k.idx ≤ FACE_TRIANGLE_MAX → k.origin < P.numOrigins → ∃ st, (sphVal P k).1 = .ok st
  cnt : ∀ k : SKey, k.idx ≤ FACE_TRIANGLE_MAX → k.origin < P.numOrigins → (sphVal P k).2 ≤ CRS_LOOKUPS_PER_TRIANGLE

theorem getSph_crs (hw : P.WF) (ht : SphTotal P) {s : MemoState FT ST} (hs : Inv P s) (hc : CrsInv s) (k : SKey) :
    CrsInv (getSphericalTriangle P s k).1 := by
  by_cases h : k.idx ≤ FACE_TRIANGLE_MAX ∧ k.origin < P.numOrigins ∧ s.sph.getD (slotS k) none = none
  · obtain ⟨hk, ho, hget⟩ := h
    obtain ⟨s1, hi1, hsph, hcrs, hcase⟩ := getSph_fill hw hs k hk ho hget
    have hlt : slotS k < s1.sph.length := by
      rw [hi1.lenS]; exact slotS_lt k hk (hw.origin_lt ho)
    rcases hcase with ⟨st, hv, he⟩ | ⟨hno, _⟩
    · rw [he]
      unfold CrsInv sphFilled at hc ⊢
      simp only
      rw [countP_set_fill _ _ _ hlt (by rw [hsph]; exact hget), hsph, hcrs]
      have := ht.cnt k hk ho
      rw [Nat.mul_add]
      omega
    · obtain ⟨st, hv⟩ := ht.ok k hk ho
      exact absurd hv (hno st)
  · rw [getSph_same P s k h]; exact hc

theorem sphFilled_le {s : MemoState FT ST} (hs : Inv P s) : sphFilled s ≤ MEMO_SPH_SLOTS := by
  unfold sphFilled; rw [← hs.lenS]; exact List.countP_le_length

/-- State after the common tail of `forward`/`inverse` for a valid index: the state after
`get_spherical_triangle` run from a state that differs from `s` by at most one face slot. -/
theorem callCore_fill (hw : P.WF) {s : MemoState FT ST} (hs : Inv P s) (a : Args)
    (hk : (P.classify a).idx ≤ FACE_TRIANGLE_MAX) :
    ∃ s1, Inv P s1 ∧ s1.sph = s.sph ∧ s1.crsCalls = s.crsCalls ∧
      (callCore P s a).1 = (getSphericalTriangle P s1 (P.classify a)).1 := by
  obtain ⟨s1, he, hi1, hsph, hcrs⟩ := getFace_spec hw hs ⟨(P.classify a).idx, (P.classify a).reflected, false⟩ hk
  refine ⟨s1, hi1, hsph, hcrs, ?_⟩
  unfold callCore
  rw [he]
  simp only
  cases getSphericalTriangle P s1 (P.classify a) with
  | mk s2 r => cases r <;> rfl

theorem callCore_state (hw : P.WF) {s : MemoState FT ST} (hs : Inv P s) (a : Args) :
    (callCore P s a).1 = s ∨
    ∃ s1, Inv P s1 ∧ s1.sph = s.sph ∧ s1.crsCalls = s.crsCalls ∧
      (callCore P s a).1 = (getSphericalTriangle P s1 (P.classify a)).1 := by
  by_cases hk : (P.classify a).idx ≤ FACE_TRIANGLE_MAX
  · right; exact callCore_fill hw hs a hk
  · left
    unfold callCore
    rw [getFace_err P s _ (Nat.not_le.mp hk)]

theorem callCore_inv (hw : P.WF) {s : MemoState FT ST} (hs : Inv P s) (a : Args) : Inv P (callCore P s a).1 := by
  rcases callCore_state hw hs a with h | ⟨s1, hi1, _, _, h⟩
  · rw [h]; exact hs
  · rw [h]; exact getSph_inv hw hi1 _

theorem callCore_crs (hw : P.WF) (ht : SphTotal P) {s : MemoState FT ST} (hs : Inv P s) (hc : CrsInv s) (a : Args) :
    CrsInv (callCore P s a).1 := by
  rcases callCore_state hw hs a with h | ⟨s1, hi1, hsph, hcrs, h⟩
  · rw [h]; exact hc
  · rw [h]
    refine getSph_crs hw ht hi1 ?_ _
    unfold CrsInv sphFilled at hc ⊢
    rw [hsph, hcrs]; exact hc

theorem callCore_res (hw : P.WF) {s : MemoState FT ST} (hs : Inv P s) (a : Args)
    (ho : (P.classify a).origin < P.numOrigins) : (callCore P s a).2 = pureCall P a := by
  unfold pureCall
  rw [if_neg (Nat.not_le.mpr ho)]
  by_cases hk : (P.classify a).idx ≤ FACE_TRIANGLE_MAX
  · obtain ⟨s1, he, hi1, _, _⟩ := getFace_spec hw hs ⟨(P.classify a).idx, (P.classify a).reflected, false⟩ hk
    have hres := getSph_res hw hi1 (P.classify a) hk (Or.inl ho)
    unfold callCore
    rw [he, pureFace_ok P _ hk, ← hres]
    simp only
    cases getSphericalTriangle P s1 (P.classify a) with
    | mk s2 r => cases r <;> rfl
  · unfold callCore
    rw [getFace_err P s _ (Nat.not_le.mp hk), pureFace_err P _ (Nat.not_le.mp hk)]

theorem call_inv (hw : P.WF) {s : MemoState FT ST} (hs : Inv P s) (a : Args) : Inv P (call P s a).1 := by
  unfold call; split
  · exact hs
  · exact callCore_inv hw hs a

theorem call_res (hw : P.WF) {s : MemoState FT ST} (hs : Inv P s) (a : Args) : (call P s a).2 = pureCall P a := by
  unfold call
  by_cases ho : P.numOrigins ≤ (P.classify a).origin
  · rw [if_pos ho]; unfold pureCall; rw [if_pos ho]
  · rw [if_neg ho]; exact callCore_res hw hs a (Nat.not_le.mp ho)

theorem call_crs (hw : P.WF) (ht : SphTotal P) {s : MemoState FT ST} (hs : Inv P s) (hc : CrsInv s) (a : Args) :
    CrsInv (call P s a).1 := by
  unfold call; split
  · exact hc
  · exact callCore_crs hw ht hs hc a

/-- What `C13.crs_quiet` leaves open without `SphTotal`: a *failing* spherical-triangle computation is not cached, so every repetition of
the call pays its CRS lookups again (and returns the same error). -/
theorem call_fail_grows (hw : P.WF) {s : MemoState FT ST} (hs : Inv P s) (a : Args)
    (hk : (P.classify a).idx ≤ FACE_TRIANGLE_MAX) (ho : (P.classify a).origin < P.numOrigins)
    (hf : ∀ st, (sphVal P (P.classify a)).1 ≠ .ok st) :
    (call P s a).1.crsCalls = s.crsCalls + (sphVal P (P.classify a)).2 ∧ (call P s a).1.sph = s.sph := by
  unfold call
  rw [if_neg (Nat.not_le.mpr ho)]
  obtain ⟨s1, hi1, hsph, hcrs, he⟩ := callCore_fill hw hs a hk
  have hget : s1.sph.getD (slotS (P.classify a)) none = none := by
    cases hg : s1.sph.getD (slotS (P.classify a)) none with
    | none => rfl
    | some v => exact absurd (hi1.sphOk _ v hk ho hg) (hf v)
  obtain ⟨s2, _, hsph2, hcrs2, hcase⟩ := getSph_fill hw hi1 (P.classify a) hk ho hget
  rcases hcase with ⟨st, hv, _⟩ | ⟨_, he2⟩
  · exact absurd hv (hf st)
  · rw [he, he2]
    exact ⟨by simp only [hcrs2, hcrs], by simp only [hsph2, hsph]⟩

theorem callV062_inv (hw : P.WF) (isInv : Args → Bool) {s : MemoState FT ST} (hs : Inv P s) (a : Args) :
    Inv P (callV062 P isInv s a).1 := by
  unfold callV062; split
  · exact hs
  · exact callCore_inv hw hs a

theorem callV062_eq_call (isInv : Args → Bool) (s : MemoState FT ST) (a : Args)
    (h : isInv a = false ∨ (P.classify a).origin < P.numOrigins) : callV062 P isInv s a = call P s a := by
  unfold callV062 call
  by_cases ho : P.numOrigins ≤ (P.classify a).origin
  · have hi : isInv a = false := by
      rcases h with h | h
      · exact h
      · exact absurd ho (Nat.not_le.mpr h)
    simp [hi, ho]
  · simp [ho]

theorem run_inv (hw : P.WF) (h : List Args) : ∀ {s : MemoState FT ST}, Inv P s → Inv P (run P s h) := by
  induction h with
  | nil => intro s hs; exact hs
  | cons a t ih => intro s hs; exact ih (call_inv hw hs a)

theorem run_crs (hw : P.WF) (ht : SphTotal P) (h : List Args) :
    ∀ {s : MemoState FT ST}, Inv P s → CrsInv s → CrsInv (run P s h) := by
  induction h with
  | nil => intro s _ hc; exact hc
  | cons a t ih => intro s hs hc; exact ih (call_inv hw hs a) (call_crs hw ht hs hc a)

theorem runResults_eq (hw : P.WF) (h : List Args) :
    ∀ {s : MemoState FT ST}, Inv P s → runResults P s h = h.map (pureCall P) := by
  induction h with
  | nil => intro s _; rfl
  | cons a t ih =>
    intro s hs
    simp only [runResults, List.map_cons, call_res hw hs a, ih (call_inv hw hs a)]

theorem run_fail_grows (hw : P.WF) (a : Args)
    (hk : (P.classify a).idx ≤ FACE_TRIANGLE_MAX) (ho : (P.classify a).origin < P.numOrigins)
    (hf : ∀ st, (sphVal P (P.classify a)).1 ≠ .ok st) (m : Nat) :
    ∀ {s : MemoState FT ST}, Inv P s →
      (run P s (List.replicate m a)).crsCalls = s.crsCalls + m * (sphVal P (P.classify a)).2 := by
  induction m with
  | zero => intro s _; simp [run]
  | succ m ih =>
    intro s hs
    simp only [List.replicate_succ, run]
    rw [ih (call_inv hw hs a), (call_fail_grows hw hs a hk ho hf).1, Nat.succ_mul]
    omega

theorem run_append (s : MemoState FT ST) (h h' : List Args) : run P s (h ++ h') = run P (run P s h) h' := by
  induction h generalizing s with
  | nil => rfl
  | cons a t ih => exact ih _

theorem stepWorld_same (w : World FT ST) (t : ThreadId) (a : Args) :
    (stepWorld P w t a).1 t = (call P (w t) a).1 := by
  simp [stepWorld]

theorem stepWorld_other (w : World FT ST) (t u : ThreadId) (a : Args) (h : u ≠ t) :
    (stepWorld P w t a).1 u = w u := by
  simp [stepWorld, h]

theorem stepWorld_inv (hw : P.WF) {w : World FT ST} (hi : ∀ t, Inv P (w t)) (t : ThreadId) (a : Args) :
    ∀ u, Inv P ((stepWorld P w t a).1 u) := by
  intro u
  by_cases h : u = t
  · subst h; rw [stepWorld_same]; exact call_inv hw (hi u) a
  · rw [stepWorld_other _ _ _ _ h]; exact hi u

theorem runWorldResults_eq (hw : P.WF) (h : List (ThreadId × Args)) :
    ∀ {w : World FT ST}, (∀ t, Inv P (w t)) → runWorldResults P w h = h.map (fun ta => pureCall P ta.2) := by
  induction h with
  | nil => intro w _; rfl
  | cons x t ih =>
    intro w hi
    obtain ⟨u, a⟩ := x
    simp only [runWorldResults, List.map_cons, ih (stepWorld_inv hw hi u a)]
    congr 1
    exact call_res hw (hi u) a

/-- The component of thread `t` after an interleaving is the state thread `t` reaches by running its own
subsequence alone: other threads' steps are invisible to it. -/
theorem runWorld_proj (h : List (ThreadId × Args)) (t : ThreadId) :
    ∀ (w : World FT ST), runWorld P w h t = run P (w t) ((h.filter (fun ta => ta.1 == t)).map (·.2)) := by
  induction h with
  | nil => intro w; rfl
  | cons x r ih =>
    intro w
    obtain ⟨u, a⟩ := x
    simp only [runWorld]
    rw [ih]
    by_cases hu : u = t
    · subst hu
      simp [stepWorld_same, run]
    · have : (u == t) = false := by simpa using hu
      simp only [List.filter_cons, this]
      rw [stepWorld_other _ _ _ _ (fun e => hu e.symm)]
      rfl

end

end A5.Memo
