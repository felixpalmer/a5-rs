import A5.Lemmas.HierRefine
/-! The pre-count `get_num_children`: its exact panic set on all integers, and its value on every legal pair of
resolutions (rows -1, 0, 1 go through the `get_num_cells` table and are checked entry by entry). -/
namespace A5

theorem four_pow_lt_iff (d : Nat) : 4 ^ d < 2 ^ 64 ↔ d < 32 := by
  rewrite [show (2 : Nat) ^ 64 = 4 ^ 32 from rfl]
  exact Nat.pow_lt_pow_iff_right (by omega)

theorem four_pow_lt_two_pow_62 (d : Nat) (h : d ≤ 29) : 4 ^ d < 2 ^ 62 := by
  have := Path.four_pow_le_of_le h
  rewrite [Path.four_pow_29] at this
  omega

theorem getNumChildren_of_lt {p c : Int} (h : c < p) : getNumChildren p c = .ok 0 := if_pos h

/-- exact panic set of `get_num_children` (for all integers, hence all `i32`): it overflows `4^d`
iff the parent is on the curve levels and the child is at least 32 levels finer. -/
theorem getNumChildren_isPanic_iff (p c : Int) :
    (getNumChildren p c).isPanic = true ↔ 2 ≤ p ∧ 32 ≤ c - p := by
  unfold getNumChildren
  by_cases h1 : c < p
  · rewrite [if_pos h1]; simp only [Outcome.isPanic, Bool.false_eq_true, false_iff]; omega
  rewrite [if_neg h1]
  by_cases h2 : c = p
  · rewrite [if_pos h2]; simp only [Outcome.isPanic, Bool.false_eq_true, false_iff]; omega
  rewrite [if_neg h2]
  by_cases h3 : p ≥ Gen.FIRST_HILBERT_RESOLUTION
  · rewrite [if_pos h3]
    simp only [Gen.FIRST_HILBERT_RESOLUTION] at h3
    by_cases hr : i32InRange (c - p) = true
    · simp only [i32Sub, hr, if_true, Outcome.bind_ok]
      by_cases h4 : 4 ^ (c - p).toNat < 2 ^ 64
      · rewrite [if_pos h4]
        have := (four_pow_lt_iff _).mp h4
        simp only [Outcome.isPanic, Bool.false_eq_true, false_iff]; omega
      · rewrite [if_neg h4]
        have : ¬ (c - p).toNat < 32 := fun h => h4 ((four_pow_lt_iff _).mpr h)
        simp only [Outcome.isPanic, true_iff]; omega
    · simp only [i32Sub, hr, Bool.false_eq_true, if_false, Outcome.bind_panic, Outcome.isPanic, true_iff]
      simp only [i32InRange, decide_eq_true_eq] at hr
      omega
  · rewrite [if_neg h3]
    simp only [Gen.FIRST_HILBERT_RESOLUTION] at h3
    simp only [Outcome.isPanic, Bool.false_eq_true, false_iff]; omega

theorem getNumChildren_never_panics (p c : Int) (hc : c ≤ 29) :
    (getNumChildren p c).isPanic = false := by
  cases h : (getNumChildren p c).isPanic with
  | false => rfl
  | true => have := (getNumChildren_isPanic_iff p c).mp h; omega

namespace C09
open Path

/-- what `get_num_children(r, R)` returns (0 if it does not return) -/
def kids (r R : Int) : Nat := match getNumChildren r R with | .ok k => k | _ => 0

/-- rows -1, 0, 1 of the pre-count (they go through the `get_num_cells` table, including its two rounded
entries for resolutions 28 and 29), checked entry by entry against all targets -1..29 -/
theorem numChildren_low_table :
    ∀ r ∈ [(-1 : Int), 0, 1], ∀ R ∈ (List.range 31).map (fun j : Nat => (j : Int) - 1), r ≤ R →
      getNumChildren r R = .ok (kids r R) ∧ kids r R < 2 ^ 62 ∧ (kids r R = 1 ↔ r = R) ∧
      (R - max r 1 ≤ 20 → kids r R = fanout (R - r).toNat r) := by decide +kernel

theorem numChildren_deep (r R : Int) (h2 : 2 ≤ r) (h : r ≤ R) (hR : R ≤ 29) :
    getNumChildren r R = .ok (4 ^ (R - r).toNat) := by
  unfold getNumChildren
  rewrite [if_neg (by omega)]
  by_cases he : R = r
  · rewrite [if_pos he, he, Int.sub_self]; rfl
  · have hlt := four_pow_lt_two_pow_62 (R - r).toNat (by omega)
    rewrite [if_neg he, if_pos (by simp only [Gen.FIRST_HILBERT_RESOLUTION]; omega), i32Sub_ok _ _ (by omega)]
    simp only [Outcome.bind_ok]
    rewrite [if_pos (by omega)]; rfl

theorem numChildren_spec (r R : Int) (h1 : -1 ≤ r) (h : r ≤ R) (hR : R ≤ 29) :
    getNumChildren r R = .ok (kids r R) ∧ kids r R < 2 ^ 62 ∧ (kids r R = 1 ↔ r = R) ∧
      (R - max r 1 ≤ 20 → kids r R = fanout (R - r).toNat r) := by
  by_cases h2 : 2 ≤ r
  · have e := numChildren_deep r R h2 h hR
    have ek : kids r R = 4 ^ (R - r).toNat := by simp only [kids, e]
    rewrite [ek]
    refine ⟨e, four_pow_lt_two_pow_62 _ (by omega), ?_, fun _ => (fanout_deep _ r (by omega)).symm⟩
    rewrite [Nat.pow_eq_one]; omega
  · exact numChildren_low_table r (by
        have : r = -1 ∨ r = 0 ∨ r = 1 := by omega
        rcases this with rfl | rfl | rfl <;> simp)
      R (List.mem_map.2 ⟨(R + 1).toNat, List.mem_range.2 (by omega), (by omega : (((R + 1).toNat : Nat) : Int) - 1 = R)⟩) h

/-- the shortcut `k = 1` of `uncompact` is taken exactly at equal resolutions -/
theorem precount_harmless' (r R : Int) (h1 : -1 ≤ r) (h : r ≤ R) (hR : R ≤ 29) :
    getNumChildren r R = .ok 1 ↔ r = R := by
  obtain ⟨e, _, hk, _⟩ := numChildren_spec r R h1 h hR
  rewrite [e]
  exact ⟨fun h' => hk.1 (Outcome.ok.inj h'), fun h' => by rewrite [hk.2 h']; rfl⟩

end C09
end A5
