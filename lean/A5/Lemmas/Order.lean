import A5.Lemmas.Digits
/-! # Order of cell ids (`Path.enc`) versus the hierarchy — arithmetic core

Everything is phrased with two numbers depending only on the number `n` of curve digits of a cell
(`n = res - 1`, `0 ≤ n ≤ 28`):

    W n    = 2^(58-2n)   the width of the id block of a cell with `n` digits (`W n = 4 · W (n+1)`)
    mark n               the marker bit: `2^56` for `n = 0`, `2^(57-2n) = 2 · W (n+1)` for `n ≥ 1`

so that `enc (deep f k ds) = (5f+k)·2^58 + value ds · W |ds| + mark |ds|`  (`enc_deep`), and the
block of a cell is `[blockBase, blockBase + W |ds|)` with `blockBase = (5f+k)·2^58 + value ds · W |ds|`.

All powers are kept symbolic (`W n` is an atom for `omega`); the only case split is `n = 0` (a quintant, whose marker is
`2^56 = W 1`) against `n ≥ 1`. -/
namespace A5.Order
open A5 A5.Path

/-- width of the id block of a cell with `n` curve digits (resolution `n + 1`) -/
def W (n : Nat) : Nat := 2 ^ (58 - 2 * n)

/-- the marker bit of a cell with `n` curve digits -/
def mark (n : Nat) : Nat := if n = 0 then 2 ^ 56 else 2 ^ (57 - 2 * n)

theorem W_pos (n : Nat) : 0 < W n := Nat.pow_pos (by omega)

theorem W_succ (n : Nat) (h : n ≤ 28) : W n = 4 * W (n + 1) := by
  unfold W
  have e : 58 - 2 * n = (58 - 2 * (n + 1)) + 2 := by omega
  rw [e, Nat.pow_add]; omega

theorem W_zero : W 0 = 2 ^ 58 := rfl

theorem W_29 : W 29 = 1 := rfl

theorem four_le_W (n : Nat) (h : n ≤ 28) : 4 ≤ W n := by
  have := W_succ n h
  have := W_pos (n + 1)
  omega

theorem W_add (a e : Nat) (h : a + e ≤ 29) : W a = 4 ^ e * W (a + e) := by
  induction e with
  | zero => simp
  | succ e ih =>
    have h1 := ih (by omega)
    have h2 := W_succ (a + e) (by omega)
    rw [h1, h2, Nat.pow_succ, ← Nat.add_assoc, Nat.mul_assoc]

theorem pow4_mul_W (n : Nat) (h : n ≤ 29) : 4 ^ n * W n = 2 ^ 58 := by
  have := W_add 0 n (by omega)
  rw [Nat.zero_add, W_zero] at this
  exact this.symm

theorem mark_zero : mark 0 = 2 ^ 56 := rfl

theorem mark_zero_W : mark 0 = W 1 := rfl

theorem mark_pos_eq (n : Nat) (h1 : 1 ≤ n) (h : n ≤ 28) : mark n = 2 * W (n + 1) := by
  unfold W mark
  rw [if_neg (by omega)]
  have e : 57 - 2 * n = (58 - 2 * (n + 1)) + 1 := by omega
  rw [e, Nat.pow_add]; omega

theorem two_le_mark (n : Nat) (h : n ≤ 28) : 2 ≤ mark n := by
  by_cases h0 : n = 0
  · subst h0; rw [mark_zero]; omega
  · rw [mark_pos_eq n (by omega) h]
    have := W_pos (n + 1); omega

/-- the marker sits strictly inside the block: `2·mark ≤ W` (equality except for quintants) -/
theorem two_mark_le_W (n : Nat) (h : n ≤ 28) : 2 * mark n ≤ W n := by
  by_cases h0 : n = 0
  · subst h0; rw [mark_zero, W_zero]; omega
  · rw [mark_pos_eq n (by omega) h, W_succ n h]; omega

theorem two_mark_eq_W (n : Nat) (h1 : 1 ≤ n) (h : n ≤ 28) : 2 * mark n = W n := by
  rw [mark_pos_eq n h1 h, W_succ n h]; omega

theorem mark_mul_W (e l : Nat) (h : e < l) (hl : l ≤ 29) : ∃ c, mark e = c * W l := by
  by_cases h0 : e = 0
  · subst h0
    have := W_add 1 (l - 1) (by omega)
    have e1 : 1 + (l - 1) = l := by omega
    rw [e1] at this
    exact ⟨4 ^ (l - 1), by rw [mark_zero_W, this]⟩
  · have := W_add (e + 1) (l - (e + 1)) (by omega)
    have e1 : e + 1 + (l - (e + 1)) = l := by omega
    rw [e1] at this
    exact ⟨2 * 4 ^ (l - (e + 1)), by rw [mark_pos_eq e (by omega) (by omega), this, Nat.mul_assoc]⟩

theorem succ_mul_le {v v' : Nat} (X : Nat) (h : v < v') : v * X + X ≤ v' * X := by
  have := Nat.mul_le_mul_right X (Nat.succ_le_of_lt h)
  rwa [Nat.succ_mul] at this

theorem block_unique (X v v' s : Nat) (h1 : v * X < v' * X + s) (h2 : v' * X + s < v * X + X) (h3 : s < X) :
    v' = v := by
  rcases Nat.lt_trichotomy v' v with h | h | h
  · have := succ_mul_le X h; omega
  · exact h
  · have := succ_mul_le X h; omega

/-- an id `T'·P + y + m` within the loose interval of the block `[T·P + a, T·P + a + X)`, itself inside one `P`-block:
the leading parts agree and the rest lies strictly inside -/
theorem block_top (P T T' a y m X : Nat) (ha : a + X ≤ P) (hx : y + m + 2 ≤ P) (hX : 4 ≤ X)
    (hlo : T * P + a + 2 - 1 ≤ T' * P + y + m) (hhi : T' * P + y + m ≤ T * P + a + X - 2 + 1) :
    T' = T ∧ a < y + m ∧ y + m < a + X := by
  have : T' = T := block_unique P T T' (y + m) (by omega) (by omega) (by omega)
  subst this; omega

theorem value_snoc (ds : List Nat) (d : Nat) : value (ds ++ [d]) = 4 * value ds + d :=
  value_append_singleton ds d

/-- the value of a prefix is the value divided by a power of four (stated without division) -/
theorem value_take_drop (ds : List Nat) (j : Nat) :
    value ds = value (ds.take j) * 4 ^ (ds.drop j).length + value (ds.drop j) := by
  conv => lhs; rw [← List.take_append_drop j ds]
  exact value_append _ _

theorem enc_deep (f k : Nat) (ds : List Nat) :
    enc (deep f k ds) = (5 * f + k) * 2 ^ 58 + value ds * W ds.length + mark ds.length := rfl

/-- lowest number of the id block of `deep f k ds` (all ids sharing its six leading bits and its digits) -/
def blockBase (f k : Nat) (ds : List Nat) : Nat := (5 * f + k) * 2 ^ 58 + value ds * W ds.length

theorem enc_eq_base_add_mark (f k : Nat) (ds : List Nat) :
    enc (deep f k ds) = blockBase f k ds + mark ds.length := enc_deep f k ds

/-- the digit field never reaches the six leading bits -/
theorem value_mul_W_le (ds : List Nat) (h : ∀ d ∈ ds, d < 4) (hl : ds.length ≤ 29) :
    value ds * W ds.length + W ds.length ≤ 2 ^ 58 := by
  have h1 := value_lt ds h
  have h2 := pow4_mul_W ds.length hl
  have h3 := Nat.mul_le_mul_right (W ds.length) (Nat.succ_le_of_lt h1)
  rw [Nat.succ_mul] at h3
  omega

theorem enc_append (f k : Nat) (ds es : List Nat) (hl : ds.length + es.length ≤ 29) :
    enc (deep f k (ds ++ es)) =
      blockBase f k ds + (value es * W (ds.length + es.length) + mark (ds.length + es.length)) := by
  rw [enc_deep, List.length_append, value_append, blockBase, W_add ds.length es.length hl]
  grind

theorem tail_bounds (n : Nat) (es : List Nat) (hd : ∀ d ∈ es, d < 4) (hl : n + es.length ≤ 28) :
    2 ≤ value es * W (n + es.length) + mark (n + es.length) ∧
    value es * W (n + es.length) + mark (n + es.length) + 2 ≤ W n := by
  have h1 := value_lt es hd
  have h2 := W_add n es.length (by omega)
  have h3 := Nat.mul_le_mul_right (W (n + es.length)) (Nat.succ_le_of_lt h1)
  rw [Nat.succ_mul, ← h2] at h3
  have h4 := two_le_mark (n + es.length) hl
  have h5 := two_mark_le_W (n + es.length) hl
  have h6 := four_le_W (n + es.length) hl
  omega

theorem enc_append_bounds (f k : Nat) (ds es : List Nat) (hd : ∀ d ∈ es, d < 4)
    (hl : ds.length + es.length ≤ 28) :
    blockBase f k ds + 2 ≤ enc (deep f k (ds ++ es)) ∧
    enc (deep f k (ds ++ es)) + 2 ≤ blockBase f k ds + W ds.length := by
  rw [enc_append f k ds es (by omega)]
  have := tail_bounds ds.length es hd hl
  omega

/-- smallest id in the subtree of `p` among cells of resolution ≥ 1 (`= ` id of the resolution-29 descendant
with all digits 0; for a face: of its quintant 0).  No theorem speaks of `lo world` or `hi world`: they only make the
functions total. -/
def lo : Path → Nat
  | world => 0
  | face f => 5 * f * 2 ^ 58 + 2
  | deep f k ds => blockBase f k ds + 2

/-- largest id in the subtree of `p` (`=` id of the resolution-29 descendant with all digits 3) -/
def hi : Path → Nat
  | world => 2 ^ 64 - 1
  | face f => (5 * f + 5) * 2 ^ 58 - 2
  | deep f k ds => blockBase f k ds + W ds.length - 2

theorem enc_bounds_of_ancestor {p q : Path} (hq : WF q) (h1 : 1 ≤ res p) (hle : res p ≤ res q)
    (ha : ancestorAt q (res p) = p) : lo p ≤ enc q ∧ enc q ≤ hi p := by
  obtain ⟨f, k, ds, rfl⟩ := exists_deep_of_res h1
  obtain ⟨f', k', es, rfl⟩ := exists_deep_of_res (Int.le_trans h1 hle)
  rw [res_deep, ancestorAt_deep_succ] at ha
  injection ha with hf hk hds
  subst hf hk
  obtain ⟨_, _, hd, hl⟩ := hq
  have hes : es = ds ++ es.drop ds.length := by
    conv => lhs; rw [← List.take_append_drop ds.length es]
    rw [hds]
  have hd' : ∀ d ∈ es.drop ds.length, d < 4 := fun d hd' => hd d (List.mem_of_mem_drop hd')
  have hlen : ds.length + (es.drop ds.length).length ≤ 28 := by
    have : (ds ++ es.drop ds.length).length = es.length := by rw [← hes]
    rw [List.length_append] at this
    omega
  have := enc_append_bounds f' k' ds (es.drop ds.length) hd' hlen
  rw [← hes] at this
  have hW := four_le_W ds.length (by omega)
  simp only [lo, hi]
  omega

/-- id strictly inside the block ⇒ descendant (the loose interval `(base, base + W)` suffices) -/
theorem ancestor_of_enc_bounds {p q : Path} (hp : WF p) (hq : WF q) (h1 : 1 ≤ res p) (hq1 : 1 ≤ res q)
    (hlo : lo p - 1 ≤ enc q) (hhi : enc q ≤ hi p + 1) : res p ≤ res q ∧ ancestorAt q (res p) = p := by
  obtain ⟨f, k, ds, rfl⟩ := exists_deep_of_res h1
  obtain ⟨f', k', es, rfl⟩ := exists_deep_of_res hq1
  obtain ⟨hf, hk, hd, hl⟩ := hp
  obtain ⟨hf', hk', hd', hl'⟩ := hq
  simp only [lo, hi, blockBase] at hlo hhi
  have hW := four_le_W ds.length (by omega)
  have hp58 := value_mul_W_le ds hd (by omega)
  have hq58 := tail_bounds 0 es hd' (by omega)
  rw [Nat.zero_add, W_zero] at hq58
  rw [enc_deep] at hlo hhi
  -- the six leading bits agree: both ids lie in the same block of width `2^58`
  obtain ⟨hT, hlo', hhi'⟩ := block_top _ _ _ _ _ _ _ hp58 hq58.2 hW hlo hhi
  clear hp58 hq58 hlo hhi
  obtain ⟨rfl, rfl⟩ : f' = f ∧ k' = k := by omega
  clear hf hk hf' hk' hT
  by_cases hlt : es.length < ds.length
  · -- a coarser cell: its id is a multiple of `W |ds|`, so it cannot be strictly inside the block
    exfalso
    obtain ⟨c, hc⟩ := mark_mul_W es.length ds.length hlt (by omega)
    have hWe := W_add es.length (ds.length - es.length) (by omega)
    have e1 : es.length + (ds.length - es.length) = ds.length := by omega
    rw [e1] at hWe
    have hw : value es * W es.length + mark es.length =
        (value es * 4 ^ (ds.length - es.length) + c) * W ds.length := by
      rw [hc, hWe]; grind
    rw [hw] at hlo' hhi'
    rw [← Nat.succ_mul] at hhi'
    exact Nat.lt_irrefl _ (Nat.lt_of_lt_of_le (Nat.lt_of_mul_lt_mul_right hlo')
      (Nat.le_of_lt_succ (Nat.lt_of_mul_lt_mul_right hhi')))
  · have hge : ds.length ≤ es.length := by omega
    have hes : es = es.take ds.length ++ es.drop ds.length := (List.take_append_drop _ _).symm
    have hlt' : (es.take ds.length).length = ds.length := by rw [List.length_take]; omega
    have hld : (es.take ds.length).length + (es.drop ds.length).length = es.length := by
      rw [← List.length_append, ← hes]
    have hdd : ∀ d ∈ es.drop ds.length, d < 4 := fun d h => hd' d (List.mem_of_mem_drop h)
    have hdt : ∀ d ∈ es.take ds.length, d < 4 := fun d h => hd' d (List.mem_of_mem_take h)
    have happ := enc_append f' k' (es.take ds.length) (es.drop ds.length) (by omega)
    rw [← hes, enc_deep, blockBase, hld, hlt'] at happ
    have htb := tail_bounds (es.take ds.length).length (es.drop ds.length) hdd (by omega)
    rw [hld, hlt'] at htb
    have hv : value (es.take ds.length) = value ds :=
      block_unique (W ds.length) (value ds) (value (es.take ds.length))
        (value (es.drop ds.length) * W es.length + mark es.length) (by omega) (by omega) (by omega)
    have htake : es.take ds.length = ds := value_inj _ _ hlt' hdt hd hv
    refine ⟨by simp only [res]; omega, ?_⟩
    rw [res_deep, ancestorAt_deep_succ, htake]

theorem block_order {f k f' k' : Nat} {ds ds' : List Nat} (hl : ds.length = ds'.length) (h28 : ds.length ≤ 28)
    (hd : ∀ d ∈ ds, d < 4) (hd' : ∀ d ∈ ds', d < 4)
    (h : enc (deep f k ds) < enc (deep f' k' ds')) :
    blockBase f k ds + W ds.length ≤ blockBase f' k' ds' := by
  rw [enc_deep, enc_deep, ← hl] at h
  have h1 := value_mul_W_le ds hd (by omega)
  have h2 := value_mul_W_le ds' hd' (by omega)
  rw [← hl] at h2
  have h3 := two_mark_le_W ds.length h28
  simp only [blockBase]
  rw [← hl]
  rcases Nat.lt_trichotomy (5 * f + k) (5 * f' + k') with ht | ht | ht
  · omega
  · rw [ht] at h ⊢
    have hv : value ds * W ds.length < value ds' * W ds.length := by omega
    have := succ_mul_le (W ds.length) (Nat.lt_of_mul_lt_mul_right hv)
    omega
  · omega

theorem hi_lt_lo {a b : Path} (ha : WF a) (hb : WF b) (h1 : 1 ≤ res a) (hr : res a = res b)
    (h : enc a < enc b) : hi a < lo b := by
  obtain ⟨f, k, ds, rfl⟩ := exists_deep_of_res h1
  obtain ⟨f', k', ds', rfl⟩ := exists_deep_of_res (hr ▸ h1)
  obtain ⟨_, _, hd, hl⟩ := ha
  obtain ⟨_, _, hd', hl'⟩ := hb
  simp only [res] at hr
  have := block_order (by omega) hl hd hd' h
  have hW := four_le_W ds.length hl
  simp only [lo, hi]
  omega

theorem lo_le_enc {p : Path} (hp : WF p) (h1 : 1 ≤ res p) : lo p ≤ enc p ∧ enc p ≤ hi p :=
  enc_bounds_of_ancestor hp h1 (Int.le_refl _) (ancestorAt_self p _ (Int.le_refl _))

end A5.Order
