import A5.Model.Geo
import A5.Model.OriginInt
/-! Lemmas about `origin.rs`: the `Float` model of `A5/Model/Geo.lean` is the instance of the Float-free
mirrors of `A5/Model/OriginInt.lean`; the fields of the twelve `Origin` records are what the generated
tables say (without evaluating any float); finite table facts; the rational quaternions and face centres
that `A5.C18.frame_regular` evaluates.  Core only (no Mathlib). -/
namespace A5

theorem isLayoutClockwise_eq (l : List Nat) : isLayoutClockwise l = isLayoutClockwiseI l := rfl

theorem quintantToSegment_eq (q : Nat) (o : Origin) :
    quintantToSegment q o = quintantToSegmentI q o.firstQuintant o.orientation := rfl

theorem segmentToQuintant_eq (s : Nat) (o : Origin) :
    segmentToQuintant s o = segmentToQuintantI s o.firstQuintant o.orientation := rfl

theorem haversine_eq (theta phi theta2 phi2 : Float) :
    haversine theta phi theta2 phi2 = haversineG Float.sin 2.0 theta phi theta2 phi2 := rfl

theorem findNearestOrigin_go_eq (theta phi : Float) : ∀ (l : List Origin) (m : Float) (b : Origin),
    findNearestOrigin.go theta phi l m b
      = argminGo (fun o => haversine theta phi o.theta o.phi) l m b
  | [], _, _ => rfl
  | o :: os, m, b => by
    show (if haversine theta phi o.theta o.phi < m then _ else _)
       = (if haversine theta phi o.theta o.phi < m then _ else _)
    rw [findNearestOrigin_go_eq theta phi os, findNearestOrigin_go_eq theta phi os]

theorem findNearestOrigin_eq (theta phi : Float) :
    findNearestOrigin theta phi =
      argminGo (fun o => haversine theta phi o.theta o.phi) origins (1.0 / 0.0) (originAt 0) :=
  findNearestOrigin_go_eq theta phi _ _ _

theorem transformQuat_eq (v : V3) (q : Float × Float × Float × Float) :
    transformQuat v q = (let r := transformQuatG (v.x, v.y, v.z) q; ⟨r.1, r.2.1, r.2.2⟩) := rfl

theorem quatAt_eq (i : Nat) : quatAt i = quatAtG fc (0.0, 0.0, 0.0, 1.0) i := rfl

theorem firstQuintant_eq_faceFirst (o : Nat) : firstQuintant o = faceFirst o := rfl

/-! ## the twelve `Origin` records, field by field (no float is evaluated) -/

theorem origins_length : origins.length = 12 := by
  unfold origins; rw [List.length_map, List.length_range]; rfl

theorem originAt_eq (o : Nat) (h : o < 12) :
    originAt o =
      (let k := Gen.ORIGIN_ORDER.getD o 0
       let (theta, phi, angle, qi) := rawOrigins.getD k (0.0, 0.0, 0.0, 0)
       let q := quatAt qi
       { id := o, theta := theta, phi := phi, quat := q, invQuat := quatConj q, angle := angle,
         orientation := Gen.QUINTANT_ORIENTATIONS_ARRAYS.getD k [],
         firstQuintant := Gen.QUINTANT_FIRST.getD k 0 }) := by
  unfold originAt origins
  rw [List.getD_eq_getElem?_getD, List.getElem?_map, List.getElem?_range (by exact h)]
  rfl

theorem originAt_firstQuintant (o : Nat) (h : o < 12) : (originAt o).firstQuintant = faceFirst o := by
  rewrite [originAt_eq o h]; rfl

theorem originAt_orientation (o : Nat) (h : o < 12) : (originAt o).orientation = faceLayout o := by
  rewrite [originAt_eq o h]; rfl

theorem originAt_id (o : Nat) (h : o < 12) : (originAt o).id = o := by
  rewrite [originAt_eq o h]; rfl

theorem originOrder_perm :
    Gen.ORIGIN_ORDER.length = 12 ∧
    (∀ o, o < 12 → faceSlot o < 12) ∧
    (∀ o, o < 12 → ∀ o', o' < 12 → faceSlot o = faceSlot o' → o = o') ∧
    (∀ k, k < 12 → ∃ o, o < 12 ∧ faceSlot o = k) := by
  decide +kernel

theorem rawOrigins_quatIndex : ∀ k, k < 12 →
    (rawOrigins.getD k (0.0, 0.0, 0.0, 0)).2.2.2 = rawQuatIndex.getD k 0 := by
  decide

theorem originAt_quat (o : Nat) (h : o < 12) : (originAt o).quat = quatAt (faceQuatIndex o) := by
  rewrite [originAt_eq o h]
  show quatAt (rawOrigins.getD (faceSlot o) (0.0, 0.0, 0.0, 0)).2.2.2 = _
  rewrite [rawOrigins_quatIndex _ (originOrder_perm.2.1 o h)]; rfl

theorem originAt_invQuat (o : Nat) (h : o < 12) :
    (originAt o).invQuat = quatConj (originAt o).quat := by
  rewrite [originAt_eq o h]; rfl

theorem quintantToSegment_originAt (q o : Nat) (h : o < 12) :
    quintantToSegment q (originAt o) = quintantToSegmentI q (faceFirst o) (faceLayout o) := by
  rewrite [quintantToSegment_eq, originAt_firstQuintant o h, originAt_orientation o h]; rfl

theorem segmentToQuintant_originAt (s o : Nat) (h : o < 12) :
    segmentToQuintant s (originAt o) = segmentToQuintantI s (faceFirst o) (faceLayout o) := by
  rewrite [segmentToQuintant_eq, originAt_firstQuintant o h, originAt_orientation o h]; rfl

theorem faceLayout_named : ∀ o, o < 12 →
    (faceLayout o = Gen.CLOCKWISE_FAN ∨ faceLayout o = Gen.CLOCKWISE_STEP ∨
     faceLayout o = Gen.COUNTER_STEP ∨ faceLayout o = Gen.COUNTER_JUMP) ∧
    (faceLayout o).length = 5 ∧ (∀ c ∈ faceLayout o, c < 6) ∧ faceFirst o < 5 := by
  decide +kernel

/-- `is_layout_clockwise` agrees with the names of the four fans -/
theorem fans_distinct :
    isLayoutClockwiseI Gen.CLOCKWISE_FAN = true ∧ isLayoutClockwiseI Gen.CLOCKWISE_STEP = true ∧
    isLayoutClockwiseI Gen.COUNTER_STEP = false ∧ isLayoutClockwiseI Gen.COUNTER_JUMP = false := by
  decide

theorem relabelI_roundtrip_q : ∀ o, o < 12 → ∀ q, q < 5 →
    (quintantToSegmentI q (faceFirst o) (faceLayout o)).1 < 5 ∧
    (quintantToSegmentI q (faceFirst o) (faceLayout o)).2 < 6 ∧
    segmentToQuintantI (quintantToSegmentI q (faceFirst o) (faceLayout o)).1 (faceFirst o) (faceLayout o)
      = (q, (quintantToSegmentI q (faceFirst o) (faceLayout o)).2) := by
  decide +kernel

theorem relabelI_roundtrip_s : ∀ o, o < 12 → ∀ s, s < 5 →
    (segmentToQuintantI s (faceFirst o) (faceLayout o)).1 < 5 ∧
    (segmentToQuintantI s (faceFirst o) (faceLayout o)).2 < 6 ∧
    quintantToSegmentI (segmentToQuintantI s (faceFirst o) (faceLayout o)).1 (faceFirst o) (faceLayout o)
      = (s, (segmentToQuintantI s (faceFirst o) (faceLayout o)).2) := by
  decide +kernel

/-- the orientation attached to a segment is the entry of the face's fan at the segment's offset from
the first quintant (so it is a property of the segment alone, whichever way the fan winds) -/
theorem segment_orientationI (s first : Nat) (layout : List Nat) :
    (segmentToQuintantI s first layout).2 = layout.getD ((s + 5 - first) % 5) 0 := rfl

theorem relabelI_winding : ∀ o, o < 12 → ∀ q, q < 5 →
    (quintantToSegmentI q (faceFirst o) (faceLayout o)).1 =
      if isLayoutClockwiseI (faceLayout o) then (2 * faceFirst o + 5 - q) % 5 else q := by
  decide +kernel

theorem ring2_index_perm :
    (∀ i, i < 5 → 6 ≤ (i + Gen.RING2_QUAT_ADD) % Gen.RING2_QUAT_MOD + Gen.RING2_QUAT_BASE ∧
                  (i + Gen.RING2_QUAT_ADD) % Gen.RING2_QUAT_MOD + Gen.RING2_QUAT_BASE ≤ 10) ∧
    (∀ i, i < 5 → ∀ j, j < 5 →
        (i + Gen.RING2_QUAT_ADD) % Gen.RING2_QUAT_MOD + Gen.RING2_QUAT_BASE
          = (j + Gen.RING2_QUAT_ADD) % Gen.RING2_QUAT_MOD + Gen.RING2_QUAT_BASE → i = j) ∧
    (∀ k, 6 ≤ k → k ≤ 10 → ∃ i, i < 5 ∧
        (i + Gen.RING2_QUAT_ADD) % Gen.RING2_QUAT_MOD + Gen.RING2_QUAT_BASE = k) := by
  refine ⟨by decide, by decide, ?_⟩
  intro k h6 h10
  have : k = 6 ∨ k = 7 ∨ k = 8 ∨ k = 9 ∨ k = 10 := by omega
  rcases this with rfl | rfl | rfl | rfl | rfl <;> decide

theorem faceQuatIndex_perm :
    (∀ o, o < 12 → faceQuatIndex o < 12) ∧
    (∀ o, o < 12 → ∀ o', o' < 12 → faceQuatIndex o = faceQuatIndex o' → o = o') ∧
    (∀ k, k < 12 → ∃ o, o < 12 ∧ faceQuatIndex o = k) := by
  decide +kernel

theorem longitude_offset_93 :
    Gen.LONGITUDE_OFFSET.num = 93 ∧ Gen.LONGITUDE_OFFSET.exp = 0 ∧
    Gen.LONGITUDE_OFFSET.toRat = 93 ∧ Gen.LONGITUDE_OFFSET.Consistent := by
  decide +kernel

theorem longitude_offset_float : (fc Gen.LONGITUDE_OFFSET).toBits = (93.0 : Float).toBits := by
  decide +kernel

/-- `QUATERNIONS[i]` as exact rationals -/
def quatQ (i : Nat) : Rat × Rat × Rat × Rat := quatAtG FConst.toRat (0, 0, 0, 1) i

def normSqQ (q : Rat × Rat × Rat × Rat) : Rat :=
  q.1 * q.1 + q.2.1 * q.2.1 + q.2.2.1 * q.2.2.1 + q.2.2.2 * q.2.2.2

/-- centre of face `o`: the pole `(0,0,1)` rotated by the face's quaternion (`transform_quat`, over ℚ) -/
def centreQ (o : Nat) : Rat × Rat × Rat := transformQuatG (0, 0, 1) (quatQ (faceQuatIndex o))

def dotQ (a b : Rat × Rat × Rat) : Rat := a.1 * b.1 + a.2.1 * b.2.1 + a.2.2 * b.2.2

def nearQ (x y ε : Rat) : Prop := y - ε < x ∧ x < y + ε

instance (x y ε : Rat) : Decidable (nearQ x y ε) := by unfold nearQ; exact inferInstance

/-- which face is opposite which -/
def antipode : List Nat := [9, 8, 6, 11, 7, 10, 2, 4, 1, 0, 5, 3]

/-- faces `j ≠ i` whose centre is in the open hemisphere around centre `i` -/
def nearFaces (i : Nat) : List Nat :=
  (List.range 12).filter (fun j => j ≠ i ∧ 0 < dotQ (centreQ i) (centreQ j))

/-- all 48 quaternion components: the bit pattern and the dyadic `num * 2^exp` denote the same finite number -/
theorem quaternions_consistent : ∀ row ∈ Gen.QUATERNIONS, row.length = 4 ∧ ∀ c ∈ row, c.Consistent := by
  decide +kernel

end A5
