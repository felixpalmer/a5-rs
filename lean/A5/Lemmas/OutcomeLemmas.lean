import A5.Model.Hier
/-! How `>>=` and the sequential maps `mapOutcome` / `flatMapOutcome` (Rust's `?` inside a loop) pass on `ok`, the first
`err`, a panic, and the absence of one. -/
namespace A5

theorem Outcome.isPanic_ok {α} (v : α) : (Outcome.ok v).isPanic = false := rfl
theorem Outcome.isPanic_err {α} (e : ErrKind) : (Outcome.err e : Outcome α).isPanic = false := rfl

theorem Outcome.bind_noPanic {α β} (x : Outcome α) (f : α → Outcome β)
    (hx : x.isPanic = false) (hf : ∀ v, x = .ok v → (f v).isPanic = false) :
    (x >>= f).isPanic = false := by
  cases x with
  | ok v => exact hf v rfl
  | err e => rfl
  | panic k => cases hx

theorem Outcome.bind_eq_ok {α β} (x : Outcome α) (f : α → Outcome β) (b : β) (h : (x >>= f) = .ok b) :
    ∃ v, x = .ok v ∧ f v = .ok b := by
  cases x with
  | ok v => exact ⟨v, rfl, h⟩
  | err e => cases h
  | panic k => cases h

theorem Outcome.bind_eq_panic {α β : Type} {x : Outcome α} {f : α → Outcome β} {k : PanicKind}
    (h : (x >>= f) = .panic k) : x = .panic k ∨ ∃ a, x = .ok a ∧ f a = .panic k := by
  cases x with
  | ok a => exact Or.inr ⟨a, rfl, h⟩
  | err e => cases h
  | panic k' => cases h; exact Or.inl rfl

theorem mapOutcome_nil {α β} (f : α → Outcome β) : mapOutcome f [] = .ok [] := rfl
theorem mapOutcome_cons {α β} (f : α → Outcome β) (a : α) (as : List α) :
    mapOutcome f (a :: as) = (f a >>= fun b => mapOutcome f as >>= fun bs => .ok (b :: bs)) := rfl
theorem flatMapOutcome_nil {α β} (f : α → Outcome (List β)) : flatMapOutcome f [] = .ok [] := rfl
theorem flatMapOutcome_cons {α β} (f : α → Outcome (List β)) (a : α) (as : List α) :
    flatMapOutcome f (a :: as) = (f a >>= fun b => flatMapOutcome f as >>= fun bs => .ok (b ++ bs)) := rfl

theorem mapOutcome_ok {α β : Type} (f : α → Outcome β) (g : α → β) (l : List α)
    (h : ∀ a ∈ l, f a = .ok (g a)) : mapOutcome f l = .ok (l.map g) := by
  induction l with
  | nil => rfl
  | cons a l ih =>
    rewrite [mapOutcome_cons, h a (List.mem_cons_self ..), ih (fun b hb => h b (List.mem_cons_of_mem _ hb))]
    rfl

theorem flatMapOutcome_map_ok {α α' β : Type} (f : α → Outcome (List β)) (e : α' → α) (g : α' → List β)
    (l : List α') (h : ∀ a ∈ l, f (e a) = .ok (g a)) : flatMapOutcome f (l.map e) = .ok (l.flatMap g) := by
  induction l with
  | nil => rfl
  | cons a l ih =>
    rewrite [List.map_cons, flatMapOutcome_cons, h a (List.mem_cons_self ..),
      ih (fun b hb => h b (List.mem_cons_of_mem _ hb))]
    rfl

theorem flatMapOutcome_map_congr {α α' β : Type} (f : α → Outcome (List β)) (e : α' → α)
    (g : α' → Outcome (List β)) (l : List α') (h : ∀ a ∈ l, f (e a) = g a) :
    flatMapOutcome f (l.map e) = flatMapOutcome g l := by
  induction l with
  | nil => rfl
  | cons a l ih =>
    simp only [List.map_cons, flatMapOutcome]
    rewrite [h a (List.mem_cons_self ..), ih (fun b hb => h b (List.mem_cons_of_mem _ hb))]
    rfl

theorem flatMapOutcome_ok {α β : Type} (f : α → Outcome (List β)) (g : α → List β) (l : List α)
    (h : ∀ a ∈ l, f a = .ok (g a)) : flatMapOutcome f l = .ok (l.flatMap g) := by
  have := flatMapOutcome_map_ok f id g l h
  rewrite [List.map_id] at this
  exact this

theorem mapOutcome_err {α β : Type} (f : α → Outcome β) (e : ErrKind) (l : List α) (hne : l ≠ [])
    (h : ∀ a ∈ l, f a = .err e) : mapOutcome f l = .err e := by
  cases l with
  | nil => exact absurd rfl hne
  | cons a l => rewrite [mapOutcome_cons, h a (List.mem_cons_self ..)]; rfl

theorem flatMapOutcome_err {α β : Type} (f : α → Outcome (List β)) (e : ErrKind) (l : List α) (hne : l ≠ [])
    (h : ∀ a ∈ l, f a = .err e) : flatMapOutcome f l = .err e := by
  cases l with
  | nil => exact absurd rfl hne
  | cons a l => rewrite [flatMapOutcome_cons, h a (List.mem_cons_self ..)]; rfl

theorem flatMapOutcome_append {α β : Type} (f : α → Outcome (List β)) (l₁ l₂ : List α) (a b : List β)
    (h1 : flatMapOutcome f l₁ = .ok a) (h2 : flatMapOutcome f l₂ = .ok b) :
    flatMapOutcome f (l₁ ++ l₂) = .ok (a ++ b) := by
  induction l₁ generalizing a with
  | nil => cases Outcome.ok.inj h1; exact h2
  | cons x l ih =>
    rewrite [flatMapOutcome_cons] at h1
    obtain ⟨v, hv, h1⟩ := Outcome.bind_eq_ok _ _ _ h1
    obtain ⟨w, hw, h1⟩ := Outcome.bind_eq_ok _ _ _ h1
    cases Outcome.ok.inj h1
    rewrite [List.cons_append, flatMapOutcome_cons, hv, ih w hw, List.append_assoc]
    rfl

theorem mapOutcome_noPanic {α β} (f : α → Outcome β) (l : List α)
    (h : ∀ a ∈ l, (f a).isPanic = false) : (mapOutcome f l).isPanic = false := by
  induction l with
  | nil => rfl
  | cons a as ih =>
    refine Outcome.bind_noPanic _ _ (h a List.mem_cons_self) (fun b _ => ?_)
    exact Outcome.bind_noPanic _ _ (ih (fun x hx => h x (List.mem_cons_of_mem _ hx))) (fun bs _ => rfl)

theorem flatMapOutcome_noPanic {α β} (f : α → Outcome (List β)) (l : List α)
    (h : ∀ a ∈ l, (f a).isPanic = false) : (flatMapOutcome f l).isPanic = false := by
  induction l with
  | nil => rfl
  | cons a as ih =>
    refine Outcome.bind_noPanic _ _ (h a List.mem_cons_self) (fun b _ => ?_)
    exact Outcome.bind_noPanic _ _ (ih (fun x hx => h x (List.mem_cons_of_mem _ hx))) (fun bs _ => rfl)

theorem mapOutcome_eq_ok {α β} (f : α → Outcome β) : ∀ (l : List α) (ys : List β), mapOutcome f l = .ok ys →
    ys.length = l.length ∧ (∀ y ∈ ys, ∃ a ∈ l, f a = .ok y) ∧ ∀ a ∈ l, ∃ b, f a = .ok b := by
  intro l
  induction l with
  | nil => intro ys h; cases Outcome.ok.inj h; exact ⟨rfl, fun _ hy => (by cases hy), fun _ ha => (by cases ha)⟩
  | cons a as ih =>
    intro ys h
    obtain ⟨b, hb, h⟩ := Outcome.bind_eq_ok _ _ _ h
    obtain ⟨bs, hbs, h⟩ := Outcome.bind_eq_ok _ _ _ h
    cases Outcome.ok.inj h
    obtain ⟨h1, h2, h3⟩ := ih bs hbs
    refine ⟨congrArg (· + 1) h1, fun y hy => ?_, fun x hx => ?_⟩
    · rcases List.mem_cons.mp hy with rfl | hy
      · exact ⟨a, List.mem_cons_self, hb⟩
      · obtain ⟨a', ha', e⟩ := h2 y hy
        exact ⟨a', List.mem_cons_of_mem _ ha', e⟩
    · rcases List.mem_cons.mp hx with rfl | hx
      · exact ⟨b, hb⟩
      · exact h3 x hx

theorem mapOutcome_ok_length {α β} (f : α → Outcome β) (l : List α) (ys : List β)
    (h : mapOutcome f l = .ok ys) : ys.length = l.length := (mapOutcome_eq_ok f l ys h).1

theorem flatMapOutcome_eq_ok {α β} (f : α → Outcome (List β)) : ∀ (l : List α) (ys : List β),
    flatMapOutcome f l = .ok ys →
    (∀ y ∈ ys, ∃ a ∈ l, ∃ b, f a = .ok b ∧ y ∈ b) ∧ ∀ a ∈ l, ∃ b, f a = .ok b := by
  intro l
  induction l with
  | nil => intro ys h; cases Outcome.ok.inj h; exact ⟨fun _ hy => (by cases hy), fun _ ha => (by cases ha)⟩
  | cons a as ih =>
    intro ys h
    obtain ⟨b, hb, h⟩ := Outcome.bind_eq_ok _ _ _ h
    obtain ⟨bs, hbs, h⟩ := Outcome.bind_eq_ok _ _ _ h
    cases Outcome.ok.inj h
    obtain ⟨h2, h3⟩ := ih bs hbs
    refine ⟨fun y hy => ?_, fun x hx => ?_⟩
    · rcases List.mem_append.mp hy with hy | hy
      · exact ⟨a, List.mem_cons_self, b, hb, hy⟩
      · obtain ⟨a', ha', b', e, hy'⟩ := h2 y hy
        exact ⟨a', List.mem_cons_of_mem _ ha', b', e, hy'⟩
    · rcases List.mem_cons.mp hx with rfl | hx
      · exact ⟨b, hb⟩
      · exact h3 x hx

end A5
