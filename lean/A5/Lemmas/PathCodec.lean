import A5.Lemmas.Codec
import A5.Lemmas.Digits
/-! The codec on tree paths: `enc p` is what `serialize` produces for the record `toCell p`, `deserialize`
inverts it, and the canonical ids (`Layout`) are exactly the encodings of well-formed paths. -/
namespace A5
namespace Path

theorem res_toCell (p : Path) : (toCell p).res = res p := by
  cases p <;> rfl

theorem valid_toCell {p : Path} (hp : WF p) : (toCell p).Valid := by
  cases p with
  | world => exact Or.inl ⟨rfl, rfl, rfl, rfl⟩
  | face f => exact Or.inr (Or.inl ⟨rfl, hp, rfl, rfl⟩)
  | deep f k ds =>
    obtain ⟨hf, hk, hd, hl⟩ := hp
    cases ds with
    | nil =>
      exact Or.inr (Or.inr (Or.inl ⟨rfl, hf, Nat.mod_lt _ (by omega), rfl⟩))
    | cons d ds =>
      refine Or.inr (Or.inr (Or.inr ⟨?_, ?_, hf, Nat.mod_lt _ (by omega), ?_⟩))
      · show (2 : Int) ≤ 1 + ((d :: ds).length : Int)
        simp only [List.length_cons]; omega
      · show 1 + ((d :: ds).length : Int) ≤ 29
        omega
      · show value (d :: ds) < 4 ^ (1 + ((d :: ds).length : Int) - 1).toNat
        have e : (1 + ((d :: ds).length : Int) - 1).toNat = (d :: ds).length := by omega
        rewrite [e]
        exact value_lt _ hd

theorem rot_quint (f k : Nat) (hf : f < 12) (hk : k < 5) : rot f ((k + firstQuintant f) % 5) = 5 * f + k := by
  have := firstQuintant_lt f hf
  unfold rot; omega

theorem encNat_toCell {p : Path} (hp : WF p) : encNat (toCell p) = enc p := by
  cases p with
  | world => exact encNat_world
  | face f => exact encNat_res0 f 0 0
  | deep f k ds =>
    obtain ⟨hf, hk, hd, hl⟩ := hp
    cases ds with
    | nil =>
      show encNat ⟨f, (k + firstQuintant f) % 5, 0, 1⟩ = _
      rewrite [encNat_res1, rot_quint f k hf hk]
      simp only [enc, value_nil, List.length_nil, Nat.zero_mul, Nat.add_zero, if_true]
    | cons d ds =>
      have e : (1 + ((d :: ds).length : Int)) = ((1 + (d :: ds).length : Nat) : Int) := by omega
      show encNat ⟨f, (k + firstQuintant f) % 5, value (d :: ds), 1 + ((d :: ds).length : Int)⟩ = _
      rewrite [e, encNat_hilbert _ _ _ _ (by simp only [List.length_cons]; omega), rot_quint f k hf hk]
      simp only [enc]
      rewrite [if_neg (by simp only [List.length_cons]; omega)]
      have e1 : 60 - 2 * (1 + (d :: ds).length) = 58 - 2 * (d :: ds).length := by omega
      have e2 : 59 - 2 * (1 + (d :: ds).length) = 57 - 2 * (d :: ds).length := by omega
      rewrite [e1, e2]
      rfl

theorem serialize_toCell {p : Path} (hp : WF p) : serialize (toCell p) = .ok (enc p) := by
  rewrite [serialize_valid _ (valid_toCell hp), encNat_toCell hp]
  rfl

theorem deserialize_enc_path {p : Path} (hp : WF p) : deserialize (enc p) = .ok (toCell p) := by
  rewrite [← encNat_toCell hp]
  exact deserialize_enc _ (valid_toCell hp)

theorem getResolution_enc_path {p : Path} (hp : WF p) : getResolution (enc p) = res p := by
  rewrite [← encNat_toCell hp, getResolution_enc _ (valid_toCell hp)]
  exact res_toCell p

theorem toCell_injective {p q : Path} (hp : WF p) (hq : WF q) (h : toCell p = toCell q) : p = q := by
  -- the resolution field separates the three kinds of path
  cases p with
  | world => cases q <;> first | rfl | (simp only [toCell, Cell.mk.injEq] at h; omega)
  | face f => cases q <;> simp only [toCell, Cell.mk.injEq] at h <;> first | omega | (rewrite [h.1]; rfl)
  | deep f k ds =>
    cases q with
    | world => simp only [toCell, Cell.mk.injEq] at h; omega
    | face g => simp only [toCell, Cell.mk.injEq] at h; omega
    | deep g j es =>
      obtain ⟨hf, hk, hd, _⟩ := hp
      obtain ⟨_, hj, he, _⟩ := hq
      simp only [toCell, Cell.mk.injEq] at h
      obtain ⟨rfl, h2, h3, h4⟩ := h
      have hq := firstQuintant_lt f hf
      obtain rfl : k = j := by omega
      have hlen : ds.length = es.length := by omega
      rewrite [value_inj ds es hlen hd he h3]; rfl

theorem enc_injective {p q : Path} (hp : WF p) (hq : WF q) (h : enc p = enc q) : p = q := by
  refine toCell_injective hp hq (encNat_injective _ _ (valid_toCell hp) (valid_toCell hq) ?_)
  rewrite [encNat_toCell hp, encNat_toCell hq]
  exact h

theorem enc_lt {p : Path} (hp : WF p) : enc p < 2 ^ 64 := by
  rewrite [← encNat_toCell hp]
  exact encNat_lt _ (valid_toCell hp)

theorem layout_enc_path {p : Path} (hp : WF p) : Layout (enc p) := by
  rewrite [← encNat_toCell hp]
  exact layout_enc _ (valid_toCell hp)

theorem exists_path_of_layout (id : Nat) (h : Layout id) : ∃ p, WF p ∧ enc p = id := by
  rcases h with rfl | ⟨f, hf, rfl⟩ | ⟨t, ht, rfl⟩ | ⟨r, t, s, h2, h29, ht, hs, rfl⟩
  · exact ⟨world, trivial, rfl⟩
  · exact ⟨face f, hf, rfl⟩
  · refine ⟨deep (t / 5) (t % 5) [], ⟨by omega, Nat.mod_lt _ (by omega), by simp, by simp⟩, ?_⟩
    simp only [enc, value_nil, List.length_nil, Nat.zero_mul, Nat.add_zero, if_true]
    refine congrArg (· * 2 ^ 58 + 2 ^ 56) ?_
    omega
  · refine ⟨deep (t / 5) (t % 5) (digits (r - 1) s),
      ⟨by omega, Nat.mod_lt _ (by omega), digits_lt _ _ hs, by rewrite [length_digits]; omega⟩, ?_⟩
    simp only [enc]
    rewrite [length_digits, value_digits _ _ hs, if_neg (by omega)]
    have e1 : 58 - 2 * (r - 1) = 60 - 2 * r := by omega
    have e2 : 57 - 2 * (r - 1) = 59 - 2 * r := by omega
    have e3 : 5 * (t / 5) + t % 5 = t := by omega
    rewrite [e1, e2, e3]
    rfl

theorem layout_iff_path (id : Nat) : Layout id ↔ ∃ p, WF p ∧ enc p = id :=
  ⟨exists_path_of_layout id, fun ⟨_, hp, e⟩ => e ▸ layout_enc_path hp⟩

theorem existsUnique_path_of_layout (id : Nat) (h : Layout id) :
    ∃ p, (WF p ∧ enc p = id) ∧ ∀ q, WF q ∧ enc q = id → q = p := by
  obtain ⟨p, hp, e⟩ := exists_path_of_layout id h
  exact ⟨p, ⟨hp, e⟩, fun q hq => enc_injective hq.1 hp (hq.2.trans e.symm)⟩

end Path

theorem layout_res_neg (x : Nat) (hl : Layout x) (hr : getResolution x = -1) : x = 0 := by
  obtain ⟨p, hp, rfl⟩ := Path.exists_path_of_layout x hl
  rewrite [Path.getResolution_enc_path hp] at hr
  rewrite [Path.res_eq_neg_one hr]; rfl

end A5
