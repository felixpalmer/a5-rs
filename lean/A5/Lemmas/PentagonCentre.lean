import A5.Model.PentagonG
import A5.Lemmas.HilbertOrient
import Mathlib.Tactic.Ring
import Mathlib.Tactic.Linarith
import Mathlib.Tactic.NormNum
import Mathlib.Tactic.FieldSimp
import Mathlib.Algebra.CharZero.Defs
/-! # Placement of the cell pentagons: planar area and centre (exact arithmetic, runtime constants)

Every pentagon `get_pentagon_vertices` draws in the lattice frame of a quintant is the seed pentagon rotated by 180°,
mirrored (with the vertex order reversed) and translated.  Hence its signed trapezoid-sum area equals the seed's, for
every anchor (`pentagonQ_area`), and its centre is the placed centre of the seed (`centreQ_eq_place`).  With the runtime
constants the seed's area equals the area of one lattice triangle (half the determinant of `BASIS`) to 2^-50
(`seed_area_facts`): `4^n` pentagons have the area of the quintant triangle.

`A5.PG.centreIJ a` is `face_to_ij (get_center (pentagon of anchor a))` evaluated in exact rational arithmetic on
the constants the running library computes at start-up (`A5.Gen.Runtime`, regenerated and cross-checked on every
check run).  Main result `centreIJ_in_anchorTri`: for every anchor with a `±1` flip pair and `|offset| ≤ 2^31`,
the centre lies in the open lattice triangle `anchorTri a`.  No margin is part of that statement; inside the proof, the
eight centres before the translation are inside their triangles with slack `0.148` lattice units (`local_margin`), and
`BASIS_INVERSE * BASIS` is not exactly the identity for the rounded constants: the defect (`< 2^-50` per entry,
`defect_small`) times the offset moves the centre by less than `2^-18`, which is why the offsets need a bound at all. -/
namespace A5.PG
open A5 A5.HilbertLocate

/-! ### the placement, one primitive at a time

`pentagonLocalG` composes `rot180`, `reflectY` and `translate`; each of them has a one-line effect on the trapezoid sum
and on the vertex mean of a five-point list, and the facts about the placed pentagon follow by rewriting through the
`if`s of `pentagonLocalG`. -/
section placement
variable {K : Type} [Field K]

theorem eq_five {α : Type} {P : List α} (h : P.length = 5) : ∃ a b c d e, P = [a, b, c, d, e] :=
  match P, h with
  | [a, b, c, d, e], _ => ⟨a, b, c, d, e, rfl⟩

theorem length_rot180 (P : List (K × K)) : (rot180 P).length = P.length := List.length_map _
theorem length_reflectY (P : List (K × K)) : (reflectY P).length = P.length :=
  List.length_reverse.trans (List.length_map _)
theorem length_translate (P : List (K × K)) (t : K × K) : (translate P t).length = P.length := List.length_map _

theorem pentagonLocalG_length {α : Type} [Add α] [Mul α] [Neg α] (P : List (α × α)) (w : α × α) (b : α × α × α × α)
    (ofInt : Int → α) (a : Anchor) : (pentagonLocalG P w b ofInt a).length = P.length := by
  obtain ⟨b00, b01, b10, b11⟩ := b
  unfold pentagonLocalG
  simp only [translate, rot180, reflectY, List.length_map, List.length_reverse, apply_ite List.length, ite_self]

theorem areaG_five (p0 p1 p2 p3 p4 : K × K) :
    areaG 0 [p0, p1, p2, p3, p4] =
      (p1.1 - p0.1) * (p1.2 + p0.2) + (p2.1 - p1.1) * (p2.2 + p1.2) + (p3.1 - p2.1) * (p3.2 + p2.2)
        + (p4.1 - p3.1) * (p4.2 + p3.2) + (p0.1 - p4.1) * (p0.2 + p4.2) := by
  simp [areaG, areaG.go]

theorem area_rot180 (P : List (K × K)) (h : P.length = 5) : areaG 0 (rot180 P) = areaG 0 P := by
  obtain ⟨a, b, c, d, e, rfl⟩ := eq_five h
  simp only [rot180, List.map_cons, List.map_nil, areaG_five]; ring

theorem area_reflectY (P : List (K × K)) (h : P.length = 5) : areaG 0 (reflectY P) = areaG 0 P := by
  obtain ⟨a, b, c, d, e, rfl⟩ := eq_five h
  simp only [reflectY, List.map_cons, List.map_nil, List.reverse_cons, List.reverse_nil, List.nil_append,
    List.cons_append, areaG_five]; ring

theorem area_translate (P : List (K × K)) (t : K × K) (h : P.length = 5) : areaG 0 (translate P t) = areaG 0 P := by
  obtain ⟨a, b, c, d, e, rfl⟩ := eq_five h
  simp only [translate, List.map_cons, List.map_nil, areaG_five]; ring

theorem area_local (P : List (K × K)) (h : P.length = 5) (w : K × K) (b : K × K × K × K) (ofInt : Int → K) (a : Anchor) :
    areaG 0 (pentagonLocalG P w b ofInt a) = areaG 0 P := by
  -- each step of the placement keeps "five points with the area of `P`"
  have r : ∀ {p : List (K × K)}, p.length = 5 ∧ areaG 0 p = areaG 0 P →
      (rot180 p).length = 5 ∧ areaG 0 (rot180 p) = areaG 0 P :=
    fun hp => ⟨(length_rot180 _).trans hp.1, (area_rot180 _ hp.1).trans hp.2⟩
  have m : ∀ {p : List (K × K)}, p.length = 5 ∧ areaG 0 p = areaG 0 P →
      (reflectY p).length = 5 ∧ areaG 0 (reflectY p) = areaG 0 P :=
    fun hp => ⟨(length_reflectY _).trans hp.1, (area_reflectY _ hp.1).trans hp.2⟩
  have t : ∀ {p : List (K × K)} (v : K × K), p.length = 5 ∧ areaG 0 p = areaG 0 P →
      (translate p v).length = 5 ∧ areaG 0 (translate p v) = areaG 0 P :=
    fun v hp => ⟨(length_translate _ _).trans hp.1, (area_translate _ _ hp.1).trans hp.2⟩
  have i : ∀ (c : Bool) {p q : List (K × K)}, p.length = 5 ∧ areaG 0 p = areaG 0 P →
      q.length = 5 ∧ areaG 0 q = areaG 0 P →
      (if c then p else q).length = 5 ∧ areaG 0 (if c then p else q) = areaG 0 P :=
    fun c _ _ hp hq => by cases c <;> assumption
  obtain ⟨b00, b01, b10, b11⟩ := b
  have h1 := i (a.flips.1 == Gen.NO && a.flips.2 == Gen.YES) (r ⟨h, rfl⟩) ⟨h, rfl⟩
  have h2 := i (needsReflect a) (m h1) h1
  exact (t _ (i _ (r h2) (i _ (t _ h2) (i _ (t _ h2) h2)))).2

theorem area_scale (p0 p1 p2 p3 p4 : K × K) (s : K) :
    areaG 0 (scaleG' [p0, p1, p2, p3, p4] s) = s * s * areaG 0 [p0, p1, p2, p3, p4] := by
  simp only [scaleG', List.map_cons, List.map_nil, areaG_five]; ring

theorem centreG_five (a b c d e : K × K) : centreG 0 5 [a, b, c, d, e] =
    ((a.1 + b.1 + c.1 + d.1 + e.1) / 5, (a.2 + b.2 + c.2 + d.2 + e.2) / 5) := by
  show (0 + a.1 / 5 + b.1 / 5 + c.1 / 5 + d.1 / 5 + e.1 / 5, 0 + a.2 / 5 + b.2 / 5 + c.2 / 5 + d.2 / 5 + e.2 / 5) = _
  exact Prod.ext (by ring) (by ring)

theorem centre_rot180 (P : List (K × K)) (h : P.length = 5) :
    centreG 0 5 (rot180 P) = (-(centreG 0 5 P).1, -(centreG 0 5 P).2) := by
  obtain ⟨a, b, c, d, e, rfl⟩ := eq_five h
  simp only [rot180, List.map_cons, List.map_nil, centreG_five]
  exact Prod.ext (by ring) (by ring)

theorem centre_reflectY (P : List (K × K)) (h : P.length = 5) :
    centreG 0 5 (reflectY P) = ((centreG 0 5 P).1, -(centreG 0 5 P).2) := by
  obtain ⟨a, b, c, d, e, rfl⟩ := eq_five h
  simp only [reflectY, List.map_cons, List.map_nil, List.reverse_cons, List.reverse_nil, List.nil_append,
    List.cons_append, centreG_five]
  exact Prod.ext (by ring) (by ring)

variable [CharZero K]

theorem centre_translate (P : List (K × K)) (t : K × K) (h : P.length = 5) :
    centreG 0 5 (translate P t) = ((centreG 0 5 P).1 + t.1, (centreG 0 5 P).2 + t.2) := by
  obtain ⟨a, b, c, d, e, rfl⟩ := eq_five h
  simp only [translate, List.map_cons, List.map_nil, centreG_five]
  exact Prod.ext (by ring) (by ring)

/-- centre of the transformed seed pentagon before the translation by `BASIS * offset`: `m` the centre of the seed,
`r` whether the pentagon is reflected -/
def localC (F : Int × Int) (r : Bool) (m w : K × K) : K × K :=
  let c := if F = (1, -1) then (-m.1, -m.2) else m
  let c := if r then (c.1, -c.2) else c
  if F = (-1, -1) then (-c.1, -c.2)
  else if F.1 = -1 then (c.1 + -w.1, c.2 + -w.2)
  else if F.2 = -1 then (c.1 + w.1, c.2 + w.2)
  else c

/-- the translation `BASIS * offset` -/
def offsetT (b : K × K × K × K) (oi oj : Int) : K × K :=
  (b.1 * (oi : K) + b.2.1 * (oj : K), b.2.2.1 * (oi : K) + b.2.2.2 * (oj : K))

/-- what the placement does to a single point -/
def placeG (F : Int × Int) (r : Bool) (w t x : K × K) : K × K :=
  ((localC F r x w).1 + t.1, (localC F r x w).2 + t.2)

theorem centre_place (P : List (K × K)) (h : P.length = 5) (w : K × K) (b : K × K × K × K) (a : Anchor)
    (hF : IsFlip a.flips) :
    centreG 0 5 (pentagonLocalG P w b (fun z => (z : K)) a) =
      placeG a.flips (needsReflect a) w (offsetT b a.offset.1 a.offset.2) (centreG 0 5 P) := by
  obtain ⟨b00, b01, b10, b11⟩ := b
  obtain ⟨k, ⟨oi, oj⟩, F⟩ := a
  generalize hr : needsReflect ⟨k, (oi, oj), F⟩ = r
  unfold pentagonLocalG
  rewrite [hr]
  rcases hF with rfl | rfl | rfl | rfl <;> cases r <;>
    simp [centre_translate, centre_rot180, centre_reflectY, length_translate, length_rot180, length_reflectY, h,
      placeG, offsetT, localC, NO_eq_one, yes_eq]

end placement

theorem seedQ_eq : seedQ = [ratPair Gen.Runtime.A, ratPair Gen.Runtime.B, ratPair Gen.Runtime.C,
    ratPair Gen.Runtime.D, ratPair Gen.Runtime.E] := rfl

/-- centre of the seed pentagon (exact) -/
def mQ : Rat × Rat :=
  (((ratPair Gen.Runtime.A).1 + (ratPair Gen.Runtime.B).1 + (ratPair Gen.Runtime.C).1 + (ratPair Gen.Runtime.D).1
      + (ratPair Gen.Runtime.E).1) / 5,
   ((ratPair Gen.Runtime.A).2 + (ratPair Gen.Runtime.B).2 + (ratPair Gen.Runtime.C).2 + (ratPair Gen.Runtime.D).2
      + (ratPair Gen.Runtime.E).2) / 5)

theorem centre_seedQ : centreG 0 5 seedQ = mQ := centreG_five _ _ _ _ _

theorem centreQ_eq_place (a : Anchor) (hF : IsFlip a.flips) :
    centreQ a = placeG a.flips (needsReflect a) wQ (offsetT basisQ a.offset.1 a.offset.2) (centreG 0 5 seedQ) :=
  centre_place seedQ rfl wQ basisQ a hF

/-- **All cells of a quintant have the same planar area** (exact arithmetic, runtime constants): the pentagon of every
anchor has the signed area of the seed pentagon. -/
theorem pentagonQ_area (a : Anchor) : areaG 0 (pentagonQ a) = areaG 0 seedQ :=
  area_local seedQ rfl wQ basisQ _ a

/-- twice the area of one lattice triangle: the determinant of `BASIS` -/
def basisDet : Rat := basisQ.1 * basisQ.2.2.2 - basisQ.2.1 * basisQ.2.2.1

/-- the seed pentagon is wound as the code expects (non-negative trapezoid sum), its area is positive, and it equals
the area of one lattice triangle to 2^-50 (kernel-evaluated on the exact runtime constants; `areaG` is twice the
negated signed area, `basisDet` twice the signed area of the lattice triangle `(0, v, w)`) -/
theorem seed_area_facts :
    0 < areaG 0 seedQ ∧ -(1 / 2 ^ 50 : Rat) < areaG 0 seedQ + basisDet ∧ areaG 0 seedQ + basisDet < 1 / 2 ^ 50 := by
  decide +kernel

/-- the local centre in lattice coordinates -/
def localIJ (F : Int × Int) (r : Bool) : Rat × Rat := faceToIjG basisInvQ (localC F r mQ wQ)

/-- the defect of `BASIS_INVERSE * BASIS` from the identity, entry by entry -/
def defect : Rat × Rat × Rat × Rat :=
  (basisInvQ.1 * basisQ.1 + basisInvQ.2.1 * basisQ.2.2.1 - 1,
   basisInvQ.1 * basisQ.2.1 + basisInvQ.2.1 * basisQ.2.2.2,
   basisInvQ.2.2.1 * basisQ.1 + basisInvQ.2.2.2 * basisQ.2.2.1,
   basisInvQ.2.2.1 * basisQ.2.1 + basisInvQ.2.2.2 * basisQ.2.2.2 - 1)

theorem defect_small :
    -(1 / 2 ^ 50 : Rat) ≤ defect.1 ∧ defect.1 ≤ 1 / 2 ^ 50 ∧
    -(1 / 2 ^ 50 : Rat) ≤ defect.2.1 ∧ defect.2.1 ≤ 1 / 2 ^ 50 ∧
    -(1 / 2 ^ 50 : Rat) ≤ defect.2.2.1 ∧ defect.2.2.1 ≤ 1 / 2 ^ 50 ∧
    -(1 / 2 ^ 50 : Rat) ≤ defect.2.2.2 ∧ defect.2.2.2 ≤ 1 / 2 ^ 50 := by decide +kernel

/-- `InT F u v` with each of its inequalities holding with slack `μ` -/
def InTm (μ : Rat) (F : Int × Int) (u v : Rat) : Prop :=
  if F = (1, 1) then μ < u ∧ μ < v ∧ u + v < 1 - μ
  else if F = (1, -1) then -1 + μ < u ∧ u < -μ ∧ μ < v ∧ v < 1 - μ ∧ μ < u + v
  else if F = (-1, 1) then μ < u ∧ u < 1 - μ ∧ -1 + μ < v ∧ v < -μ ∧ u + v < -μ
  else if F = (-1, -1) then -1 + μ < u ∧ u < -μ ∧ -1 + μ < v ∧ v < -μ ∧ -1 + μ < u + v
  else False

instance (μ : Rat) (F : Int × Int) (u v : Rat) : Decidable (InTm μ F u v) := by
  unfold InTm; infer_instance

/-- the eight local centres sit inside their reference triangles with slack `0.148` (lattice units; the measured value
is 0.148655) -/
theorem local_margin : ∀ r : Bool,
    InTm (148 / 1000) (1, 1) (localIJ (1, 1) r).1 (localIJ (1, 1) r).2 ∧
    InTm (148 / 1000) (1, -1) (localIJ (1, -1) r).1 (localIJ (1, -1) r).2 ∧
    InTm (148 / 1000) (-1, 1) (localIJ (-1, 1) r).1 (localIJ (-1, 1) r).2 ∧
    InTm (148 / 1000) (-1, -1) (localIJ (-1, -1) r).1 (localIJ (-1, -1) r).2 := by decide +kernel

theorem InTm.inT {μ : Rat} {F : Int × Int} {u v du dv : Rat} (hF : IsFlip F) (h : InTm μ F u v)
    (hu : |du| < μ / 2) (hv : |dv| < μ / 2) : InT F (u + du) (v + dv) := by
  rewrite [abs_lt] at hu hv
  rcases hF with rfl | rfl | rfl | rfl
  · obtain ⟨a, b, c⟩ := h; exact (inT_pp _ _).2 ⟨by linarith, by linarith, by linarith⟩
  · obtain ⟨a, b, c, d, e⟩ := h; exact (inT_pm _ _).2 ⟨by linarith, by linarith, by linarith, by linarith, by linarith⟩
  · obtain ⟨a, b, c, d, e⟩ := h; exact (inT_mp _ _).2 ⟨by linarith, by linarith, by linarith, by linarith, by linarith⟩
  · obtain ⟨a, b, c, d, e⟩ := h; exact (inT_mm _ _).2 ⟨by linarith, by linarith, by linarith, by linarith, by linarith⟩

theorem centreIJ_eq (a : Anchor) (hF : IsFlip a.flips) :
    centreIJ a =
      ((a.offset.1 : Rat) + ((localIJ a.flips (needsReflect a)).1 + (defect.1 * (a.offset.1 : Rat) + defect.2.1 * (a.offset.2 : Rat))),
       (a.offset.2 : Rat) + ((localIJ a.flips (needsReflect a)).2 + (defect.2.2.1 * (a.offset.1 : Rat) + defect.2.2.2 * (a.offset.2 : Rat)))) := by
  unfold centreIJ
  rewrite [centreQ_eq_place a hF, centre_seedQ]
  unfold placeG offsetT localIJ
  generalize localC a.flips (needsReflect a) mQ wQ = lc
  unfold faceToIjG defect
  generalize basisInvQ = bi
  generalize basisQ = b
  obtain ⟨i0, i1, i2, i3⟩ := bi
  obtain ⟨b0, b1, b2, b3⟩ := b
  obtain ⟨lx, ly⟩ := lc
  simp only [Prod.mk.injEq]
  constructor <;> ring

/-- **Main lemma.**  The exact centre of the pentagon of an anchor lies strictly inside the anchor's lattice triangle. -/
theorem centreIJ_in_anchorTri (a : Anchor) (hF : IsFlip a.flips)
    (h1 : -(2 : Int) ^ 31 ≤ a.offset.1 ∧ a.offset.1 ≤ 2 ^ 31) (h2 : -(2 : Int) ^ 31 ≤ a.offset.2 ∧ a.offset.2 ≤ 2 ^ 31) :
    anchorTri a (centreIJ a).1 (centreIJ a).2 := by
  rewrite [centreIJ_eq a hF]
  unfold anchorTri
  simp only [add_sub_cancel_left]
  have hm := local_margin (needsReflect a)
  have hmF : InTm (148 / 1000) a.flips (localIJ a.flips (needsReflect a)).1 (localIJ a.flips (needsReflect a)).2 := by
    rcases hF with e | e | e | e <;> rewrite [e]
    exacts [hm.1, hm.2.1, hm.2.2.1, hm.2.2.2]
  obtain ⟨d1, d2, d3, d4, d5, d6, d7, d8⟩ := defect_small
  have o1 : |(a.offset.1 : Rat)| ≤ 2 ^ 31 := abs_le.2 ⟨by exact_mod_cast h1.1, by exact_mod_cast h1.2⟩
  have o2 : |(a.offset.2 : Rat)| ≤ 2 ^ 31 := abs_le.2 ⟨by exact_mod_cast h2.1, by exact_mod_cast h2.2⟩
  -- a defect entry times an offset is at most `2⁻⁵⁰ · 2³¹ = 2⁻¹⁹`
  have key : ∀ {e o : Rat}, -(1 / 2 ^ 50) ≤ e → e ≤ 1 / 2 ^ 50 → |o| ≤ 2 ^ 31 → |e * o| ≤ 1 / 2 ^ 19 :=
    fun he he' ho => (abs_mul _ _).le.trans
      ((mul_le_mul (abs_le.2 ⟨he, he'⟩) ho (abs_nonneg _) (by norm_num)).trans (by norm_num))
  exact hmF.inT hF ((abs_add_le _ _).trans_lt (by linarith only [key d1 d2 o1, key d3 d4 o2]))
    ((abs_add_le _ _).trans_lt (by linarith only [key d5 d6 o1, key d7 d8 o2]))

end A5.PG
