import A5.Lemmas.PentagonCentre
import A5.Model.DistanceG
/-! # Winding, convexity and "centre strictly inside" for the cell pentagons (exact arithmetic)

`PentagonShape::contains_point` (`geometry/pentagon.rs`, model `polyContains`) decides "inside" by the signs of the
edge cross products `(v_i - v_{i+1}) × (p - v_i)`.  This file states that loop over an arbitrary scalar type without the
`sqrt` normalisation (`crossG`, `crossesG`, `StrictlyInside`), ties it to the `Float` model, and proves in exact
rational arithmetic on the runtime constants, for EVERY anchor with a `±1` flip pair (any `k`, any integer offset):

* (i)   `pentagonQ_winding`: the trapezoid sum is the seed's and positive - `is_winding_correct` holds,
* (ii)  `pentagonQ_convex`: for each edge the other three vertices are strictly on the inner side (margin `> 0.09`),
        hence all ten vertex triples `i < j < k` have the same strict orientation (`triples_of_convexBy`),
* (iii) `centreQ_strictlyInside`: `get_center` is strictly inside (`contains_point` cross products all `> 0.096`).

Technique: cross products only involve differences, so the translation by `BASIS * offset` cancels exactly; rotation by
180° leaves them unchanged; the mirror image with reversed vertex order permutes them.  The algebra is done for five
abstract points over a field, the finitely many closed facts about the seed are kernel-evaluated.

What is NOT proved here: (a) the converse of `polyContains_tie` (a negative `Float` cross product makes the result
negative) - it needs IEEE reasoning about `fmin`, `/`, `sqrt` and NaN; (b) any transfer of (i)-(iii) from exact
arithmetic to the `Float` run: the statements are about `pentagonQ`/`centreQ` (exact arithmetic on the very constants
the library computes), not about rounded `f64` evaluation, where the translation by `BASIS * offset` no longer
cancels exactly (relative error ≈ 2^-52 · |offset| against margins ≈ 0.09).  Scaling, the quintant matrix, the final
`PentagonShape::new` and the quintant triangle are in `PlacedPentagon.lean`. -/
namespace A5.PG
open A5 A5.HilbertLocate

section defs
variable {α : Type}

/-- the cross product `contains_point` computes for the edge `v1 → v2` and the point `p`:
`dx * py - dy * px` with `dx = v1.x - v2.x`, `dy = v1.y - v2.y`, `px = p.x - v1.x`, `py = p.y - v1.y` -/
def crossG [Sub α] [Mul α] (v1 v2 p : α × α) : α :=
  (v1.1 - v2.1) * (p.2 - v1.2) - (v1.2 - v2.2) * (p.1 - v1.1)

/-- generic twin of the loop of `polyContains` without the `sqrt` normalisation: the cross products of the edges
`(v_i, v_{(i+1) % n})`, `i = 0 … n-1`, with the point `p`, in loop order -/
def crossesG [Sub α] [Mul α] (zero : α) (vs : List (α × α)) (p : α × α) : List α :=
  (List.range vs.length).map fun i =>
    crossG (vs.getD i (zero, zero)) (vs.getD ((i + 1) % vs.length) (zero, zero)) p

/-- every cross product `contains_point` computes for `p` exceeds `μ` -/
def InsideBy [Sub α] [Mul α] [LT α] (zero μ : α) (vs : List (α × α)) (p : α × α) : Prop :=
  ∀ c ∈ crossesG zero vs p, μ < c

/-- `p` is strictly on the inner side of every edge (`contains_point` never enters its `cross < 0` branch, and no
cross product is zero either) -/
def StrictlyInside [Sub α] [Mul α] [LT α] (zero : α) (vs : List (α × α)) (p : α × α) : Prop :=
  InsideBy zero zero vs p

/-- for each edge `(v_i, v_{i+1})` the cross products with the vertices other than its two end points -/
def edgeCrossesG [Sub α] [Mul α] (zero : α) (vs : List (α × α)) : List α :=
  (List.range vs.length).flatMap fun i =>
    ((List.range vs.length).filter fun j => j != i && j != (i + 1) % vs.length).map fun j =>
      crossG (vs.getD i (zero, zero)) (vs.getD ((i + 1) % vs.length) (zero, zero)) (vs.getD j (zero, zero))

/-- strictly convex and wound the way `contains_point` expects, with margin `μ` -/
def ConvexBy [Sub α] [Mul α] [LT α] (zero μ : α) (vs : List (α × α)) : Prop :=
  ∀ c ∈ edgeCrossesG zero vs, μ < c

def StrictlyConvex [Sub α] [Mul α] [LT α] (zero : α) (vs : List (α × α)) : Prop := ConvexBy zero zero vs

/-- generic twin of `windingCorrect` (`is_winding_correct`) -/
def WindingCorrectG [Add α] [Sub α] [Mul α] [LE α] (zero : α) (vs : List (α × α)) : Prop := zero ≤ areaG zero vs

/-- generic twin of `PentagonShape::new`: reverse the vertex order when the winding test fails -/
def polyNewG [Add α] [Sub α] [Mul α] [LE α] [DecidableLE α] (zero : α) (vs : List (α × α)) : List (α × α) :=
  if zero ≤ areaG zero vs then vs else vs.reverse

/-- a 2×2 matrix `(m00, m01, m10, m11)` applied to a point, as in `transformPoly` (the same function as `faceToIjG`) -/
def applyG [Add α] [Mul α] (m : α × α × α × α) (v : α × α) : α × α :=
  (m.1 * v.1 + m.2.1 * v.2, m.2.2.1 * v.1 + m.2.2.2 * v.2)

/-- generic twin of the vertex map of `transformPoly` (`PentagonShape::transform`, before its `polyNew`) -/
def transformG [Add α] [Mul α] (m : α × α × α × α) (vs : List (α × α)) : List (α × α) := vs.map (applyG m)

def detG [Sub α] [Mul α] (m : α × α × α × α) : α := m.1 * m.2.2.2 - m.2.1 * m.2.2.1

end defs

section idx
variable {α : Type} [Sub α] [Mul α] [LT α]

theorem insideBy_iff (zero μ : α) (vs : List (α × α)) (p : α × α) :
    InsideBy zero μ vs p ↔ ∀ i, i < vs.length →
      μ < crossG (vs.getD i (zero, zero)) (vs.getD ((i + 1) % vs.length) (zero, zero)) p := by
  unfold InsideBy crossesG
  simp only [List.mem_map, List.mem_range]
  constructor
  · intro h i hi; exact h _ ⟨i, hi, rfl⟩
  · rintro h c ⟨i, hi, rfl⟩; exact h i hi

theorem convexBy_iff (zero μ : α) (vs : List (α × α)) :
    ConvexBy zero μ vs ↔ ∀ i j, i < vs.length → j < vs.length → j ≠ i → j ≠ (i + 1) % vs.length →
      μ < crossG (vs.getD i (zero, zero)) (vs.getD ((i + 1) % vs.length) (zero, zero)) (vs.getD j (zero, zero)) := by
  unfold ConvexBy edgeCrossesG
  simp only [List.mem_flatMap, List.mem_map, List.mem_filter, List.mem_range, Bool.and_eq_true, bne_iff_ne]
  constructor
  · intro h i j hi hj h1 h2; exact h _ ⟨i, hi, j, ⟨hj, h1, h2⟩, rfl⟩
  · rintro h c ⟨i, hi, j, ⟨hj, h1, h2⟩, rfl⟩; exact h i j hi hj h1 h2
end idx

/-! ### tie to the `Float` model (structure of the loop only, no float arithmetic) -/

/-- the cross products of this file are those of `Model/DistanceG.lean` (there a map over the list of edges) -/
theorem crossesG_eq_DG {α : Type} [Sub α] [Mul α] (z : α) (vs : List (α × α)) (p : α × α) :
    crossesG z vs p = DG.crossesG z vs p := by
  unfold crossesG DG.crossesG DG.edgesG
  rewrite [List.map_map]
  rfl

/-- **tie**: when the polygon is wound correctly and none of the `Float` cross products is negative, the `Float`
model's `contains_point` returns exactly `1.0` (its "inside" value; the `sqrt` normalisation is never reached) -/
theorem polyContains_tie (vs : Poly) (p : V2) (hw : windingCorrect vs = true)
    (h : ∀ c ∈ crossesG (0.0 : Float) (vs.map toPair) (toPair p), ¬ c < 0.0) :
    polyContains vs p = .ok 1.0 := by
  rewrite [crossesG_eq_DG] at h
  exact DG.polyContains_eq_one_of_no_violation vs p hw
    ((DG.polyViolated_eq vs p).trans ((DG.violatedG_eq_false_iff _ _ _).2 h))

theorem polyContains_panic_iff (vs : Poly) (p : V2) :
    polyContains vs p = .panic .notCCW ↔ windingCorrect vs = false := by
  unfold polyContains
  cases windingCorrect vs <;> simp

/-- **tie**: `PentagonShape::new` -/
theorem polyNew_tie (vs : Poly) : (polyNew vs).map toPair = polyNewG (0.0 : Float) (vs.map toPair) := by
  unfold polyNew polyNewG windingCorrect
  rewrite [polyArea_tie]
  by_cases h : (0.0 : Float) ≤ areaG (0.0 : Float) (vs.map toPair)
  · rewrite [if_pos h, if_pos (decide_eq_true h)]; rfl
  · rewrite [if_neg h, if_neg (by simpa using h)]; exact List.map_reverse

section algebra
variable {K : Type} [Field K]

theorem crossesG_five (p0 p1 p2 p3 p4 q : K × K) :
    crossesG 0 [p0, p1, p2, p3, p4] q =
      [crossG p0 p1 q, crossG p1 p2 q, crossG p2 p3 q, crossG p3 p4 q, crossG p4 p0 q] := by
  simp [crossesG, List.range_succ]

theorem edgeCrossesG_five (p0 p1 p2 p3 p4 : K × K) :
    edgeCrossesG 0 [p0, p1, p2, p3, p4] =
      [crossG p0 p1 p2, crossG p0 p1 p3, crossG p0 p1 p4,
       crossG p1 p2 p0, crossG p1 p2 p3, crossG p1 p2 p4,
       crossG p2 p3 p0, crossG p2 p3 p1, crossG p2 p3 p4,
       crossG p3 p4 p0, crossG p3 p4 p1, crossG p3 p4 p2,
       crossG p4 p0 p1, crossG p4 p0 p2, crossG p4 p0 p3] := by
  simp [edgeCrossesG, List.range_succ, List.filter_cons]

theorem pentagon_place (p0 p1 p2 p3 p4 w : K × K) (b : K × K × K × K) (k : Nat) (oi oj : Int) (F : Int × Int)
    (hF : IsFlip F) :
    pentagonLocalG [p0, p1, p2, p3, p4] w b (fun z => (z : K)) ⟨k, (oi, oj), F⟩ =
      if needsReflect ⟨k, (oi, oj), F⟩ then
        [placeG F true w (offsetT b oi oj) p4, placeG F true w (offsetT b oi oj) p3, placeG F true w (offsetT b oi oj) p2,
         placeG F true w (offsetT b oi oj) p1, placeG F true w (offsetT b oi oj) p0]
      else
        [placeG F false w (offsetT b oi oj) p0, placeG F false w (offsetT b oi oj) p1, placeG F false w (offsetT b oi oj) p2,
         placeG F false w (offsetT b oi oj) p3, placeG F false w (offsetT b oi oj) p4] := by
  obtain ⟨b00, b01, b10, b11⟩ := b
  unfold pentagonLocalG
  rcases hF with rfl | rfl | rfl | rfl <;> cases needsReflect _ <;> rfl

theorem crossG_translate (a b : K) (x y z : K × K) :
    crossG (x.1 + a, x.2 + b) (y.1 + a, y.2 + b) (z.1 + a, z.2 + b) = crossG x y z := by
  simp only [crossG]; ring
theorem crossG_rot180 (x y z : K × K) : crossG (-x.1, -x.2) (-y.1, -y.2) (-z.1, -z.2) = crossG x y z := by
  simp only [crossG]; ring
theorem crossG_reflectY (x y z : K × K) : crossG (x.1, -x.2) (y.1, -y.2) (z.1, -z.2) = crossG y x z := by
  simp only [crossG]; ring
theorem crossG_ite (c : Prop) [Decidable c] (x y z x' y' z' : K × K) :
    crossG (if c then x else x') (if c then y else y') (if c then z else z') =
      if c then crossG x y z else crossG x' y' z' := by split <;> rfl

/-- every stage of `localC` is one of the three primitives under an `if` on `F` or `r` alone -/
theorem cross_place (F : Int × Int) (r : Bool) (w t x y z : K × K) :
    crossG (placeG F r w t x) (placeG F r w t y) (placeG F r w t z) = if r then crossG y x z else crossG x y z := by
  simp only [placeG, localC, crossG_ite, crossG_translate, crossG_rot180, crossG_reflectY, ite_self]

theorem crossG_rot (x y z : K × K) : crossG y z x = crossG x y z := by simp [crossG]; ring
theorem crossG_swap (x y z : K × K) : crossG y x z = -crossG x y z := by simp [crossG]; ring

variable [LT K]

/- The next two: the cross products of the placed pentagon are those of the five points, in another order when
mirrored (`pentagon_place`, `cross_place`), so a bound on all of them carries over. -/

theorem insideBy_local {μ : K} (P : List (K × K)) (hP : P.length = 5) (w x : K × K) (b : K × K × K × K) (a : Anchor)
    (hF : IsFlip a.flips) (h : InsideBy 0 μ P x) :
    InsideBy 0 μ (pentagonLocalG P w b (fun z => (z : K)) a)
      (placeG a.flips (needsReflect a) w (offsetT b a.offset.1 a.offset.2) x) := by
  obtain ⟨p0, p1, p2, p3, p4, rfl⟩ := eq_five hP
  obtain ⟨k, ⟨oi, oj⟩, F⟩ := a
  unfold InsideBy at h ⊢
  rewrite [pentagon_place _ _ _ _ _ _ _ _ _ _ _ hF]
  rewrite [crossesG_five] at h
  cases needsReflect ⟨k, (oi, oj), F⟩ <;>
    simp only [Bool.false_eq_true, if_false, if_true, crossesG_five, cross_place, List.forall_mem_cons] at h ⊢ <;>
    tauto

theorem convexBy_local {μ : K} (P : List (K × K)) (hP : P.length = 5) (w : K × K) (b : K × K × K × K) (a : Anchor)
    (hF : IsFlip a.flips) (h : ConvexBy 0 μ P) : ConvexBy 0 μ (pentagonLocalG P w b (fun z => (z : K)) a) := by
  obtain ⟨p0, p1, p2, p3, p4, rfl⟩ := eq_five hP
  obtain ⟨k, ⟨oi, oj⟩, F⟩ := a
  unfold ConvexBy at h ⊢
  rewrite [pentagon_place _ _ _ _ _ _ _ _ _ _ _ hF]
  rewrite [edgeCrossesG_five] at h
  cases needsReflect ⟨k, (oi, oj), F⟩ <;>
    simp only [Bool.false_eq_true, if_false, if_true, edgeCrossesG_five, cross_place, List.forall_mem_cons] at h ⊢ <;>
    tauto

/-- in a convex pentagon all ten vertex triples `i < j < k` have the orientation of the edges: each of them contains an
edge, `(i, i+1)`, `(j, j+1)` or `(4, 0)`, and `crossG` is invariant under cyclic shifts -/
theorem triples_of_convexBy {μ : K} {vs : List (K × K)} (h5 : vs.length = 5) (h : ConvexBy 0 μ vs) (i j k : Nat)
    (hij : i < j) (hjk : j < k) (hk : k < 5) :
    μ < crossG (vs.getD i (0, 0)) (vs.getD j (0, 0)) (vs.getD k (0, 0)) := by
  have h := (convexBy_iff 0 μ vs).1 h
  rewrite [h5] at h
  by_cases e1 : j = i + 1
  · have := h i k (by omega) hk (by omega) (by omega)
    rwa [show (i + 1) % 5 = j by omega] at this
  by_cases e2 : k = j + 1
  · have := h j i (by omega) (by omega) (by omega) (by omega)
    rwa [show (j + 1) % 5 = k by omega, crossG_rot] at this
  · obtain ⟨rfl, rfl, rfl⟩ : i = 0 ∧ j = 2 ∧ k = 4 := by omega
    have := h 4 2 (by omega) (by omega) (by omega) (by omega)
    rwa [crossG_rot, crossG_rot] at this

end algebra

/-- the closed facts about the seed pentagon (kernel-evaluated on the exact runtime constants): its centre is strictly
inside with every `contains_point` cross product above `0.096` (measured minimum 0.09628); for each edge the three other
vertices are on the inner side by more than `0.09` (measured minimum 0.09099) -/
theorem seed_cross_facts :
    InsideBy 0 (96 / 1000) seedQ (centreG 0 5 seedQ) ∧ ConvexBy 0 (9 / 100) seedQ := by
  unfold InsideBy ConvexBy
  decide +kernel

/-- **(i) winding.**  For every anchor the trapezoid sum of the pentagon equals the seed's and is positive:
`is_winding_correct` holds, so `PentagonShape::new` keeps the vertex order and `contains_point` cannot panic. -/
theorem pentagonQ_winding (a : Anchor) :
    areaG 0 (pentagonQ a) = areaG 0 seedQ ∧ 0 < areaG 0 (pentagonQ a) ∧ WindingCorrectG 0 (pentagonQ a) ∧
      polyNewG 0 (pentagonQ a) = pentagonQ a := by
  have h := pentagonQ_area a
  have hp : 0 < areaG 0 (pentagonQ a) := by rewrite [h]; exact seed_area_facts.1
  have hw : (0 : Rat) ≤ areaG 0 (pentagonQ a) := Rat.le_of_lt hp
  exact ⟨h, hp, hw, if_pos hw⟩

/-- **(iii) with margin.**  Every cross product `contains_point` computes for the pentagon of an anchor and its own
centre exceeds `0.096` (lattice-frame units squared; the pentagon's edges have length ≈ 0.42). -/
theorem centreQ_insideBy (a : Anchor) (hF : IsFlip a.flips) :
    InsideBy 0 (96 / 1000) (pentagonQ a) (centreQ a) := by
  rewrite [centreQ_eq_place a hF]
  exact insideBy_local seedQ rfl wQ _ basisQ a hF seed_cross_facts.1

theorem InsideBy.strictly {μ : Rat} (hμ : 0 ≤ μ) {vs : List (Rat × Rat)} {p : Rat × Rat} (h : InsideBy 0 μ vs p) :
    StrictlyInside 0 vs p := fun c hc => lt_of_le_of_lt hμ (h c hc)

theorem ConvexBy.strictly {μ : Rat} (hμ : 0 ≤ μ) {vs : List (Rat × Rat)} (h : ConvexBy 0 μ vs) :
    StrictlyConvex 0 vs := fun c hc => lt_of_le_of_lt hμ (h c hc)

/-- **(iii)** the planar form of "the cell's reported centre lies inside its boundary": the centre of the pentagon of
every anchor is strictly on the inner side of each of its five edges. -/
theorem centreQ_strictlyInside (a : Anchor) (hF : IsFlip a.flips) : StrictlyInside 0 (pentagonQ a) (centreQ a) :=
  (centreQ_insideBy a hF).strictly (by decide +kernel)

theorem pentagonQ_convexBy (a : Anchor) (hF : IsFlip a.flips) : ConvexBy 0 (9 / 100) (pentagonQ a) :=
  convexBy_local seedQ rfl wQ basisQ a hF seed_cross_facts.2

/-- **(ii)** every pentagon is strictly convex and wound the way `contains_point` expects -/
theorem pentagonQ_convex (a : Anchor) (hF : IsFlip a.flips) : StrictlyConvex 0 (pentagonQ a) :=
  (pentagonQ_convexBy a hF).strictly (by decide +kernel)

theorem pentagonQ_length (a : Anchor) : (pentagonQ a).length = 5 :=
  pentagonLocalG_length seedQ wQ basisQ _ a

/-- (ii) and (iii) in index form -/
theorem pentagonQ_index_form (a : Anchor) (hF : IsFlip a.flips) :
    (∀ i, i < (pentagonQ a).length →
      (96 / 1000 : Rat) < crossG ((pentagonQ a).getD i (0, 0)) ((pentagonQ a).getD ((i + 1) % (pentagonQ a).length) (0, 0))
        (centreQ a)) ∧
    (∀ i j, i < (pentagonQ a).length → j < (pentagonQ a).length → j ≠ i → j ≠ (i + 1) % (pentagonQ a).length →
      (9 / 100 : Rat) < crossG ((pentagonQ a).getD i (0, 0)) ((pentagonQ a).getD ((i + 1) % (pentagonQ a).length) (0, 0))
        ((pentagonQ a).getD j (0, 0))) ∧
    (∀ i j k, i < j → j < k → k < (pentagonQ a).length →
      (9 / 100 : Rat) < crossG ((pentagonQ a).getD i (0, 0)) ((pentagonQ a).getD j (0, 0)) ((pentagonQ a).getD k (0, 0))) :=
  ⟨(insideBy_iff _ _ _ _).1 (centreQ_insideBy a hF), (convexBy_iff _ _ _).1 (pentagonQ_convexBy a hF),
    fun i j k hij hjk hk => triples_of_convexBy (pentagonQ_length a) (pentagonQ_convexBy a hF) i j k hij hjk
      (pentagonQ_length a ▸ hk)⟩

example : IsFlip (⟨2, (3, -7), (-1, 1)⟩ : Anchor).flips := by simp [IsFlip]
example : StrictlyInside 0 (pentagonQ ⟨2, (3, -7), (-1, 1)⟩) (centreQ ⟨2, (3, -7), (-1, 1)⟩) :=
  centreQ_strictlyInside _ (by simp [IsFlip])
example : StrictlyConvex 0 (pentagonQ ⟨0, (-100000, 12345), (1, -1)⟩) := pentagonQ_convex _ (by simp [IsFlip])
example : 0 < areaG 0 (pentagonQ ⟨3, (5, 5), (-1, -1)⟩) := (pentagonQ_winding _).2.1
/-- direct kernel evaluation on concrete anchors (all four flip pairs, reflected and not) agrees with the general theorems -/
example : ∀ a ∈ ([⟨0, (3, -7), (1, 1)⟩, ⟨2, (3, -7), (1, 1)⟩, ⟨0, (0, 4), (1, -1)⟩, ⟨1, (0, 4), (1, -1)⟩,
      ⟨3, (-2, -9), (-1, 1)⟩, ⟨2, (-2, -9), (-1, 1)⟩, ⟨1, (1000000, 1), (-1, -1)⟩, ⟨3, (1000000, 1), (-1, -1)⟩] : List Anchor),
    (∀ c ∈ crossesG 0 (pentagonQ a) (centreQ a), (96 / 1000 : Rat) < c) ∧
    (∀ c ∈ edgeCrossesG 0 (pentagonQ a), (9 / 100 : Rat) < c) ∧ 0 < areaG 0 (pentagonQ a) := by
  decide +kernel
/-- the margins are not vacuous upper bounds either: the smallest centre cross product is below `0.097`, the smallest
edge/vertex cross product below `0.091` -/
example : (∃ c ∈ crossesG 0 seedQ (centreG 0 5 seedQ), c < (97 / 1000 : Rat)) ∧
    ∃ c ∈ edgeCrossesG 0 seedQ, c < (91 / 1000 : Rat) := by decide +kernel
/-- a point outside is rejected: the origin-adjacent point `(-1, 0)` has a negative cross product with the seed -/
example : ¬ StrictlyInside 0 seedQ (-1, 0) := by unfold StrictlyInside InsideBy; decide +kernel

end A5.PG
