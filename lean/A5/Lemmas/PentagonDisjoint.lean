import A5.Lemmas.ConvexPolygon
/-! # Two cell pentagons of the same depth: disjointness certificates (planar C03), part 1: geometry

Polygons are clockwise lists of rational points as in `ConvexPolygon.lean`.  A separation certificate (`SepCode`) names
an edge `e` of one polygon and a corner `b` of the other at which the affine function `cross e` has a local minimum
`≥ -μ`; at a convex corner a local minimum is a minimum over the interior (`affine_min`), so no point lies inside both
polygons by more than `μ` (`DeepIn μ`: every edge cross product `< -μ`).  Pentagons whose anchors' offsets differ by more
than 2 in the hexagonal lattice norm need no certificate: every local shape stays within `4/3` lattice units of its
anchor in the six lattice directions (`shape_bounds`, `far_disjoint`).

**Why a margin.**  The plain statement "no point is strictly inside both pentagons" is FALSE for `pentagonQ` (exact
arithmetic on the `f64` runtime constants): neighbouring pentagons that ideally share an edge overlap in a sliver about
`3·10⁻¹⁷` lattice units wide, because the rounded seed vertices do not satisfy the ideal relations exactly (e.g. the
`x` of vertex `d` differs from `b.x + v.x` by one unit of `2⁻⁵⁵`).  See `pentagons_disjoint_statement_false` in
`PentagonDisjoint3.lean` for a kernel-checked witness.  What is true, and proved for every depth, is disjointness up to
the margin `mu = 2⁻⁵⁴`. -/
namespace A5.PD
open A5 A5.HilbertLocate A5.PG A5.CP

/-- inside a convex clockwise polygon by the margin `μ`: every edge cross product is `< -μ`
(`cross = |edge| · distance to the edge line`) -/
def DeepIn (μ : ℚ) (P : List Pt) (q : Pt) : Prop := ∀ e ∈ edges P, cross e.1 e.2 q < -μ
instance (μ : ℚ) (P : List Pt) (q : Pt) : Decidable (DeepIn μ P q) := by unfold DeepIn; infer_instance

theorem DeepIn.strictIn {μ : ℚ} {P : List Pt} {q : Pt} (hμ : 0 ≤ μ) (h : DeepIn μ P q) : StrictIn P q :=
  fun e he => lt_of_lt_of_le (h e he) (by linarith)

theorem strictIn_iff_deepIn (P : List Pt) (q : Pt) : StrictIn P q ↔ DeepIn 0 P q := by
  unfold StrictIn DeepIn
  simp only [neg_zero]

theorem cross_unshift (t a b q : Pt) : cross (shift t a) (shift t b) q = cross a b (q.1 - t.1, q.2 - t.2) := by
  unfold cross shift; ring

theorem DeepIn.unshift {μ : ℚ} {P : List Pt} {t q : Pt} (h : DeepIn μ (P.map (shift t)) q) :
    DeepIn μ P (q.1 - t.1, q.2 - t.2) := by
  intro e he
  have := h (Prod.map (shift t) (shift t) e) (by rewrite [edges_map]; exact List.mem_map.2 ⟨e, he, rfl⟩)
  rewrite [Prod.map_fst, Prod.map_snd, cross_unshift] at this
  exact this

def IsAffine (f : Pt → ℚ) : Prop := ∃ α β γ : ℚ, ∀ p : Pt, f p = α * p.1 + β * p.2 + γ

theorem cross_affine (a b : Pt) : IsAffine (cross a b) :=
  ⟨-(b.2 - a.2), b.1 - a.1, (b.2 - a.2) * a.1 - (b.1 - a.1) * a.2, fun p => by unfold cross; ring⟩

/-- **corner lemma.**  `a → b → c` a clockwise convex corner, `w` strictly to the right of both edges, `f` affine with
`f b ≤ f a` and `f b ≤ f c`: then `f b ≤ f w`.  (`D·(f w − f b) = (f c − f b)·g₁ w + (f a − f b)·g₂ w` with
`D = −cross a b c > 0`, `g₁ = −cross a b`, `g₂ = −cross b c`.) -/
theorem affine_min {f : Pt → ℚ} (hf : IsAffine f) (a b c w : Pt) (hc : cross a b c < 0) (h1 : cross a b w < 0)
    (h2 : cross b c w < 0) (ha : f b ≤ f a) (hcc : f b ≤ f c) : f b ≤ f w := by
  obtain ⟨α, β, γ, hf⟩ := hf
  have key : (-(cross a b c)) * (f w - f b) =
      (f c - f b) * (-(cross a b w)) + (f a - f b) * (-(cross b c w)) := by
    rewrite [hf w, hf b, hf c, hf a]; unfold cross; ring
  have hr : 0 ≤ (f c - f b) * (-(cross a b w)) + (f a - f b) * (-(cross b c w)) :=
    add_nonneg (mul_nonneg (by linarith) (by linarith)) (mul_nonneg (by linarith) (by linarith))
  rewrite [← key] at hr
  by_contra hneg
  have hlt : f w - f b < 0 := by linarith [not_le.1 hneg]
  have : (-(cross a b c)) * (f w - f b) < 0 := mul_neg_of_pos_of_neg (by linarith) hlt
  linarith

/-- pairs of consecutive edges `((vᵢ, vᵢ₊₁), (vᵢ₊₁, vᵢ₊₂))`, cyclically -/
def pairs (Q : List Pt) : List ((Pt × Pt) × (Pt × Pt)) := (edges Q).zip ((edges Q).tail ++ (edges Q).take 1)

theorem mem_pairs {Q : List Pt} {ee : (Pt × Pt) × (Pt × Pt)} (h : ee ∈ pairs Q) : ee.1 ∈ edges Q ∧ ee.2 ∈ edges Q := by
  obtain ⟨e1, e2⟩ := ee
  obtain ⟨h1, h2⟩ := List.of_mem_zip h
  refine ⟨h1, ?_⟩
  rcases List.mem_append.1 h2 with h | h
  · exact List.mem_of_mem_tail h
  · exact List.mem_of_mem_take h

/-- at the common vertex `b = ee.1.2 = ee.2.1` of the two edges the corner is convex, `f` is not larger than at the two
neighbours, and `m ≤ f b` -/
def MinOK (f : Pt → ℚ) (m : ℚ) (ee : (Pt × Pt) × (Pt × Pt)) : Prop :=
  ee.1.2 = ee.2.1 ∧ cross ee.1.1 ee.1.2 ee.2.2 < 0 ∧ f ee.1.2 ≤ f ee.1.1 ∧ f ee.1.2 ≤ f ee.2.2 ∧ m ≤ f ee.1.2
instance (f : Pt → ℚ) (m : ℚ) (ee : (Pt × Pt) × (Pt × Pt)) : Decidable (MinOK f m ee) := by
  unfold MinOK; infer_instance

theorem MinOK.le {f : Pt → ℚ} (hf : IsAffine f) {m : ℚ} {Q : List Pt} {ee : (Pt × Pt) × (Pt × Pt)} {w : Pt}
    (hm : ee ∈ pairs Q) (h : MinOK f m ee) (hQ : StrictIn Q w) : m ≤ f w := by
  obtain ⟨m1, m2⟩ := mem_pairs hm
  obtain ⟨e, hc, ha, hcc, hb⟩ := h
  have h1 := hQ _ m1
  have h2 := hQ _ m2
  rewrite [← e] at h2
  exact le_trans hb (affine_min hf _ _ _ w hc h1 h2 ha hcc)

/-- `f ≥ m` on the interior of `Q`, certified at some vertex -/
def MinAt (Q : List Pt) (f : Pt → ℚ) (m : ℚ) : Prop := ∃ ee ∈ pairs Q, MinOK f m ee
instance (Q : List Pt) (f : Pt → ℚ) (m : ℚ) : Decidable (MinAt Q f m) := by unfold MinAt; infer_instance

theorem MinAt.le {f : Pt → ℚ} (hf : IsAffine f) {m : ℚ} {Q : List Pt} {w : Pt} (h : MinAt Q f m) (hQ : StrictIn Q w) :
    m ≤ f w := by
  obtain ⟨ee, hm, h⟩ := h
  exact h.le hf hm hQ

/-- edge number `i` of `P` has every point of the interior of `Q` on its outer side up to `μ`, certified at the `j`-th
corner of `Q` -/
def SepIdx (μ : ℚ) (P Q : List Pt) (i j : Nat) : Prop :=
  match (edges P)[i]?, (pairs Q)[j]? with
  | some e, some ee => MinOK (cross e.1 e.2) (-μ) ee
  | _, _ => False
instance (μ : ℚ) (P Q : List Pt) (i j : Nat) : Decidable (SepIdx μ P Q i j) := by
  unfold SepIdx; split <;> infer_instance

theorem SepIdx.disjoint {μ : ℚ} {P Q : List Pt} {i j : Nat} (h : SepIdx μ P Q i j) :
    ¬∃ w, DeepIn μ P w ∧ StrictIn Q w := by
  rintro ⟨w, hP, hQ⟩
  unfold SepIdx at h
  split at h
  · rename_i e ee he hee
    have h1 := hP e (List.mem_of_getElem? he)
    have h2 := h.le (cross_affine e.1 e.2) (List.mem_of_getElem? hee) hQ
    linarith
  · exact h

/-- certificate code `h = 25·side + 5·i + j`: side 0 uses edge `i` of `P` and corner `j` of `Q`, side 1 the converse -/
def SepCode (μ : ℚ) (P Q : List Pt) (h : Nat) : Prop :=
  if h < 25 then SepIdx μ P Q (h / 5) (h % 5) else SepIdx μ Q P ((h - 25) / 5) (h % 5)
instance (μ : ℚ) (P Q : List Pt) (h : Nat) : Decidable (SepCode μ P Q h) := by unfold SepCode; infer_instance

/-- **soundness of the certificate**: no point is inside both polygons by more than `μ` -/
theorem SepCode.disjoint {μ : ℚ} (hμ : 0 ≤ μ) {P Q : List Pt} {h : Nat} (hc : SepCode μ P Q h) :
    ¬∃ w, DeepIn μ P w ∧ DeepIn μ Q w := by
  rintro ⟨w, hP, hQ⟩
  unfold SepCode at hc
  split at hc
  · exact hc.disjoint ⟨w, hP, hQ.strictIn hμ⟩
  · exact hc.disjoint ⟨w, hQ, hP.strictIn hμ⟩

/-! ## the certificate on integer coordinates

The same predicates for polygons with coordinates in units of `2⁻ᵏ` (`toQ k`), with the margin in units of `2⁻²ᵏ`: what
the kernel evaluates.  `SepCodeZ.rat` carries a certificate back to the rational polygons. -/

def MinOKZ (f : PtZ → Int) (m : Int) (ee : (PtZ × PtZ) × (PtZ × PtZ)) : Prop :=
  ee.1.2 = ee.2.1 ∧ crossZ ee.1.1 ee.1.2 ee.2.2 < 0 ∧ f ee.1.2 ≤ f ee.1.1 ∧ f ee.1.2 ≤ f ee.2.2 ∧ m ≤ f ee.1.2
instance (f : PtZ → Int) (m : Int) (ee : (PtZ × PtZ) × (PtZ × PtZ)) : Decidable (MinOKZ f m ee) := by
  unfold MinOKZ; infer_instance

def SepIdxZ (μ : Int) (P Q : List PtZ) (i j : Nat) : Prop :=
  match (edgesG P)[i]?, (edgesG (edgesG Q))[j]? with
  | some e, some ee => MinOKZ (crossZ e.1 e.2) (-μ) ee
  | _, _ => False
instance (μ : Int) (P Q : List PtZ) (i j : Nat) : Decidable (SepIdxZ μ P Q i j) := by
  unfold SepIdxZ; split <;> infer_instance

def SepCodeZ (μ : Int) (P Q : List PtZ) (h : Nat) : Prop :=
  if h < 25 then SepIdxZ μ P Q (h / 5) (h % 5) else SepIdxZ μ Q P ((h - 25) / 5) (h % 5)
instance (μ : Int) (P Q : List PtZ) (h : Nat) : Decidable (SepCodeZ μ P Q h) := by unfold SepCodeZ; infer_instance

theorem MinOKZ.rat {e : PtZ × PtZ} {μ : Int} {ee : (PtZ × PtZ) × (PtZ × PtZ)} (h : MinOKZ (crossZ e.1 e.2) (-μ) ee)
    (k : Nat) : MinOK (cross (toQ k e.1) (toQ k e.2)) (-((μ : ℚ) / (2 ^ k * 2 ^ k)))
      (Prod.map (Prod.map (toQ k) (toQ k)) (Prod.map (toQ k) (toQ k)) ee) := by
  obtain ⟨h1, h2, h3, h4, h5⟩ := h
  refine ⟨congrArg (toQ k) h1, ?_, ?_, ?_, ?_⟩ <;> simp only [Prod.map_fst, Prod.map_snd, cross_toQ]
  · exact div_neg_of_neg_of_pos (Int.cast_lt_zero.2 h2) (by positivity)
  · exact (scaled_le k _ _).2 h3
  · exact (scaled_le k _ _).2 h4
  · rewrite [← neg_div, ← Int.cast_neg]; exact (scaled_le k _ _).2 h5

theorem SepIdxZ.rat {μ : Int} {P Q : List PtZ} {i j : Nat} (h : SepIdxZ μ P Q i j) (k : Nat) :
    SepIdx ((μ : ℚ) / (2 ^ k * 2 ^ k)) (P.map (toQ k)) (Q.map (toQ k)) i j := by
  have hp : pairs (Q.map (toQ k)) =
      (edgesG (edgesG Q)).map (Prod.map (Prod.map (toQ k) (toQ k)) (Prod.map (toQ k) (toQ k))) := by
    show edgesG (edgesG (Q.map (toQ k))) = _
    rewrite [edgesG_map, edgesG_map]; rfl
  unfold SepIdx
  rewrite [show edges (P.map (toQ k)) = (edgesG P).map (Prod.map (toQ k) (toQ k)) from edgesG_map _ P, hp,
    List.getElem?_map, List.getElem?_map]
  unfold SepIdxZ at h
  split at h
  · rename_i e ee he hee
    rewrite [he, hee]
    exact h.rat k
  · exact h.elim

theorem SepCodeZ.rat {μ : Int} {P Q : List PtZ} {h : Nat} (hc : SepCodeZ μ P Q h) (k : Nat) :
    SepCode ((μ : ℚ) / (2 ^ k * 2 ^ k)) (P.map (toQ k)) (Q.map (toQ k)) h := by
  unfold SepCode
  unfold SepCodeZ at hc
  split at hc
  · rewrite [if_pos ‹_›]; exact hc.rat k
  · rewrite [if_neg ‹_›]; exact hc.rat k

def linD (d : ℚ × ℚ) (p : Pt) : ℚ := d.1 * p.1 + d.2 * p.2

theorem linD_affine (d : ℚ × ℚ) : IsAffine (linD d) := ⟨d.1, d.2, 0, fun p => by unfold linD; ring⟩

/-- the linear functional on the face plane that reads `κ · (p·i + q·j)` on the lattice point `BASIS · (i, j)` -/
def dirOf (pq : Int × Int) : ℚ × ℚ :=
  ((pq.1 : ℚ) * (-basisQ.2.2.2) + (pq.2 : ℚ) * basisQ.2.2.1, (pq.1 : ℚ) * basisQ.2.1 + (pq.2 : ℚ) * (-basisQ.1))

/-- `κ = −det BASIS > 0` -/
def kappa : ℚ := -basisDet

theorem linD_basisMul (pq Δ : Int × Int) :
    linD (dirOf pq) (basisMul Δ) = kappa * ((pq.1 * Δ.1 + pq.2 * Δ.2 : Int) : ℚ) := by
  unfold linD dirOf basisMul offsetT kappa basisDet
  generalize basisQ = b
  obtain ⟨b0, b1, b2, b3⟩ := b
  dsimp only
  push_cast
  ring

theorem linD_neg (pq : Int × Int) (w : Pt) : linD (dirOf (-pq.1, -pq.2)) w = -linD (dirOf pq) w := by
  unfold linD dirOf
  dsimp only
  push_cast
  ring

theorem linD_sub (d : ℚ × ℚ) (w t : Pt) : linD d (w.1 - t.1, w.2 - t.2) = linD d w - linD d t := by
  unfold linD; ring

/-- the six lattice directions `i, j, i + j` and their opposites -/
def six : List (Int × Int) := [(1, 0), (0, 1), (1, 1), (-1, 0), (0, -1), (-1, -1)]

theorem six_neg : ∀ pq ∈ six, (-pq.1, -pq.2) ∈ six := by decide

/-- every local pentagon shape stays within `4/3` lattice units of its anchor in each of the six lattice directions
(the true extent is `1.3226…`) -/
theorem shape_bounds : ∀ F ∈ flips4, ∀ r : Bool, ∀ pq ∈ six,
    MinAt (localPent F r) (linD (dirOf pq)) (-(4 / 3 * kappa)) := by decide +kernel

theorem shape_dir {F : Int × Int} (hF : F ∈ flips4) (r : Bool) {pq : Int × Int} (hpq : pq ∈ six) {w : Pt}
    (hw : StrictIn (localPent F r) w) :
    -(4 / 3 * kappa) ≤ linD (dirOf pq) w ∧ linD (dirOf pq) w ≤ 4 / 3 * kappa := by
  have h1 := (shape_bounds F hF r pq hpq).le (linD_affine _) hw
  have h2 := (shape_bounds F hF r _ (six_neg pq hpq)).le (linD_affine _) hw
  rewrite [linD_neg] at h2
  exact ⟨h1, by linarith⟩

/-- **far pairs**: if the offsets differ by more than 2 in the hexagonal norm, the two pentagons (common translation
removed) have no common interior point, whatever their shapes -/
theorem far_disjoint {F1 F2 : Int × Int} (h1 : F1 ∈ flips4) (h2 : F2 ∈ flips4) (r1 r2 : Bool) (Δ : Int × Int)
    (hfar : ¬HexLe 2 Δ) :
    ¬∃ w, StrictIn (localPent F1 r1) w ∧ StrictIn ((localPent F2 r2).map (shift (basisMul Δ))) w := by
  rintro ⟨w, hw1, hw2⟩
  have hw2' := (strictIn_iff_deepIn _ _).2 ((strictIn_iff_deepIn _ _).1 hw2).unshift
  have hk : 0 < kappa := by decide +kernel
  -- in each direction `pq` both shapes reach at most `4/3` from their anchors, so `κ·(pq·Δ) ≤ (4/3 + 4/3)·κ < 3κ`
  have key : ∀ pq ∈ six, pq.1 * Δ.1 + pq.2 * Δ.2 ≤ 2 := by
    intro pq hpq
    have a1 := (shape_dir h1 r1 hpq hw1).2
    have a2 := (shape_dir h2 r2 hpq hw2').1
    rewrite [linD_sub, linD_basisMul] at a2
    have hq : ((pq.1 * Δ.1 + pq.2 * Δ.2 : Int) : ℚ) < ((3 : Int) : ℚ) := by
      have : kappa * ((pq.1 * Δ.1 + pq.2 * Δ.2 : Int) : ℚ) < kappa * 3 := by linarith
      have := lt_of_mul_lt_mul_left this (le_of_lt hk)
      exact_mod_cast this
    have := Int.cast_lt.1 hq
    omega
  apply hfar
  simp only [six, List.forall_mem_cons, List.not_mem_nil, false_imp_iff, implies_true, and_true] at key
  unfold HexLe
  omega

/-- `(offset difference, (flips, reflected?) of the first, (flips, reflected?) of the second)`: all that the two
pentagons depend on once the first anchor's translation is removed -/
abbrev NCfg := (Int × Int) × ((Int × Int) × Bool) × ((Int × Int) × Bool)

def cfgP1 (x : NCfg) : List Pt := localPent x.2.1.1 x.2.1.2
def cfgP2 (x : NCfg) : List Pt := (localPent x.2.2.1 x.2.2.2).map (shift (basisMul x.1))

def cfgP1Z (x : NCfg) : List PtZ := localPentZ x.2.1.1 x.2.1.2
def cfgP2Z (x : NCfg) : List PtZ := translate (localPentZ x.2.2.1 x.2.2.2) (basisMulZ x.1)

theorem cfgP_toQ (x : NCfg) : cfgP1 x = (cfgP1Z x).map (toQ 55) ∧ cfgP2 x = (cfgP2Z x).map (toQ 55) := by
  unfold cfgP1 cfgP2 cfgP1Z cfgP2Z
  rewrite [show toQ 55 = Prod.map (qOf 55) (qOf 55) from rfl, translate_map _ (qOf_add 55)]
  exact ⟨localPent_toQ _ _, congrArg₂ translate (localPent_toQ _ _) (basisMul_toQ _)⟩

def anchorCfg (a b : Anchor) : NCfg :=
  ((b.offset.1 - a.offset.1, b.offset.2 - a.offset.2), (a.flips, reflK a.k a.flips), (b.flips, reflK b.k b.flips))

theorem second_frame (a b : Anchor) : pentagonQ b = (cfgP2 (anchorCfg a b)).map (shift (basisMul a.offset)) := by
  unfold cfgP2 anchorCfg
  rewrite [pentagonQ_eq b, List.map_map]
  refine List.map_congr_left (fun v _ => ?_)
  unfold shift basisMul offsetT
  generalize basisQ = bb
  obtain ⟨b0, b1, b2, b3⟩ := bb
  refine Prod.ext ?_ ?_ <;> (dsimp only [Function.comp]; push_cast; ring)

/-- the common translation cancels: a point inside both pentagons by `μ` gives one for the relative configuration -/
theorem anchors_disjoint_of_cfg (μ : ℚ) (a b : Anchor)
    (h : ¬∃ w, DeepIn μ (cfgP1 (anchorCfg a b)) w ∧ DeepIn μ (cfgP2 (anchorCfg a b)) w) :
    ¬∃ w, DeepIn μ (pentagonQ a) w ∧ DeepIn μ (pentagonQ b) w := by
  rintro ⟨w, h1, h2⟩
  rewrite [pentagonQ_eq a] at h1
  rewrite [second_frame a b] at h2
  exact h ⟨_, h1.unshift, h2.unshift⟩

theorem cfg_far_disjoint {μ : ℚ} (hμ : 0 ≤ μ) (x : NCfg) (h1 : x.2.1.1 ∈ flips4) (h2 : x.2.2.1 ∈ flips4)
    (hfar : ¬HexLe 2 x.1) : ¬∃ w, DeepIn μ (cfgP1 x) w ∧ DeepIn μ (cfgP2 x) w := by
  rintro ⟨w, a1, a2⟩
  exact far_disjoint h1 h2 _ _ _ hfar ⟨w, a1.strictIn hμ, a2.strictIn hμ⟩

end A5.PD
