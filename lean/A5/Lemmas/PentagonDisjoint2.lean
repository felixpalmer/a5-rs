import A5.Lemmas.PentagonDisjoint
/-! # Two cell pentagons of the same depth, part 2: every pair is far or certified (planar C03)

**Certificates.**  A relative configuration `x : NCfg` = (offset difference `Δ` with `HexLe 2 Δ`, flips and reflected? of
both pentagons) is mapped to a number `key x < 1600`.  `MASK` has bit `key x` set for the 588 configurations that occur
for two distinct cells of the same depth (found outside Lean by closing the depth-1 configurations under subdivision).
`HINTS` holds, six bits per key, the code of a separating edge with slack (`SepCode`: which polygon's edge, its index,
the index of the other polygon's corner where the edge's cross product is minimal).  `cert_table` checks all 588
certificates by kernel evaluation in exact arithmetic on the runtime constants (integer coordinates in units of
`2⁻⁵⁵`, `SepCodeZ.rat`), with the margin `mu = 2⁻⁵⁴` (the worst entry needs `0.5865 · 2⁻⁵⁴`).
Generated by `/verif/tools/gen_pentagon_disjoint.py` (python `fractions`, mirrors `localPent`, `childIJ`, `nextF`).

**Coverage.**  The internal anchors of depth `n` are exactly `listAnchor ds` with `k = ds[0]`, `ds` ranging over ALL digit
lists of length `n` (`shiftedDigits` is a bijection; the Hilbert shifting only decides which position gets which list).
For two digit lists the relative configuration `relT l1 l2 = (O₂ − O₁, F₁, F₂)` of the children `a1 :: l1`, `a2 :: l2` is
`childT (relT l1 l2) a1 a2`: it does not depend on the parents' `k`.  `step_table` (kernel evaluation over the 964
configurations with `|Δ| ≤ 4` that are not excluded, `Exc`, halved by the point reflection of the lattice, times 16
pairs of digits) says that every child configuration is far (`|Δ| > 4`) or again not excluded and, after the `flipIJ` / `invertJ` stages of each orientation
class (`stageRel`, `ncfg`), far (`|Δ'| > 2`) or certified.  Far configurations only have far children (`far_step`) and
far final configurations (`far_cfg`), so one induction on the depth (`lists_step`) gives `lists_cfg`: two DIFFERENT
digit lists of the same length have final anchors whose configuration is far or certified. -/
namespace A5.PD
open A5 A5.HilbertLocate A5.PG A5.CP

/-- the margin: `2⁻⁵⁴ ≈ 5.6·10⁻¹⁷` (cross product units: edge length × distance, lattice frame) -/
def mu : ℚ := 1 / 2 ^ 54

theorem mu_nonneg : 0 ≤ mu := by decide +kernel

def fbits (F : Int × Int) : Nat := (if F.1 = -1 then 2 else 0) + (if F.2 = -1 then 1 else 0)

/-- the position of `x` in `MASK` and `HINTS`, for `HexLe 2 x.1` and `±1` flips: `Δ + (2, 2)` as two digits to base 5,
then for each pentagon two bits for the flips and one for "reflected?" -/
def key (x : NCfg) : Nat :=
  ((x.1.1 + 2).toNat * 5 + (x.1.2 + 2).toNat) * 64 + fbits x.2.1.1 * 16 + (if x.2.1.2 then 8 else 0) +
    fbits x.2.2.1 * 2 + (if x.2.2.2 then 1 else 0)

/-- bit `key x` is set iff `x` is one of the 588 certified configurations -/
def MASK : Nat := 0x96696996699696696996966996696996966969966996966900000000000000009669699669969629699696699669699696696992699696696996966996696996966969966996966969969669162949861629498661929468619294689669699696696996699696696996966996696996966969966986966969969669966969969668699669969669000000000000000096696996699696696996966996696996966969966996966900000000000000000000000000000000

/-- six bits per key: the `SepCode` of the configuration -/
def HINTS : Nat := 0x3c0013011440027b00740018023a0014000428000e00ba8000b2c03c0013600018027b00100031023a0000590028000e00b2c03c0013600018027b00100031023a0000590028000e38000d00b2c00219806000180229c010003124000800590038000d00b2c00219806000180229c010003124000800590001f2c038000dc000110219806000170229c00051802400080000000000000000000000000000000000000000000000000000000000000000000000000000000000000000000000003c001302b440002b00000004007a0014001980001b0114800114403c0013740018002b00100004007a0000030080001b0114403c0013740018002b00100004007a0001130080001b38000d0114400219807400180149c010000424000801130038000d0114400219807400180149c010000424000800030001f2c038000dc000110219806000170149c000418024000801f2c038000dc000110219806000170149c0004180240008b8002901f2c000f400c0001101c5406000170c002800418084001c02b6000020c000000402920014001940001b01148002b44084001c0000040020c014000502920001148040001b02b44084001c0000040020c014000502920001148040001b00000d02b44000058000000400d00014000558000001148000000d02b44000058000000400d00014000558000001148000514000000d48001100058044002b00d00000400058000000514000000d48001100058044002b00d00000400058000020002900514001b40048001101c84044002b0c000200400020002900514001b40048001101c84044002b0c000200400001914020002948001101b40060002b01c8400040000c000201760054001c1800040280c02c001f029b80011c0040000f9c001401760000824018000400d3802c001f980021011c009c001401760000824018000400d3802c001f980021011c000041009c001430000000824044001100d3800187409800210041009c001430001100824044001100d380018740980021a0000700410001b8003000110133c0440011b00002018740a0000700410001b8003000000133c0440011b00002018740019140a0000748001101b80044002b0133c0004000b000020000000000000000000000000000000000000000000000000000000000000000000000000000000000000000000000009c002201760000824018000500d3802c001f980021011c000311009c00229000050082402c000b00d3800186009800210311009c00229000050082402c000b00d380018600980021a0002303110000e2809000050133c02c000bb00027018600a0002303110000e2809000050133c02c000bb00027018600004140a00023a8000b00e2804400110133c0018740b00027000000000000000000000000000000000000000000000000000000000000000000000000000000000000000000000000000000000000000000000000000000000000000000000000000000000000000000000000000000000000000000000000

def certBit (k : Nat) : Bool := MASK.testBit k
def hintAt (k : Nat) : Nat := (HINTS >>> (6 * k)) % 64

theorem mu_eq : mu = ((2 ^ 56 : Int) : ℚ) / (2 ^ 55 * 2 ^ 55) := by decide +kernel

def CertOK (x : NCfg) : Prop := certBit (key x) = true → SepCodeZ (2 ^ 56) (cfgP1Z x) (cfgP2Z x) (hintAt (key x))
instance (x : NCfg) : Decidable (CertOK x) := by unfold CertOK; infer_instance

/-- **the finite check**: every configuration whose bit is set has a valid separation certificate with margin `mu`
(evaluated on integer coordinates) -/
theorem cert_table : ∀ i ∈ List.range 5, ∀ j ∈ List.range 5, ∀ F1 ∈ flips4, ∀ r1 : Bool, ∀ F2 ∈ flips4, ∀ r2 : Bool,
    CertOK ((((i : Nat) : Int) - 2, ((j : Nat) : Int) - 2), (F1, r1), (F2, r2)) := by decide +kernel

theorem cert_count : ((List.range 1600).filter certBit).length = 588 := by decide +kernel

theorem of_near_table {p : NCfg → Prop} (h : ∀ i ∈ List.range 5, ∀ j ∈ List.range 5, ∀ F1 ∈ flips4, ∀ r1 : Bool,
    ∀ F2 ∈ flips4, ∀ r2 : Bool, p ((((i : Nat) : Int) - 2, ((j : Nat) : Int) - 2), (F1, r1), (F2, r2))) (x : NCfg)
    (hh : HexLe 2 x.1) (h1 : x.2.1.1 ∈ flips4) (h2 : x.2.2.1 ∈ flips4) : p x := by
  obtain ⟨⟨d1, d2⟩, ⟨F1, r1⟩, ⟨F2, r2⟩⟩ := x
  unfold HexLe at hh
  dsimp only at hh
  have := h (d1 + 2).toNat (List.mem_range.2 (by omega)) (d2 + 2).toNat (List.mem_range.2 (by omega)) F1 h1 r1 F2 h2 r2
  rewrite [show (((d1 + 2).toNat : Nat) : Int) - 2 = d1 by omega, show (((d2 + 2).toNat : Nat) : Int) - 2 = d2 by omega]
    at this
  exact this

theorem cfg_disjoint (x : NCfg) (h1 : x.2.1.1 ∈ flips4) (h2 : x.2.2.1 ∈ flips4)
    (h : ¬HexLe 2 x.1 ∨ certBit (key x) = true) : ¬∃ w, DeepIn mu (cfgP1 x) w ∧ DeepIn mu (cfgP2 x) w := by
  by_cases hh : HexLe 2 x.1
  · have hq := (of_near_table cert_table x hh h1 h2 (h.resolve_left (not_not_intro hh))).rat 55
    rewrite [← mu_eq, ← (cfgP_toQ _).1, ← (cfgP_toQ _).2] at hq
    exact hq.disjoint mu_nonneg
  · exact cfg_far_disjoint mu_nonneg x h1 h2 hh

/-- the table is not vacuous: the two depth-1 neighbours `⟨0,(0,0),(1,1)⟩`, `⟨3,(1,1),(-1,1)⟩` (they share an edge) are a
certified configuration, and their certificate does NOT hold with margin 0 -/
example : certBit (key (anchorCfg ⟨0, (0, 0), (1, 1)⟩ ⟨3, (1, 1), (-1, 1)⟩)) = true ∧
    ¬SepCode 0 (cfgP1 (anchorCfg ⟨0, (0, 0), (1, 1)⟩ ⟨3, (1, 1), (-1, 1)⟩))
      (cfgP2 (anchorCfg ⟨0, (0, 0), (1, 1)⟩ ⟨3, (1, 1), (-1, 1)⟩))
      (hintAt (key (anchorCfg ⟨0, (0, 0), (1, 1)⟩ ⟨3, (1, 1), (-1, 1)⟩))) := by decide +kernel

/-- a relative configuration `(O₂ − O₁, F₁, F₂)` of two cells has the type of a step triple; this is the configuration of
child `a1` of the first cell and child `a2` of the second -/
def childT (t : Triple) (a1 a2 : Nat) : Triple :=
  ((2 * t.1.1 + (childIJ a2 t.2.2).1 - (childIJ a1 t.2.1).1, 2 * t.1.2 + (childIJ a2 t.2.2).2 - (childIJ a1 t.2.1).2),
    nextF a1 t.2.1, nextF a2 t.2.2)

/-- the configuration of the internal anchors of two digit lists -/
def relT (l1 l2 : List Nat) : Triple :=
  (((listAnchor l2).1.1 - (listAnchor l1).1.1, (listAnchor l2).1.2 - (listAnchor l1).1.2),
    (listAnchor l1).2, (listAnchor l2).2)

theorem relT_cons (a1 a2 : Nat) (l1 l2 : List Nat) : relT (a1 :: l1) (a2 :: l2) = childT (relT l1 l2) a1 a2 := by
  unfold relT childT
  rewrite [listAnchor_cons a1 l1, listAnchor_cons a2 l2]
  refine Prod.ext (Prod.ext ?_ ?_) rfl <;> (first | rfl | (dsimp only; omega))

theorem relT_flips (l1 l2 : List Nat) (h1 : ∀ x ∈ l1, x < 4) (h2 : ∀ x ∈ l2, x < 4) :
    (relT l1 l2).2.1 ∈ flips4 ∧ (relT l1 l2).2.2 ∈ flips4 :=
  ⟨mem_flips4 _ (listAnchor_isFlip l1 h1), mem_flips4 _ (listAnchor_isFlip l2 h2)⟩

/-- the 12 of the 976 configurations with `|Δ| ≤ 4` that two different cells of one depth never have (`lists_step`;
the generator finds every other one among the descendants of the depth-1 pairs): `Δ = (0, 0)` with equal first flips
(for `F₁ = F₂` the same triangle; otherwise the triangle and its neighbour across a lattice edge, which subdivision
reaches with other anchors only), or `Δ = (0, F₁.1)` with opposite first and equal second flips (the same triangle
written with its other anchor vertex) -/
def Exc (t : Triple) : Prop :=
  t.1.1 = 0 ∧ ((t.1.2 = 0 ∧ t.2.1.1 = t.2.2.1) ∨ (t.1.2 = t.2.1.1 ∧ t.2.2.1 = -t.2.1.1 ∧ t.2.1.2 = t.2.2.2))
instance (t : Triple) : Decidable (Exc t) := by unfold Exc; infer_instance

/-- near and not excluded: what `step_table` ranges over -/
def Good (t : Triple) : Prop := HexLe 4 t.1 ∧ ¬Exc t
instance (t : Triple) : Decidable (Good t) := by unfold Good; infer_instance

/-- `step_table` enumerates `HexLe 4 Δ` as `Δ = (i − 4, j − 4)`, `i, j < 9` -/
def mkT (i j : Nat) (F1 F2 : Int × Int) : Triple := (((i : Int) - 4, (j : Int) - 4), F1, F2)

theorem mkT_eq (t : Triple) (h : HexLe 4 t.1) :
    mkT (t.1.1 + 4).toNat (t.1.2 + 4).toNat t.2.1 t.2.2 = t ∧ (t.1.1 + 4).toNat < 9 ∧ (t.1.2 + 4).toNat < 9 := by
  obtain ⟨⟨d1, d2⟩, F1, F2⟩ := t
  unfold HexLe at h
  dsimp only at h ⊢
  refine ⟨?_, by omega, by omega⟩
  unfold mkT
  refine Prod.ext (Prod.ext ?_ ?_) rfl <;> (first | rfl | (dsimp only; omega))

/-- the configuration of the two final anchors as a function of the configuration of the internal ones
(the `2^n` of the `invertJ` stage cancels) -/
def stageRel (inv fl : Bool) (t : Triple) : Triple :=
  let d : Int × Int :=
    if fl then (t.1.2 + (flipComp t.2.2).1 - (flipComp t.2.1).1, t.1.1 + (flipComp t.2.2).2 - (flipComp t.2.1).2) else t.1
  (if inv then (d.1, -(d.1 + d.2)) else d, stageFlips inv t.2.1, stageFlips inv t.2.2)

theorem stage_rel (n : Nat) (inv fl : Bool) (A B : Anchor) :
    (((stageAnchor n inv fl B).offset.1 - (stageAnchor n inv fl A).offset.1,
      (stageAnchor n inv fl B).offset.2 - (stageAnchor n inv fl A).offset.2),
      (stageAnchor n inv fl A).flips, (stageAnchor n inv fl B).flips) =
    stageRel inv fl ((B.offset.1 - A.offset.1, B.offset.2 - A.offset.2), A.flips, B.flips) := by
  rewrite [stageAnchor_flips, stageAnchor_flips]
  unfold stageAnchor stageRel
  cases fl <;> cases inv <;> simp only [if_true, if_false, Bool.false_eq_true]
  · simp only [invertStage]
    refine Prod.ext (Prod.ext ?_ ?_) rfl <;> (first | rfl | (dsimp only; omega))
  · simp only [flipStage_offset]
    refine Prod.ext (Prod.ext ?_ ?_) rfl <;> (first | rfl | (dsimp only; omega))
  · simp only [invertStage, flipStage_offset]
    refine Prod.ext (Prod.ext ?_ ?_) rfl <;> (first | rfl | (dsimp only; omega))

/-- the relative configuration of the two final pentagons: `u` the configuration of the internal anchors, `a1`, `a2`
their `k`s -/
def ncfg (inv fl : Bool) (u : Triple) (a1 a2 : Nat) : NCfg :=
  ((stageRel inv fl u).1, ((stageRel inv fl u).2.1, reflK a1 (stageRel inv fl u).2.1),
    ((stageRel inv fl u).2.2, reflK a2 (stageRel inv fl u).2.2))

/-- far (no common interior point) or certified (common points at most `mu` deep) -/
def CfgOK (x : NCfg) : Prop := ¬HexLe 2 x.1 ∨ certBit (key x) = true
instance (x : NCfg) : Decidable (CfgOK x) := by unfold CfgOK; infer_instance

/-- a child configuration `u` of the digits `a1`, `a2` is far, or not excluded and in every orientation class far or
certified after the stages -/
def StepOK (u : Triple) (a1 a2 : Nat) : Prop :=
  ¬HexLe 4 u.1 ∨ (¬Exc u ∧ ∀ c ∈ oriClasses, CfgOK (ncfg c.1 c.2 u a1 a2))
instance (u : Triple) (a1 a2 : Nat) : Decidable (StepOK u a1 a2) := by unfold StepOK; infer_instance

theorem stageFlips_mem : ∀ inv : Bool, ∀ F ∈ flips4, stageFlips inv F ∈ flips4 := by decide

/-! ## the point reflection of the lattice

`(Δ, F₁, F₂) ↦ (−Δ, −F₁, −F₂)` takes the configuration of two cells to that of their images under `x ↦ −x`.  It commutes
with subdivision (`childT_neg`) and with the stages (`ncfg_neg`) and leaves the norms, `Exc` and the reflection bits
alone; `MASK` is invariant under it (`mask_neg`).  Hence `StepOK` is invariant (`stepOK_neg`), and the step table below
needs the configurations with `F₁.1 = 1` only. -/

def negP (v : Int × Int) : Int × Int := (-v.1, -v.2)
def negT (t : Triple) : Triple := (negP t.1, negP t.2.1, negP t.2.2)
def negN (x : NCfg) : NCfg := (negP x.1, (negP x.2.1.1, x.2.1.2), (negP x.2.2.1, x.2.2.2))

theorem neg_flips : ∀ F ∈ flips4, negP F ∈ flips4 ∧ flipComp (negP F) = negP (flipComp F) ∧ ∀ a ∈ List.range 4,
    childIJ a (negP F) = negP (childIJ a F) ∧ nextF a (negP F) = negP (nextF a F) ∧ reflK a (negP F) = reflK a F := by
  decide

theorem hexLe_neg (B : Int) (v : Int × Int) : HexLe B (negP v) ↔ HexLe B v := by
  unfold HexLe negP; dsimp only; omega

theorem exc_neg (t : Triple) : Exc (negT t) ↔ Exc t := by
  unfold Exc negT negP; dsimp only; omega

theorem childT_neg (t : Triple) (a1 a2 : Nat) (h1 : t.2.1 ∈ flips4) (h2 : t.2.2 ∈ flips4) (ha1 : a1 < 4) (ha2 : a2 < 4) :
    childT (negT t) a1 a2 = negT (childT t a1 a2) := by
  obtain ⟨c1, n1, _⟩ := (neg_flips _ h1).2.2 a1 (List.mem_range.2 ha1)
  obtain ⟨c2, n2, _⟩ := (neg_flips _ h2).2.2 a2 (List.mem_range.2 ha2)
  unfold childT negT
  dsimp only
  rewrite [c1, c2, n1, n2]
  unfold negP
  refine Prod.ext (Prod.ext ?_ ?_) rfl <;> (dsimp only; omega)

theorem stageRel_neg (inv fl : Bool) (u : Triple) (h1 : u.2.1 ∈ flips4) (h2 : u.2.2 ∈ flips4) :
    stageRel inv fl (negT u) = negT (stageRel inv fl u) := by
  have f1 := (neg_flips _ h1).2.1
  have f2 := (neg_flips _ h2).2.1
  unfold stageRel negT
  dsimp only
  rewrite [f1, f2]
  unfold negP stageFlips
  cases fl <;> cases inv <;> simp only [if_true, if_false, Bool.false_eq_true] <;>
    refine Prod.ext (Prod.ext ?_ ?_) (Prod.ext (Prod.ext ?_ ?_) (Prod.ext ?_ ?_)) <;> (first | rfl | (dsimp only; omega))


theorem ncfg_neg (inv fl : Bool) (u : Triple) (a1 a2 : Nat) (h1 : u.2.1 ∈ flips4) (h2 : u.2.2 ∈ flips4) (ha1 : a1 < 4)
    (ha2 : a2 < 4) : ncfg inv fl (negT u) a1 a2 = negN (ncfg inv fl u a1 a2) := by
  have r1 : reflK a1 (negP (stageRel inv fl u).2.1) = reflK a1 (stageRel inv fl u).2.1 :=
    ((neg_flips _ (stageFlips_mem inv _ h1)).2.2 a1 (List.mem_range.2 ha1)).2.2
  have r2 : reflK a2 (negP (stageRel inv fl u).2.2) = reflK a2 (stageRel inv fl u).2.2 :=
    ((neg_flips _ (stageFlips_mem inv _ h2)).2.2 a2 (List.mem_range.2 ha2)).2.2
  unfold ncfg
  rewrite [stageRel_neg inv fl u h1 h2]
  unfold negT negN
  dsimp only
  rewrite [r1, r2]
  rfl

theorem mask_neg : ∀ i ∈ List.range 5, ∀ j ∈ List.range 5, ∀ F1 ∈ flips4, ∀ r1 : Bool, ∀ F2 ∈ flips4, ∀ r2 : Bool,
    certBit (key (negN ((((i : Nat) : Int) - 2, ((j : Nat) : Int) - 2), (F1, r1), (F2, r2)))) = true →
      certBit (key ((((i : Nat) : Int) - 2, ((j : Nat) : Int) - 2), (F1, r1), (F2, r2))) = true := by decide +kernel

theorem cfgOK_neg (x : NCfg) (h1 : x.2.1.1 ∈ flips4) (h2 : x.2.2.1 ∈ flips4) (h : CfgOK (negN x)) : CfgOK x := by
  by_cases hh : HexLe 2 x.1
  · exact Or.inr (of_near_table (p := fun x => certBit (key (negN x)) = true → certBit (key x) = true) mask_neg x hh h1 h2
      (h.resolve_left (not_not_intro ((hexLe_neg 2 x.1).2 hh))))
  · exact Or.inl hh

theorem stepOK_neg (u : Triple) (a1 a2 : Nat) (h1 : u.2.1 ∈ flips4) (h2 : u.2.2 ∈ flips4) (ha1 : a1 < 4) (ha2 : a2 < 4)
    (h : StepOK (negT u) a1 a2) : StepOK u a1 a2 :=
  h.imp (mt (hexLe_neg 4 u.1).2) fun ⟨he, hc⟩ => ⟨mt (exc_neg u).2 he, fun c hcm =>
    cfgOK_neg _ (stageFlips_mem c.1 _ h1) (stageFlips_mem c.1 _ h2)
      (ncfg_neg c.1 c.2 u a1 a2 h1 h2 ha1 ha2 ▸ hc c hcm)⟩

/-- the flips with first component `1`: one of `F`, `−F` -/
def halfFlips : List (Int × Int) := [(1, 1), (1, -1)]

theorem half_or_neg : ∀ F ∈ flips4, F ∈ halfFlips ∨ negP F ∈ halfFlips := by decide

/-- **closure and coverage**: the children of two different cells whose configuration is near and not excluded, up to
the point reflection -/
theorem step_table : ∀ i ∈ List.range 9, ∀ j ∈ List.range 9, ∀ F1 ∈ halfFlips, ∀ F2 ∈ flips4, Good (mkT i j F1 F2) →
    ∀ a1 ∈ List.range 4, ∀ a2 ∈ List.range 4, StepOK (childT (mkT i j F1 F2) a1 a2) a1 a2 := by decide +kernel

/-- two different children of one cell -/
theorem siblings_table : ∀ F ∈ flips4, ∀ a1 ∈ List.range 4, ∀ a2 ∈ List.range 4, a1 ≠ a2 →
    StepOK (childT ((0, 0), F, F) a1 a2) a1 a2 := by decide +kernel

theorem childIJ_hex : ∀ F ∈ flips4, ∀ a ∈ List.range 4, HexLe 2 (childIJ a F) ∧ nextF a F ∈ flips4 := by decide

theorem far_step (t : Triple) (a1 a2 : Nat) (h1 : t.2.1 ∈ flips4) (h2 : t.2.2 ∈ flips4) (ha1 : a1 < 4) (ha2 : a2 < 4)
    (hfar : ¬HexLe 4 t.1) : ¬HexLe 4 (childT t a1 a2).1 := by
  have b1 := (childIJ_hex _ h1 a1 (List.mem_range.2 ha1)).1
  have b2 := (childIJ_hex _ h2 a2 (List.mem_range.2 ha2)).1
  unfold HexLe childT at *
  dsimp only at *
  omega

theorem flipComp_hex : ∀ F ∈ flips4, HexLe 1 (flipComp F) ∧ (flipComp F).1 + (flipComp F).2 = 0 := by decide

theorem far_cfg (inv fl : Bool) (u : Triple) (h1 : u.2.1 ∈ flips4) (h2 : u.2.2 ∈ flips4) (hfar : ¬HexLe 4 u.1) :
    ¬HexLe 2 (stageRel inv fl u).1 := by
  obtain ⟨b1, c1⟩ := flipComp_hex _ h1
  obtain ⟨b2, c2⟩ := flipComp_hex _ h2
  unfold HexLe stageRel at *
  cases fl <;> cases inv <;> simp only [if_true, if_false, Bool.false_eq_true] <;> omega

theorem childT_stepOK (t : Triple) (a1 a2 : Nat) (h1 : t.2.1 ∈ flips4) (h2 : t.2.2 ∈ flips4) (ha1 : a1 < 4) (ha2 : a2 < 4)
    (h : ¬HexLe 4 t.1 ∨ ¬Exc t) : StepOK (childT t a1 a2) a1 a2 := by
  have near : ∀ t : Triple, t.2.1 ∈ halfFlips → t.2.2 ∈ flips4 → Good t → StepOK (childT t a1 a2) a1 a2 := by
    intro t h1 h2 hg
    obtain ⟨e, b1, b2⟩ := mkT_eq t hg.1
    have := step_table _ (List.mem_range.2 b1) _ (List.mem_range.2 b2) _ h1 _ h2
    rewrite [e] at this
    exact this hg a1 (List.mem_range.2 ha1) a2 (List.mem_range.2 ha2)
  by_cases hn : HexLe 4 t.1
  · have he := h.resolve_left (not_not_intro hn)
    rcases half_or_neg _ h1 with hh | hh
    · exact near t hh h2 ⟨hn, he⟩
    · -- the table speaks of the reflected configuration; reflect its children back
      have := near (negT t) hh (neg_flips _ h2).1 ⟨(hexLe_neg 4 t.1).2 hn, mt (exc_neg t).1 he⟩
      rewrite [childT_neg t a1 a2 h1 h2 ha1 ha2] at this
      exact stepOK_neg (childT t a1 a2) a1 a2 (childIJ_hex _ h1 a1 (List.mem_range.2 ha1)).2
        (childIJ_hex _ h2 a2 (List.mem_range.2 ha2)).2 ha1 ha2 this
  · exact Or.inl (far_step t a1 a2 h1 h2 ha1 ha2 hn)

/-- **two different digit lists of the same length**: their configuration is far, or not excluded and far or certified
after the stages, with the reflection bits of the two leading digits -/
theorem lists_step : ∀ l1 l2 : List Nat, l1.length = l2.length → (∀ x ∈ l1, x < 4) → (∀ x ∈ l2, x < 4) → l1 ≠ l2 →
    StepOK (relT l1 l2) (l1.getD 0 0) (l2.getD 0 0)
  | [], [], _, _, _, hne => absurd rfl hne
  | [], _ :: _, e, _, _, _ => nomatch e
  | _ :: _, [], e, _, _, _ => nomatch e
  | a1 :: m1, a2 :: m2, e, d1, d2, hne => by
    have hm1 : ∀ x ∈ m1, x < 4 := fun x hx => d1 x (List.mem_cons_of_mem _ hx)
    have hm2 : ∀ x ∈ m2, x < 4 := fun x hx => d2 x (List.mem_cons_of_mem _ hx)
    have ha1 := d1 a1 (List.mem_cons_self ..)
    have ha2 := d2 a2 (List.mem_cons_self ..)
    obtain ⟨f1, f2⟩ := relT_flips m1 m2 hm1 hm2
    rewrite [relT_cons]
    by_cases em : m1 = m2
    · subst em
      have e0 : relT m1 m1 = ((0, 0), (listAnchor m1).2, (listAnchor m1).2) :=
        Prod.ext (Prod.ext (Int.sub_self _) (Int.sub_self _)) rfl
      rewrite [e0]
      exact siblings_table _ f1 a1 (List.mem_range.2 ha1) a2 (List.mem_range.2 ha2) (fun h => hne (by rewrite [h]; rfl))
    · exact childT_stepOK _ a1 a2 f1 f2 ha1 ha2 ((lists_step m1 m2 (Nat.succ.inj e) hm1 hm2 em).imp_right And.left)

/-- the anchor (with its `k`) of a digit list -/
def listAnchorK (l : List Nat) : Anchor := ⟨l.getD 0 0, (listAnchor l).1, (listAnchor l).2⟩

theorem anchorCfg_stage (n : Nat) (inv fl : Bool) (l1 l2 : List Nat) :
    anchorCfg (stageAnchor n inv fl (listAnchorK l1)) (stageAnchor n inv fl (listAnchorK l2)) =
      ncfg inv fl (relT l1 l2) (l1.getD 0 0) (l2.getD 0 0) := by
  have hS := stage_rel n inv fl (listAnchorK l1) (listAnchorK l2)
  have e1 := congrArg Prod.fst hS
  have e2 := congrArg (fun z => z.2.1) hS
  have e3 := congrArg (fun z => z.2.2) hS
  dsimp only at e1 e2 e3
  unfold anchorCfg ncfg
  rewrite [stageAnchor_k, stageAnchor_k, e1, e2, e3]
  rfl

/-- **every two different digit lists of the same length** give, in each orientation class, final anchors whose
relative configuration is far or certified -/
theorem lists_cfg (inv fl : Bool) (hc : (inv, fl) ∈ oriClasses) (n : Nat) (l1 l2 : List Nat) (e1 : l1.length = n)
    (e2 : l2.length = n) (d1 : ∀ x ∈ l1, x < 4) (d2 : ∀ x ∈ l2, x < 4) (hne : l1 ≠ l2) :
    CfgOK (anchorCfg (stageAnchor n inv fl (listAnchorK l1)) (stageAnchor n inv fl (listAnchorK l2))) ∧
      (stageAnchor n inv fl (listAnchorK l1)).flips ∈ flips4 ∧ (stageAnchor n inv fl (listAnchorK l2)).flips ∈ flips4 := by
  obtain ⟨f1, f2⟩ := relT_flips l1 l2 d1 d2
  rewrite [anchorCfg_stage, stageAnchor_flips, stageAnchor_flips]
  refine ⟨?_, stageFlips_mem inv _ f1, stageFlips_mem inv _ f2⟩
  rcases lists_step l1 l2 (e1.trans e2.symm) d1 d2 hne with h | h
  · exact Or.inl (far_cfg inv fl _ f1 f2 h)
  · exact h.2 _ hc

end A5.PD
