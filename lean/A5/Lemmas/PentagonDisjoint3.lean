import A5.Lemmas.PentagonDisjoint2
/-! # Two cell pentagons of the same depth, part 3: the theorems for the public `sToAnchor` (planar C03)

Within one quintant and one curve depth `n ≤ 30`, for every orientation `o < 6` and all positions `s ≠ t < 4^n`, with
`a`, `b` the anchors `sToAnchor` returns and `pentagonQ a`, `pentagonQ b` their pentagons in exact rational arithmetic
on the `f64` runtime constants (lattice frame of the depth, unit = one lattice step):

* `pentagons_disjoint_statement` — "no point is strictly inside both" — is **FALSE**:
  `pentagons_disjoint_statement_false` exhibits, at depth 1, orientation 0, positions 0 and 3 (two pentagons that
  ideally share an edge), a rational point strictly inside both.  The rounded seed vertices / `w` / `BASIS` do not
  satisfy the ideal incidence relations exactly, so ideally coincident edges cross at an angle of about `10⁻¹⁶`.
* `pentagons_disjoint_margin` (**main**, every depth): no point is inside both pentagons by more than
  `mu = 2⁻⁵⁴`: there is no `w` with `cross e.1 e.2 w < -2⁻⁵⁴` for every edge `e` of both pentagons.  The margin is
  sharp up to a factor 4: `margin_sharp` gives a pair with a common point `2⁻⁵⁶` deep inside both.

How (parts 1–2): the relative configuration `(offset difference, flips, reflected?)` of the two final anchors is far
(`|Δ| > 2`) or one of 588 configurations, by induction on the depth over a neighbour relation closed under
subdivision; each of the 588 has a kernel-checked separating edge with slack `≤ 2⁻⁵⁴` (worst: `0.5865·2⁻⁵⁴`). -/
namespace A5.PD
open A5 A5.HilbertLocate A5.PG A5.CP

theorem internal_eq_listAnchorK (s n : Nat) (inv fl : Bool) (hs : s < 4 ^ n) :
    sToAnchorInternal s n inv fl = listAnchorK (shiftedDigits s n inv fl) := by
  rewrite [sToAnchorInternal_eq s n inv fl hs]
  unfold listAnchorK listAnchor
  rewrite [(shiftedDigits_spec s n inv fl).1]
  rfl

/-- the statement for the staged internal walk: both patterns (`fl`), both `invertJ`, except the combination
`fl ∧ inv` that no orientation uses -/
theorem internal_pentagons_cfg (n : Nat) (inv fl : Bool) (hc : (inv, fl) ∈ oriClasses) (s t : Nat) (hs : s < 4 ^ n)
    (ht : t < 4 ^ n) (hne : s ≠ t) :
    CfgOK (anchorCfg (finalAnchor s n inv fl) (finalAnchor t n inv fl)) ∧
      (finalAnchor s n inv fl).flips ∈ flips4 ∧ (finalAnchor t n inv fl).flips ∈ flips4 := by
  rewrite [finalAnchor_eq_stage, finalAnchor_eq_stage, internal_eq_listAnchorK s n inv fl hs,
    internal_eq_listAnchorK t n inv fl ht]
  obtain ⟨l1, d1⟩ := shiftedDigits_spec s n inv fl
  obtain ⟨l2, d2⟩ := shiftedDigits_spec t n inv fl
  exact lists_cfg inv fl hc n _ _ l1 l2 d1 d2 (fun h => hne (shiftedDigits_injective n inv fl s t hs ht h))

theorem adjustS_injective (rev : Bool) (n s t : Nat) (hs : s < 4 ^ n) (ht : t < 4 ^ n)
    (h : adjustS rev n s = adjustS rev n t) : s = t := by
  have := congrArg (adjustS rev n) h
  rewrite [adjustS_adjustS rev n s hs, adjustS_adjustS rev n t ht] at this
  exact this

theorem anchors_cfg (n o s t : Nat) (hn : n ≤ 30) (ho : o < 6) (hs : s < 4 ^ n) (ht : t < 4 ^ n) (hne : s ≠ t)
    (a b : Anchor) (ha : sToAnchor s n o = .ok a) (hb : sToAnchor t n o = .ok b) :
    CfgOK (anchorCfg a b) ∧ a.flips ∈ flips4 ∧ b.flips ∈ flips4 := by
  rewrite [sToAnchor_eq s n o hn hs] at ha
  rewrite [sToAnchor_eq t n o hn ht] at hb
  cases Outcome.ok.inj ha
  cases Outcome.ok.inj hb
  exact internal_pentagons_cfg n _ _ (mem_oriClasses _ _ (fun hh => flags_exclusive o ho hh)) _ _
    (adjustS_lt _ n s hs) (adjustS_lt _ n t ht) (fun h => hne (adjustS_injective _ n s t hs ht h))

/-- **C03, planar, exact arithmetic on the runtime constants, every depth.**  For every curve depth `n ≤ 30`, every
orientation `o < 6` and all positions `s ≠ t < 4^n`: no point lies inside both pentagons by more than the margin
`2⁻⁵⁴`, i.e. there is no `w` whose cross product with EVERY edge of both pentagons is `< -2⁻⁵⁴`
(`cross e.1 e.2 w = −|e| · (distance of w from the line of e)`, negative inside; lattice frame, edge length `≈ 0.425`). -/
theorem pentagons_disjoint_margin (n o s t : Nat) (hn : n ≤ 30) (ho : o < 6) (hs : s < 4 ^ n) (ht : t < 4 ^ n)
    (hne : s ≠ t) (a b : Anchor) (ha : sToAnchor s n o = .ok a) (hb : sToAnchor t n o = .ok b) :
    ¬∃ w, DeepIn (1 / 2 ^ 54) (pentagonQ a) w ∧ DeepIn (1 / 2 ^ 54) (pentagonQ b) w := by
  obtain ⟨h, f1, f2⟩ := anchors_cfg n o s t hn ho hs ht hne a b ha hb
  exact anchors_disjoint_of_cfg mu a b (cfg_disjoint _ f1 f2 h)

/-- non-vacuity: a reversing, inverting orientation (4), depth 3, two positions whose pentagons share an edge -/
example : ∃ a b, sToAnchor 11 3 4 = .ok a ∧ sToAnchor 12 3 4 = .ok b ∧
    ¬∃ w, DeepIn (1 / 2 ^ 54) (pentagonQ a) w ∧ DeepIn (1 / 2 ^ 54) (pentagonQ b) w := by
  obtain ⟨a, ha, _⟩ := locate_anchor ℚ 3 4 11 (by decide) (by decide) (by decide)
  obtain ⟨b, hb, _⟩ := locate_anchor ℚ 3 4 12 (by decide) (by decide) (by decide)
  exact ⟨a, b, ha, hb, pentagons_disjoint_margin 3 4 11 12 (by decide) (by decide) (by decide) (by decide) (by decide)
    a b ha hb⟩

/-- the predicate `DeepIn (1 / 2 ^ 54)` is satisfiable: the centre of a pentagon is that deep inside it (so the theorem
says something: the centre of one cell is never inside another cell by more than the margin) -/
example : sToAnchor 7 2 0 = .ok ⟨2, (0, 1), (1, 1)⟩ ∧
    DeepIn (1 / 2 ^ 54) (pentagonQ ⟨2, (0, 1), (1, 1)⟩) (centreQ ⟨2, (0, 1), (1, 1)⟩) := by decide +kernel

/-- **Corollary.**  Every point strictly inside two different cell pentagons of the same depth is, for some edge `e` of
one of the two, at most `2⁻⁵⁴` (in cross-product units) inside that edge: the overlap is contained in the
`mu`-neighbourhood of the two boundaries. -/
theorem pentagons_overlap_near_boundary (n o s t : Nat) (hn : n ≤ 30) (ho : o < 6) (hs : s < 4 ^ n) (ht : t < 4 ^ n)
    (hne : s ≠ t) (a b : Anchor) (ha : sToAnchor s n o = .ok a) (hb : sToAnchor t n o = .ok b) (w : ℚ × ℚ)
    (hwa : StrictIn (pentagonQ a) w) (hwb : StrictIn (pentagonQ b) w) :
    ∃ e ∈ edges (pentagonQ a) ++ edges (pentagonQ b), -(1 / 2 ^ 54) ≤ cross e.1 e.2 w ∧ cross e.1 e.2 w < 0 := by
  by_contra hcon
  push Not at hcon
  have deep : ∀ e ∈ edges (pentagonQ a) ++ edges (pentagonQ b), cross e.1 e.2 w < 0 → cross e.1 e.2 w < -(1 / 2 ^ 54) :=
    fun e he hlt => lt_of_not_ge fun hge => absurd hlt (not_lt.2 (hcon e he hge))
  exact pentagons_disjoint_margin n o s t hn ho hs ht hne a b ha hb
    ⟨w, fun e he => deep e (List.mem_append_left _ he) (hwa e he), fun e he => deep e (List.mem_append_right _ he) (hwb e he)⟩

/-- squared length of an edge -/
def sqLen (e : Pt × Pt) : ℚ := (e.2.1 - e.1.1) * (e.2.1 - e.1.1) + (e.2.2 - e.1.2) * (e.2.2 - e.1.2)

theorem sqLen_shift (t : Pt) (e : Pt × Pt) : sqLen (Prod.map (shift t) (shift t) e) = sqLen e := by
  unfold sqLen shift; simp only [Prod.map_fst, Prod.map_snd]; ring

theorem localPent_sqlen : ∀ F ∈ flips4, ∀ r : Bool, ∀ e ∈ edges (localPent F r), 9 / 50 ≤ sqLen e := by decide +kernel

/-- every edge of every cell pentagon has squared length `≥ 0.18` (the pentagon is equilateral with side `≈ 0.4251`) -/
theorem pentagon_edge_sqlen (a : Anchor) (hF : a.flips ∈ flips4) : ∀ e ∈ edges (pentagonQ a), 9 / 50 ≤ sqLen e := by
  intro e he
  rewrite [pentagonQ_eq, edges_map] at he
  obtain ⟨e0, he0, rfl⟩ := List.mem_map.1 he
  rewrite [sqLen_shift]
  exact localPent_sqlen _ hF _ e0 he0

/-- **Corollary, in lattice units.**  Every point strictly inside two different cell pentagons of the same depth lies
within `2⁻⁵²` lattice units of the line of some edge `e` of one of the two, on its inner side:
`(cross e w)² ≤ (2⁻⁵²)² · |e|²`, i.e. `distance(w, line e) = |cross e w| / |e| ≤ 2⁻⁵²`. -/
theorem pentagons_overlap_within (n o s t : Nat) (hn : n ≤ 30) (ho : o < 6) (hs : s < 4 ^ n) (ht : t < 4 ^ n)
    (hne : s ≠ t) (a b : Anchor) (ha : sToAnchor s n o = .ok a) (hb : sToAnchor t n o = .ok b) (w : ℚ × ℚ)
    (hwa : StrictIn (pentagonQ a) w) (hwb : StrictIn (pentagonQ b) w) :
    ∃ e ∈ edges (pentagonQ a) ++ edges (pentagonQ b), cross e.1 e.2 w < 0 ∧
      cross e.1 e.2 w * cross e.1 e.2 w ≤ (1 / 2 ^ 52) * (1 / 2 ^ 52) * sqLen e := by
  obtain ⟨_, f1, f2⟩ := anchors_cfg n o s t hn ho hs ht hne a b ha hb
  obtain ⟨e, he, h1, h2⟩ := pentagons_overlap_near_boundary n o s t hn ho hs ht hne a b ha hb w hwa hwb
  refine ⟨e, he, h2, ?_⟩
  have hl : 9 / 50 ≤ sqLen e := by
    rcases List.mem_append.1 he with h | h
    · exact pentagon_edge_sqlen a f1 e h
    · exact pentagon_edge_sqlen b f2 e h
  have hsq : cross e.1 e.2 w * cross e.1 e.2 w ≤ (1 / 2 ^ 54) * (1 / 2 ^ 54) := by nlinarith
  have : (1 / 2 ^ 54 : ℚ) * (1 / 2 ^ 54) ≤ (1 / 2 ^ 52) * (1 / 2 ^ 52) * (9 / 50) := by norm_num
  have h52 : (0 : ℚ) ≤ (1 / 2 ^ 52) * (1 / 2 ^ 52) := by norm_num
  nlinarith

/-- the plain property: no point strictly inside both pentagons -/
def pentagons_disjoint_statement : Prop :=
  ∀ (n o s t : Nat) (a b : Anchor), n ≤ 30 → o < 6 → s < 4 ^ n → t < 4 ^ n → s ≠ t →
    sToAnchor s n o = .ok a → sToAnchor t n o = .ok b →
    ¬∃ w, StrictIn (pentagonQ a) w ∧ StrictIn (pentagonQ b) w

/-- a point strictly inside the pentagons of positions 0 and 3 of depth 1, orientation 0: on the segment from the
midpoint of their (ideally common) edge `c d` towards the centre of the first pentagon, at `2⁻⁵⁸` of the way -/
def overlapWitness : ℚ × ℚ :=
  (37266408082866664443714673142346173 / 51922968585348276285304963292200960,
    6784282734308304226737756490486277 / 25961484292674138142652481646100480)

theorem overlap_witness : sToAnchor 0 1 0 = .ok ⟨0, (0, 0), (1, 1)⟩ ∧ sToAnchor 3 1 0 = .ok ⟨3, (1, 1), (-1, 1)⟩ ∧
    StrictIn (pentagonQ ⟨0, (0, 0), (1, 1)⟩) overlapWitness ∧
    StrictIn (pentagonQ ⟨3, (1, 1), (-1, 1)⟩) overlapWitness := by decide +kernel

/-- **finding**: in exact arithmetic on the runtime constants two different cells of the same depth DO share interior
points (a sliver about `3·10⁻¹⁷` lattice units wide along an ideally common edge) -/
theorem pentagons_disjoint_statement_false : ¬pentagons_disjoint_statement := by
  intro h
  obtain ⟨h1, h2, h3, h4⟩ := overlap_witness
  exact h 1 0 0 3 _ _ (by decide) (by decide) (by decide) (by decide) (by decide) h1 h2 ⟨_, h3, h4⟩

/-- … and the overlap really is thin: the witness is less than `2⁻⁶⁰` inside the edge `c d` of the first pentagon -/
example : ∃ e ∈ edges (pentagonQ ⟨0, (0, 0), (1, 1)⟩), -(1 / 2 ^ 60) ≤ cross e.1 e.2 overlapWitness := by
  decide +kernel

/-- **the margin cannot be improved by more than a factor 4**: the same two pentagons have a common point that is
`2⁻⁵⁶` deep inside both (near the end `d` of the ideally common edge, half-way between the two edge lines) -/
theorem margin_sharp : ∃ w : ℚ × ℚ, DeepIn (1 / 2 ^ 56) (pentagonQ ⟨0, (0, 0), (1, 1)⟩) w ∧
    DeepIn (1 / 2 ^ 56) (pentagonQ ⟨3, (1, 1), (-1, 1)⟩) w :=
  ⟨(3855429376580265074033 / 2 ^ 72, 356497222663308834243 / 2 ^ 72), by decide +kernel, by decide +kernel⟩

/-- **far pairs, exact.**  Any two anchors with `±1` flips whose offsets differ by more than 2 in the hexagonal lattice
norm (`|Δi| > 2`, `|Δj| > 2` or `|Δi + Δj| > 2`) have pentagons with disjoint interiors — no margin, any `k`, any
offsets (not only anchors of the same walk). -/
theorem far_pentagons_disjoint (a b : Anchor) (ha : IsFlip a.flips) (hb : IsFlip b.flips)
    (hfar : ¬HexLe 2 (b.offset.1 - a.offset.1, b.offset.2 - a.offset.2)) :
    ¬∃ w, StrictIn (pentagonQ a) w ∧ StrictIn (pentagonQ b) w := by
  rintro ⟨w, h1, h2⟩
  rewrite [strictIn_iff_deepIn] at h1 h2
  exact anchors_disjoint_of_cfg 0 a b
    (cfg_far_disjoint (le_refl 0) _ (mem_flips4 _ ha) (mem_flips4 _ hb) hfar) ⟨w, h1, h2⟩

/-- the hypothesis is satisfiable by anchors of one walk: positions 0 and 15 of depth 2, orientation 0 -/
example : sToAnchor 0 2 0 = .ok ⟨0, (0, 0), (1, 1)⟩ ∧ sToAnchor 15 2 0 = .ok ⟨3, (3, 0), (1, 1)⟩ ∧
    ¬∃ w, StrictIn (pentagonQ ⟨0, (0, 0), (1, 1)⟩) w ∧ StrictIn (pentagonQ ⟨3, (3, 0), (1, 1)⟩) w :=
  ⟨by decide +kernel, by decide +kernel,
    far_pentagons_disjoint _ _ (Or.inl rfl) (Or.inl rfl) (by decide)⟩

/-- **siblings.**  The four children `4·s + d` (`d < 4`) of one position of depth `n` have pairwise disjoint pentagons
up to the margin `2⁻⁵⁴` (special case of the main theorem). -/
theorem siblings_disjoint_margin (n o s d d' : Nat) (hn : n + 1 ≤ 30) (ho : o < 6) (hs : s < 4 ^ n) (hd : d < 4)
    (hd' : d' < 4) (hne : d ≠ d') (a b : Anchor) (ha : sToAnchor (4 * s + d) (n + 1) o = .ok a)
    (hb : sToAnchor (4 * s + d') (n + 1) o = .ok b) :
    ¬∃ w, DeepIn (1 / 2 ^ 54) (pentagonQ a) w ∧ DeepIn (1 / 2 ^ 54) (pentagonQ b) w :=
  pentagons_disjoint_margin (n + 1) o _ _ hn ho (child_lt s n d hs hd) (child_lt s n d' hs hd') (by omega) a b ha hb

end A5.PD
