import A5.Lemmas.PentagonConvex
import A5.Lemmas.BoundarySkel
/-! # Winding, convexity and centre-inside survive the rest of `get_pentagon_vertices` (exact arithmetic)

`A5/Lemmas/PentagonConvex.lean` proves winding / strict convexity / centre strictly inside for the lattice-frame
pentagon `pentagonQ a`.  `get_pentagon_vertices` then scales by `2^-resolution`, multiplies by the quintant rotation
matrix and passes the result through `PentagonShape::new` (inside `transform`).  Here:

* `getPentagonVertices_tie`: the whole `Float` function is the generic chain `polyNewG ∘ transformG ∘ scaleG'`
  ∘ `pentagonLocalG` evaluated at `Float` (structure only);
* `placedQ_facts`: in exact arithmetic, for any scale `s > 0` and ANY matrix of positive determinant (the quintant
  rotation `(c, -s, s, c)` has determinant `c² + s² > 0` whatever the rounded `cos`/`sin` are), the trapezoid sum and
  all cross products are multiplied by `det · s²`: the winding test passes, `PentagonShape::new` is the identity, the
  centre is the image of the centre and is strictly inside, the pentagon is strictly convex;
* `triQ_facts`: the same three facts for the quintant triangle `[U, V, W]` of the runtime constants.

Not covered: the face pentagon (`getFaceVertices`) - its vertices are `Float` `cos`/`sin` images of `v`, there is no
exact-arithmetic counterpart among the runtime constants. -/
namespace A5.PG
open A5 A5.HilbertLocate

section maps
variable {K : Type} [Field K]

theorem getD_map_lt {β γ : Type} (f : β → γ) (l : List β) (i : Nat) (h : i < l.length) (d : β) (d' : γ) :
    (l.map f).getD i d' = f (l.getD i d) := by
  simp [List.getD_eq_getElem?_getD, List.getElem?_eq_getElem h]

theorem crossesG_map (f : K × K → K × K) (κ : K) (hf : ∀ x y z, crossG (f x) (f y) (f z) = κ * crossG x y z)
    (vs : List (K × K)) (p : K × K) :
    crossesG 0 (vs.map f) (f p) = (crossesG 0 vs p).map (κ * ·) := by
  unfold crossesG
  rewrite [List.map_map, List.length_map]
  refine List.map_congr_left ?_
  intro i hi
  have hi : i < vs.length := List.mem_range.1 hi
  have hj : (i + 1) % vs.length < vs.length := Nat.mod_lt _ (by omega)
  simp only [Function.comp]
  rewrite [getD_map_lt f vs i hi (0, 0), getD_map_lt f vs _ hj (0, 0)]
  exact hf _ _ _

theorem edgeCrossesG_map (f : K × K → K × K) (κ : K) (hf : ∀ x y z, crossG (f x) (f y) (f z) = κ * crossG x y z)
    (vs : List (K × K)) :
    edgeCrossesG 0 (vs.map f) = (edgeCrossesG 0 vs).map (κ * ·) := by
  unfold edgeCrossesG
  rewrite [List.map_flatMap, List.length_map]
  refine List.flatMap_congr ?_
  intro i hi
  have hi : i < vs.length := List.mem_range.1 hi
  have hj : (i + 1) % vs.length < vs.length := Nat.mod_lt _ (by omega)
  rewrite [List.map_map]
  refine List.map_congr_left ?_
  intro j hjm
  have hj' : j < vs.length := List.mem_range.1 (List.mem_filter.1 hjm).1
  simp only [Function.comp]
  rewrite [getD_map_lt f vs i hi (0, 0), getD_map_lt f vs _ hj (0, 0), getD_map_lt f vs j hj' (0, 0)]
  exact hf _ _ _

theorem cross_apply (m : K × K × K × K) (x y z : K × K) :
    crossG (applyG m x) (applyG m y) (applyG m z) = detG m * crossG x y z := by
  simp only [crossG, applyG, detG]; ring

theorem scaleG'_eq_transform (vs : List (K × K)) (s : K) : scaleG' vs s = transformG (s, 0, 0, s) vs := by
  unfold scaleG' transformG applyG
  refine List.map_congr_left ?_
  intro v _
  simp [mul_comm]

theorem area_transform (p0 p1 p2 p3 p4 : K × K) (m : K × K × K × K) :
    areaG 0 (transformG m [p0, p1, p2, p3, p4]) = detG m * areaG 0 [p0, p1, p2, p3, p4] := by
  simp only [transformG, List.map_cons, List.map_nil, areaG_five, applyG, detG]; ring

theorem area_transform3 (p0 p1 p2 : K × K) (m : K × K × K × K) :
    areaG 0 (transformG m [p0, p1, p2]) = detG m * areaG 0 [p0, p1, p2] := by
  simp [transformG, applyG, detG, areaG, areaG.go]; ring

theorem centre_transform3 (p0 p1 p2 : K × K) (m : K × K × K × K) :
    centreG 0 3 (transformG m [p0, p1, p2]) = applyG m (centreG 0 3 [p0, p1, p2]) := by
  simp [transformG, applyG, centreG]; constructor <;> ring

theorem centre_transform (p0 p1 p2 p3 p4 : K × K) (m : K × K × K × K) :
    centreG 0 5 (transformG m [p0, p1, p2, p3, p4]) = applyG m (centreG 0 5 [p0, p1, p2, p3, p4]) := by
  simp only [transformG, List.map_cons, List.map_nil, centreG_five, applyG]
  exact Prod.ext (by ring) (by ring)

end maps

theorem polyScale_tie (vs : Poly) (s : Float) : (polyScale vs s).map toPair = scaleG' (vs.map toPair) s := by
  simp only [polyScale, scaleG', List.map_map]; rfl

theorem transformPoly_tie (vs : Poly) (m : Float × Float × Float × Float) (h : vs.length = 5) :
    (transformPoly vs m).map toPair = polyNewG (0.0 : Float) (transformG m (vs.map toPair)) := by
  obtain ⟨m00, m01, m10, m11⟩ := m
  unfold transformPoly
  simp only [List.length_map, h, true_or, if_true]
  rewrite [polyNew_tie]
  simp only [transformG, List.map_map]
  rfl

theorem getPentagonLocal_length (a : Anchor) : (getPentagonLocal a).length = 5 := by
  have h := congrArg List.length (pentagonLocal_tie a)
  rewrite [List.length_map, pentagonLocalG_length, List.length_map, pentagon_length] at h
  exact h

/-- **tie**: the whole of `get_pentagon_vertices` is the generic chain evaluated at `Float` -/
theorem getPentagonVertices_tie (resolution : Int) (quintant : Nat) (a : Anchor) :
    (getPentagonVertices resolution quintant a).map toPair =
      polyNewG (0.0 : Float) (transformG (quintantRotation quintant)
        (scaleG' (pentagonLocalG (pentagonConstants.pentagon.map toPair) (toPair pentagonConstants.w)
            pentagonConstants.basis Float.ofInt a)
          (1.0 / (if resolution ≥ 0 then Float.ofNat (2 ^ resolution.toNat)
                  else 1.0 / Float.ofNat (2 ^ (-resolution).toNat))))) := by
  unfold getPentagonVertices
  simp only []
  rewrite [transformPoly_tie _ _ (by rewrite [polyScale, List.length_map]; exact getPentagonLocal_length a),
    polyScale_tie, pentagonLocal_tie]
  rfl

/-- the pentagon of anchor `a` scaled by `s` and multiplied by the matrix `m` (what `get_pentagon_vertices` feeds to
`PentagonShape::new`, with `s = 2^-resolution` and `m` the quintant rotation) -/
def placedQ (a : Anchor) (s : Rat) (m : Rat × Rat × Rat × Rat) : List (Rat × Rat) :=
  transformG m (scaleG' (pentagonQ a) s)

theorem InsideBy.map_pos {μ κ : Rat} (hκ : 0 < κ) (f : Rat × Rat → Rat × Rat)
    (hf : ∀ x y z, crossG (f x) (f y) (f z) = κ * crossG x y z) {vs : List (Rat × Rat)} {p : Rat × Rat}
    (h : InsideBy 0 μ vs p) : InsideBy 0 (κ * μ) (vs.map f) (f p) := by
  unfold InsideBy at h ⊢
  rewrite [crossesG_map f κ hf]
  intro c hc
  obtain ⟨c', hc', rfl⟩ := List.mem_map.1 hc
  exact mul_lt_mul_of_pos_left (h c' hc') hκ

theorem ConvexBy.map_pos {μ κ : Rat} (hκ : 0 < κ) (f : Rat × Rat → Rat × Rat)
    (hf : ∀ x y z, crossG (f x) (f y) (f z) = κ * crossG x y z) {vs : List (Rat × Rat)}
    (h : ConvexBy 0 μ vs) : ConvexBy 0 (κ * μ) (vs.map f) := by
  unfold ConvexBy at h ⊢
  rewrite [edgeCrossesG_map f κ hf]
  intro c hc
  obtain ⟨c', hc', rfl⟩ := List.mem_map.1 hc
  exact mul_lt_mul_of_pos_left (h c' hc') hκ

/-- **Scaling by a positive factor, any matrix of positive determinant and the final `PentagonShape::new` do not change
(i)-(iii).**  With `κ = det m · s²`: the trapezoid sum is `κ` times the seed's and positive, `PentagonShape::new` is the
identity, `get_center` of the result is the image of `centreQ a`, every `contains_point` cross product of that centre
exceeds `0.096 κ`, and for each edge the other three vertices are inside by more than `0.09 κ`. -/
theorem placedQ_facts (a : Anchor) (hF : IsFlip a.flips) (s : Rat) (hs : 0 < s) (m : Rat × Rat × Rat × Rat)
    (hd : 0 < detG m) :
    areaG 0 (placedQ a s m) = detG m * (s * s) * areaG 0 seedQ ∧
    0 < areaG 0 (placedQ a s m) ∧
    polyNewG 0 (placedQ a s m) = placedQ a s m ∧
    centreG 0 5 (placedQ a s m) = applyG m (applyG (s, 0, 0, s) (centreQ a)) ∧
    InsideBy 0 (detG m * (s * s) * (96 / 1000)) (placedQ a s m) (centreG 0 5 (placedQ a s m)) ∧
    ConvexBy 0 (detG m * (s * s) * (9 / 100)) (placedQ a s m) := by
  -- scaling and the matrix are one matrix `M` with `det M = det m · s²`
  obtain ⟨m0, m1, m2, m3⟩ := m
  have hM : detG (m0 * s, m1 * s, m2 * s, m3 * s) = detG (m0, m1, m2, m3) * (s * s) := by simp only [detG]; ring
  have hκ : 0 < detG (m0 * s, m1 * s, m2 * s, m3 * s) := hM ▸ mul_pos hd (mul_pos hs hs)
  have hcomp : ∀ v, applyG (m0, m1, m2, m3) (applyG (s, 0, 0, s) v) = applyG (m0 * s, m1 * s, m2 * s, m3 * s) v :=
    fun v => by simp only [applyG]; exact Prod.ext (by ring) (by ring)
  have hmap : placedQ a s (m0, m1, m2, m3) = transformG (m0 * s, m1 * s, m2 * s, m3 * s) (pentagonQ a) := by
    unfold placedQ
    rewrite [scaleG'_eq_transform]
    simp only [transformG, List.map_map]
    exact List.map_congr_left fun v _ => hcomp v
  obtain ⟨q0, q1, q2, q3, q4, hq⟩ := eq_five (pentagonQ_length a)
  have harea : areaG 0 (placedQ a s (m0, m1, m2, m3)) = detG (m0, m1, m2, m3) * (s * s) * areaG 0 seedQ := by
    rewrite [hmap, hq, area_transform, ← hq, pentagonQ_area a, hM]; rfl
  have hpos : 0 < areaG 0 (placedQ a s (m0, m1, m2, m3)) := by
    rewrite [harea, ← hM]; exact mul_pos hκ seed_area_facts.1
  have hc : centreG 0 5 (placedQ a s (m0, m1, m2, m3)) = applyG (m0, m1, m2, m3) (applyG (s, 0, 0, s) (centreQ a)) := by
    rewrite [hmap, hq, centre_transform, ← hq, hcomp]; rfl
  refine ⟨harea, hpos, if_pos (le_of_lt hpos), hc, ?_, ?_⟩
  · rewrite [hc, hcomp, hmap, ← hM]
    exact (centreQ_insideBy a hF).map_pos hκ _ (cross_apply _)
  · rewrite [hmap, ← hM]
    exact (pentagonQ_convexBy a hF).map_pos hκ _ (cross_apply _)

theorem placedQ_strict (a : Anchor) (hF : IsFlip a.flips) (s : Rat) (hs : 0 < s) (m : Rat × Rat × Rat × Rat)
    (hd : 0 < detG m) :
    WindingCorrectG 0 (polyNewG 0 (placedQ a s m)) ∧
    StrictlyInside 0 (polyNewG 0 (placedQ a s m)) (centreG 0 5 (polyNewG 0 (placedQ a s m))) ∧
    StrictlyConvex 0 (polyNewG 0 (placedQ a s m)) := by
  obtain ⟨_, hpos, hnew, _, hin, hcv⟩ := placedQ_facts a hF s hs m hd
  have hκ : 0 < detG m * (s * s) := mul_pos hd (mul_pos hs hs)
  rewrite [hnew]
  exact ⟨le_of_lt hpos, hin.strictly (le_of_lt (mul_pos hκ (by norm_num))),
    hcv.strictly (le_of_lt (mul_pos hκ (by norm_num)))⟩

/-- non-vacuity: resolution 3 (`s = 1/8`) and a rational rotation matrix (3-4-5 triangle) -/
example : StrictlyInside 0 (polyNewG 0 (placedQ ⟨2, (3, -7), (-1, 1)⟩ (1 / 8) (3 / 5, -(4 / 5), 4 / 5, 3 / 5)))
    (centreG 0 5 (polyNewG 0 (placedQ ⟨2, (3, -7), (-1, 1)⟩ (1 / 8) (3 / 5, -(4 / 5), 4 / 5, 3 / 5)))) :=
  (placedQ_strict _ (by simp [IsFlip]) _ (by norm_num) _ (by decide +kernel)).2.1
/-- cross-check by direct kernel evaluation -/
example : StrictlyInside 0 (polyNewG 0 (placedQ ⟨2, (3, -7), (-1, 1)⟩ (1 / 8) (3 / 5, -(4 / 5), 4 / 5, 3 / 5)))
    (centreG 0 5 (polyNewG 0 (placedQ ⟨2, (3, -7), (-1, 1)⟩ (1 / 8) (3 / 5, -(4 / 5), 4 / 5, 3 / 5)))) := by
  unfold StrictlyInside InsideBy; decide +kernel

/-- the quintant triangle `[u, v, w]` with the exact values of the `f64` constants computed at start-up -/
def triQ : List (Rat × Rat) := [ratPair Gen.Runtime.U, ratPair Gen.Runtime.V, ratPair Gen.Runtime.W]

/-- **the three facts for the quintant triangle** (kernel-evaluated): the padded five-vertex list the constants module
builds and the three-vertex list `get_quintant_vertices` extracts both pass the winding test (`PentagonShape::new` and
`new_triangle` keep the order), the single orientation is positive (> 0.55: strictly convex, every edge has the third
vertex strictly inside), and the centre of the three vertices is strictly inside (> 0.18). -/
theorem triQ_facts :
    polyNewG 0 (triQ ++ [(0, 0), (0, 0)]) = triQ ++ [(0, 0), (0, 0)] ∧
    (polyNewG 0 (triQ ++ [(0, 0), (0, 0)])).take 3 = triQ ∧
    0 < areaG 0 triQ ∧ polyNewG 0 triQ = triQ ∧
    ConvexBy 0 (55 / 100) triQ ∧ InsideBy 0 (18 / 100) triQ (centreG 0 3 triQ) := by
  unfold ConvexBy InsideBy
  decide +kernel

/-- the triangle facts under any matrix of positive determinant (the quintant rotation of `get_quintant_vertices`) -/
theorem triQ_transform (m : Rat × Rat × Rat × Rat) (hd : 0 < detG m) :
    0 < areaG 0 (transformG m triQ) ∧ polyNewG 0 (transformG m triQ) = transformG m triQ ∧
    InsideBy 0 (detG m * (18 / 100)) (transformG m triQ) (centreG 0 3 (transformG m triQ)) ∧
    ConvexBy 0 (detG m * (55 / 100)) (transformG m triQ) := by
  have hpos : 0 < areaG 0 (transformG m triQ) := by
    unfold triQ; rewrite [area_transform3]; exact mul_pos hd triQ_facts.2.2.1
  have hc : centreG 0 3 (transformG m triQ) = applyG m (centreG 0 3 triQ) := by
    unfold triQ; exact centre_transform3 _ _ _ _
  rewrite [hc]
  exact ⟨hpos, if_pos (le_of_lt hpos), triQ_facts.2.2.2.2.2.map_pos hd _ (cross_apply m), triQ_facts.2.2.2.2.1.map_pos hd _ (cross_apply m)⟩

end A5.PG
