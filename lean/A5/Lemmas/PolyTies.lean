import A5.Model.GenericPoly
import A5.Lemmas.PolyhedralRoundTrip
import Mathlib.Analysis.SpecialFunctions.Trigonometric.Bounds
/-! # The real transcriptions of the polyhedral projection are the generic twins at `ℝ`

`A5/Model/GenericPoly.lean` (core only) defines generic twins of `vector.rs`, `get_triangle_area` and `polyhedral.rs`
and ties them to the `Float` model (`A5.GP.*_tie`: `model function = twin floatKit`).  The theorems of
`RadialRoundTrip.lean`, `AngularRoundTrip.lean`, `PolyhedralRoundTrip.lean` are about hand-written real transcriptions on the structure `R3`.
This file instantiates the twins at `ℝ` (`realKit`: real functions for libm, exact `FConst.toRat` values for the generated
constants), proves that each transcription is the twin at `ℝ` (`*_tie`: `rfl`, or unfolding and pushing `toTR` through an
`if`; no mathematics), and restates the headline theorems on the twins (`*_on_twin`: nothing but twins and `realKit` in
the statements).

## Correspondence

| model (`Geo.lean`)                | twin (`GenericPoly.lean`)      | real transcription          | relation at `ℝ`          |
|-----------------------------------|--------------------------------|-----------------------------|---------------------------|
| `v3dot`                           | `dotG`                         | `dotR`                      | `dotR_tie`, `rfl`         |
| `v3cross`                         | `crossG`                       | `crossR`                    | `crossR_tie`, `rfl`       |
| `v3length`                        | `lengthG`                      | `lengthR`                   | `lengthR_tie`, `rfl`      |
| `v3normalize`                     | `normalizeG`                   | `normalizeR`                | `normalizeR_tie` (ite)    |
| `v3lerp` `v3sub` `v3add` `v3scale`| `lerpG` `subG` `addG` `vscaleG`| `lerpR` `subR` `addR` `scaleR` | `rfl`                  |
| `fclamp1`                         | `clamp1G`                      | `clamp1R`                   | `clamp1R_tie`, `rfl`      |
| `v3angle` (the `gamma` of `slerp`)| `angleG`                       | `angleR`                    | `angleR_tie`, `rfl`       |
| `slerp` (both branches)           | `slerpG`                       | `slerpR`                    | `slerpR_tie` (ite)        |
| `vectorDifference` (both branches)| `vectorDifferenceG`            | `vectorDifferenceR`         | `vectorDifferenceR_tie`   |
| `v3dot a (v3cross b c)` (inline)  | `tripleG`                      | `tripleR`                   | `tripleR_tie`, `rfl`      |
| `quadrupleProduct`                | `quadrupleProductG`            | `quadrupleProductR`         | `rfl`                     |
| the `s` of `sphTriangleArea`      | `midTripleG`                   | `midTripleR`                | `midTripleR_tie`          |
| `sphTriangleArea` (both branches) | `triAreaG`                     | `triAreaR` (one branch)     | `triAreaG_real`, **D1**   |
| `safeAcos`                        | `GP.safeAcosG`                 | `safeAcosR`                 | `safeAcosR_tie_GP`, `rfl` |
| `f`, `g`, `q` of the inverse      | `edgeFG` `edgeGG` `edgeParamG` | `edgeF` `edgeG` `edgeParamR`| `rfl`                     |
| `p` of `polyhedralForward`        | `forwardPointG`                | `forwardPointR`             | `forwardPointR_tie`       |
| `polyhedralForward` (to bary.)    | `forwardBaryG`                 | `forwardBaryR`              | `forwardBaryR_tie`, **D2**|
| `polyhedralInverse` (from bary.)  | `inverseBaryG` / `inverseCoreG`| `inverseBarySafeR`          | `inverseBarySafeR_tie`, **D3** |
|                                   | `inverseCoreG … (2 arcsin)`    | `inverseBaryR`              | `inverseBaryR_tie`, **D3**, **D4** |

## Where the real transcriptions differ from the model's expression trees

All vector helpers, `angle`, `slerp` (with its `lerp` branch), `vector_difference` (both branches),
`quadruple_product`, the midpoint triple product, `safe_acos`, and the `f`/`g`/`q` formulas of the inverse are the
model's trees verbatim (`0.5 ↦ 1/2`, `1.0 ↦ 1`, `2.0 ↦ 2`, `3.0 ↦ 3`).  The differences are:

* **D1 `triAreaR` drops a branch.**  `get_triangle_area` returns `2 * clamped` when `|clamped| < TRI_AREA_SWITCH`
  (`1e-8`) and `asin clamped * 2` otherwise; `triAreaR` is the second branch only.  Exact relation: `triAreaG_real`
  (`twin = if |clamp s| < switch then 2 * clamp s else triAreaR`).  They agree when the twin is on the `asin` branch
  (`OnAsinBranch`) or `s = 0` (`AreaAgrees`, `triAreaG_of_agrees`); on the small branch with `s ≠ 0` they differ
  (`2 s` against `2 asin s`, relative difference about `s²/6 < 2e-17`), so the *exact* statements about areas
  (`triAreaR_eq_arctan`, `angular_inverse_formula`, `angular_forward_formula`, `polyhedral_roundtrip_exact`) do
  not transfer to that branch: `triArea_on_twin` states what the twin computes there.
* **D2 `forwardBaryR`** is `polyhedralForward`'s barycentric computation with `triAreaR` for its three areas
  (`a b c`, `a p c`, `a b p`): equal to the twin when the three triangles satisfy `AreaAgrees` (`forwardBaryR_tie`).
  In the round-trip theorems `p = slerp b c q`, so this excludes `q` within roughly `1e-8` of `0` or `1` (not `q = 0`,
  `q = 1` themselves, where `s = 0`).
* **D3 `inverseBaryR`, `inverseBarySafeR` omit the vertex snapping** of `polyhedralInverse`
  (`if bu > 1 - 1e-14 then a else if bv > … then b else if bw > … then c`), and use `triAreaR` for `area(a,b,c)`.
  They are tied to `inverseCoreG`, the twin of the general branch; the full twin `inverseBaryG` reduces to it when no
  coordinate exceeds `1 - POLY_SNAP_EPS` (`GP.inverseBaryG_of_not_snap`, `polyhedral_roundtrip_full_twin`).
  When a coordinate does exceed it the code returns the vertex; no theorem covers that case.
* **D4 `inverseBaryR` idealises `safe_acos` to `2 arcsin`.**  It is therefore not a transcription of the model but of
  `inverseCoreG` with its `sacos` parameter set to `fun x => 2 * arcsin x`; `polyhedral_roundtrip_on_twin` says so in
  its statement.  The transcription of the model proper is `inverseBarySafeR`
  (`polyhedral_roundtrip_safeAcos_on_twin`, bound `5e-16`).
* **D5 `normalizeR` tests `len = 0`** (a `Prop`) where the model tests `len == 0.0` (IEEE equality, a `Bool`); the twin
  abstracts both as `Kit.isZero`.  Not a difference of trees.
* Not a discrepancy of trees, and outside what a tie can say: `realKit` *interprets* `Float.sqrt/sin/acos/asin/atan2/abs`
  as `Real.sqrt/sin/arccos/arcsin/atan2R/|·|` and the constants as their `toRat` values (`atan2R` has no signed zeros,
  `Real.sqrt` of a negative number is `0`, `Real.arcsin`/`arccos` clamp their argument, there is no NaN).  Nothing
  here is about floating-point rounding.

The `*_on_twin` statements keep the hypotheses of the theorems they restate: `SLERP_SWITCH ≤ ∠(b,c)`, `SLERP_SWITCH ≤ ∠(a,p)` (the `lerp`
branch of `slerp` is in the twin but no theorem covers it), `0 < s`. -/
namespace A5.PolyTies
open A5 Real A5.GP A5.RadialRoundTrip A5.AngularRoundTrip

/-- exact value of the generated `TRI_AREA_SWITCH` (`1e-8` in the Rust source) -/
noncomputable def triAreaSwitch : ℝ := ((Gen.TRI_AREA_SWITCH.toRat : ℚ) : ℝ)
/-- exact value of the generated `POLY_SNAP_EPS` (`1e-14` in the Rust source) -/
noncomputable def snapEps : ℝ := ((Gen.POLY_SNAP_EPS.toRat : ℚ) : ℝ)

/-- the real interpretation of the scalar kit: real functions for the libm functions, exact values for the literals
and for the generated constants (`vecdiffSwitch`, `slerpSwitch`, `safeAcosSwitch` are the definitions of
`RadialRoundTrip.lean`) -/
noncomputable def realKit : Kit ℝ where
  sqrt := Real.sqrt
  sin := Real.sin
  acos := Real.arccos
  asin := Real.arcsin
  atan2 := atan2R
  abs := fun x => |x|
  isZero := fun x => x = 0
  isZeroDec := fun x => inferInstanceAs (Decidable (x = 0))
  half := 1 / 2
  one := 1
  two := 2
  three := 3
  vecdiffSwitch := vecdiffSwitch
  slerpSwitch := slerpSwitch
  triAreaSwitch := triAreaSwitch
  safeAcosSwitch := safeAcosSwitch
  snapEps := snapEps

/-- the constants of `realKit` are the `toRat` values of the same generated constants that `floatKit` reads with
`fc` (`FConst.toFloat`) -/
theorem realKit_constants :
    realKit.vecdiffSwitch = ((Gen.VECDIFF_SWITCH.toRat : ℚ) : ℝ) ∧
    realKit.slerpSwitch = ((Gen.SLERP_SWITCH.toRat : ℚ) : ℝ) ∧
    realKit.triAreaSwitch = ((Gen.TRI_AREA_SWITCH.toRat : ℚ) : ℝ) ∧
    realKit.safeAcosSwitch = ((Gen.SAFE_ACOS_SWITCH.toRat : ℚ) : ℝ) ∧
    realKit.snapEps = ((Gen.POLY_SNAP_EPS.toRat : ℚ) : ℝ) ∧
    floatKit.vecdiffSwitch = fc Gen.VECDIFF_SWITCH ∧ floatKit.slerpSwitch = fc Gen.SLERP_SWITCH ∧
    floatKit.triAreaSwitch = fc Gen.TRI_AREA_SWITCH ∧ floatKit.safeAcosSwitch = fc Gen.SAFE_ACOS_SWITCH ∧
    floatKit.snapEps = fc Gen.POLY_SNAP_EPS :=
  ⟨rfl, rfl, rfl, rfl, rfl, rfl, rfl, rfl, rfl, rfl⟩

/-- `R3` as a triple -/
def toTR (v : R3) : T3 ℝ := (v.x, v.y, v.z)
def ofTR (t : T3 ℝ) : R3 := ⟨t.1, t.2.1, t.2.2⟩
theorem ofTR_toTR (v : R3) : ofTR (toTR v) = v := rfl
theorem toTR_ofTR (t : T3 ℝ) : toTR (ofTR t) = t := rfl

theorem dotR_tie (a b : R3) : dotR a b = dotG (toTR a) (toTR b) := rfl
theorem crossR_tie (a b : R3) : toTR (crossR a b) = crossG (toTR a) (toTR b) := rfl
theorem lengthR_tie (v : R3) : lengthR v = lengthG realKit (toTR v) := rfl
theorem lerpR_tie (a b : R3) (t : ℝ) : toTR (lerpR a b t) = lerpG (toTR a) (toTR b) t := rfl
theorem subR_tie (a b : R3) : toTR (subR a b) = subG (toTR a) (toTR b) := rfl
theorem addR_tie (a b : R3) : toTR (addR a b) = addG (toTR a) (toTR b) := rfl
theorem scaleR_tie (v : R3) (s : ℝ) : toTR (scaleR v s) = vscaleG (toTR v) s := rfl
theorem clamp1R_tie (x : ℝ) : clamp1R x = clamp1G (1 : ℝ) x := rfl

/-- `normalize`: the two sides are `toTR (if c then v else w)` and `if c then toTR v else toTR w` -/
theorem normalizeR_tie (v : R3) : toTR (normalizeR v) = normalizeG realKit (toTR v) := by
  unfold normalizeR normalizeG
  exact apply_ite toTR _ _ _

theorem angleR_tie (a b : R3) : angleR a b = angleG realKit (toTR a) (toTR b) := rfl

/-- `slerp`, both branches, with the generated switch constant -/
theorem slerpR_tie (a b : R3) (t : ℝ) : toTR (slerpR a b t) = slerpG realKit (toTR a) (toTR b) t := by
  unfold slerpR slerpG
  simp only [apply_ite toTR, lerpR_tie, addR_tie, scaleR_tie]
  rfl

/-- `vector_difference`, both branches, with the generated switch constant -/
theorem vectorDifferenceR_tie (a b : R3) :
    vectorDifferenceR a b = vectorDifferenceG realKit (toTR a) (toTR b) := by
  unfold vectorDifferenceR vectorDifferenceG
  simp only [lengthR_tie, crossR_tie, normalizeR_tie, lerpR_tie, subR_tie]
  rfl

theorem tripleR_tie (a b c : R3) : tripleR a b c = tripleG (toTR a) (toTR b) (toTR c) := rfl
theorem quadrupleProductR_tie (a b c d : R3) :
    toTR (quadrupleProductR a b c d) = quadrupleProductG (toTR a) (toTR b) (toTR c) (toTR d) := rfl

/-- the `s` of `get_triangle_area` -/
theorem midTripleR_tie (v1 v2 v3 : R3) :
    midTripleR v1 v2 v3 = midTripleG realKit (toTR v1) (toTR v2) (toTR v3) := by
  unfold midTripleR midTripleG
  simp only [dotR_tie, crossR_tie, normalizeR_tie, lerpR_tie]
  rfl

/-- **D1, the exact relation** between the twin of `get_triangle_area` at `ℝ` and `triAreaR`: the twin has the
small-`|s|` branch `2 * clamped`, `triAreaR` is the other branch -/
theorem triAreaG_real (x y z : R3) :
    triAreaG realKit (toTR x) (toTR y) (toTR z) =
      if |clamp1R (midTripleR x y z)| < triAreaSwitch then 2 * clamp1R (midTripleR x y z)
      else triAreaR x y z := by
  unfold triAreaG triAreaR
  simp only [← midTripleR_tie]
  rfl

/-- `safe_acos`: the twin of `GenericPoly.lean` at `ℝ` is `safeAcosR` -/
theorem safeAcosR_tie_GP (x : ℝ) : safeAcosR x = GP.safeAcosG realKit x := rfl

/-- the twin of `safe_acos` in `GenericPoly.lean` is the one of `RadialRoundTrip.lean` (any scalar type) -/
theorem safeAcosG_eq {α : Type} [Add α] [Sub α] [Mul α] [Div α] [LT α] [DecidableLT α] (K : Kit α) (x : α) :
    GP.safeAcosG K x = RadialRoundTrip.safeAcosG K.acos K.one K.two K.three K.safeAcosSwitch x := rfl

/-- the model's `safeAcos` through either twin -/
theorem safeAcos_ties (x : Float) :
    safeAcos x = GP.safeAcosG floatKit x ∧
      safeAcos x = RadialRoundTrip.safeAcosG Float.acos 1.0 2.0 3.0 (fc Gen.SAFE_ACOS_SWITCH) x :=
  ⟨rfl, rfl⟩

theorem edgeF_tie (a b c : R3) (alpha : ℝ) :
    edgeF a b c alpha = edgeFG realKit (toTR a) (toTR b) (toTR c) alpha := rfl
theorem edgeG_tie (a b c : R3) (alpha : ℝ) :
    edgeG a b c alpha = edgeGG realKit (toTR a) (toTR b) (toTR c) alpha := rfl
theorem edgeParamR_tie (a b c : R3) (alpha : ℝ) :
    edgeParamR a b c alpha = edgeParamG realKit (toTR a) (toTR b) (toTR c) alpha := rfl

/-- the triangle is on the `asin` branch of `get_triangle_area` (real transcriptions) -/
def OnAsinBranch (x y z : R3) : Prop := triAreaSwitch ≤ |clamp1R (midTripleR x y z)|

def OnAsinBranchG (x y z : T3 ℝ) : Prop :=
  realKit.triAreaSwitch ≤ realKit.abs (clamp1G realKit.one (midTripleG realKit x y z))

theorem onAsinBranch_tie (x y z : R3) : OnAsinBranch x y z ↔ OnAsinBranchG (toTR x) (toTR y) (toTR z) := by
  unfold OnAsinBranch OnAsinBranchG
  rw [← midTripleR_tie]
  rfl

theorem triAreaG_of_ge {x y z : R3} (h : OnAsinBranch x y z) :
    triAreaG realKit (toTR x) (toTR y) (toTR z) = triAreaR x y z := by
  rw [triAreaG_real, if_neg (not_lt.mpr h)]

/-- the twin's area and `triAreaR` agree: on the `asin` branch, and also when `s = 0` (both branches give `0`;
this is the case of a degenerate triangle, e.g. `a b p` with `p = b`) -/
def AreaAgrees (x y z : R3) : Prop := OnAsinBranch x y z ∨ clamp1R (midTripleR x y z) = 0

def AreaAgreesG (x y z : T3 ℝ) : Prop :=
  OnAsinBranchG x y z ∨ clamp1G realKit.one (midTripleG realKit x y z) = 0

theorem areaAgrees_tie (x y z : R3) : AreaAgrees x y z ↔ AreaAgreesG (toTR x) (toTR y) (toTR z) := by
  unfold AreaAgrees AreaAgreesG
  rw [onAsinBranch_tie, ← midTripleR_tie]
  rfl

theorem OnAsinBranch.agrees {x y z : R3} (h : OnAsinBranch x y z) : AreaAgrees x y z := Or.inl h
theorem OnAsinBranchG.agrees {x y z : T3 ℝ} (h : OnAsinBranchG x y z) : AreaAgreesG x y z := Or.inl h

/-- **tie for `get_triangle_area`**: `triAreaR` (the `asin` branch only) equals the twin at `ℝ` whenever the
twin is on that branch or `s = 0` -/
theorem triAreaG_of_agrees {x y z : R3} (h : AreaAgrees x y z) :
    triAreaG realKit (toTR x) (toTR y) (toTR z) = triAreaR x y z := by
  rcases h with h | h
  · exact triAreaG_of_ge h
  · rw [triAreaG_real]
    split_ifs
    · unfold triAreaR; rw [h]; simp
    · rfl

theorem forwardPointR_tie (a b c v : R3) :
    toTR (forwardPointR a b c v) = forwardPointG realKit (toTR a) (toTR b) (toTR c) (toTR v) := by
  unfold forwardPointR forwardPointG
  simp only [normalizeR_tie, quadrupleProductR_tie, subR_tie]

/-- **D2**: `forwardBaryR` is the twin of `polyhedralForward` (barycentric level) at `ℝ` when its three triangle
areas agree with the twin's (`AreaAgrees`) -/
theorem forwardBaryR_tie {a b c v : R3} (h1 : AreaAgrees a b c)
    (h2 : AreaAgrees a (forwardPointR a b c v) c) (h3 : AreaAgrees a b (forwardPointR a b c v)) :
    forwardBaryR a b c v = forwardBaryG realKit (toTR a) (toTR b) (toTR c) (toTR v) := by
  have e1 := triAreaG_of_agrees h1
  have e2 := triAreaG_of_agrees h2
  have e3 := triAreaG_of_agrees h3
  unfold forwardPointR at e2 e3
  unfold forwardBaryR forwardBaryG
  simp only [← e1, ← e2, ← e3]
  simp only [vectorDifferenceR_tie, normalizeR_tie, quadrupleProductR_tie, subR_tie]
  rfl

/-- **D3, D4**: `inverseBaryR` is the twin of the general branch of `polyhedralInverse` with `safe_acos` replaced by
`2 arcsin`, when `area(a,b,c)` agrees with the twin's -/
theorem inverseBaryR_tie {a b c : R3} (bary : ℝ × ℝ × ℝ) (h1 : AreaAgrees a b c) :
    toTR (inverseBaryR a b c bary) =
      inverseCoreG realKit (fun x => 2 * Real.arcsin x) (toTR a) (toTR b) (toTR c) bary := by
  rw [inverseCoreG_eq]
  unfold inverseBaryR
  simp only [slerpR_tie, vectorDifferenceR_tie, ← triAreaG_of_agrees h1, edgeParamR_tie]
  rfl

/-- **D3**: `inverseBarySafeR` is the twin of the general branch of `polyhedralInverse` (with the twin of `safe_acos`),
when `area(a,b,c)` agrees with the twin's -/
theorem inverseBarySafeR_tie {a b c : R3} (bary : ℝ × ℝ × ℝ) (h1 : AreaAgrees a b c) :
    toTR (inverseBarySafeR a b c bary) =
      inverseCoreG realKit (GP.safeAcosG realKit) (toTR a) (toTR b) (toTR c) bary := by
  rw [inverseCoreG_eq]
  unfold inverseBarySafeR
  simp only [slerpR_tie, vectorDifferenceR_tie, ← triAreaG_of_agrees h1, edgeParamR_tie, safeAcosR_tie_GP]
  rfl

theorem exists_toTR (a : T3 ℝ) : ∃ a' : R3, a = toTR a' := ⟨ofTR a, rfl⟩

/-- **`slerp` on the twin** (`A5.RadialRoundTrip.slerpR_spec`) -/
theorem slerp_on_twin {a p : T3 ℝ} (t : ℝ) (ha : dotG a a = 1) (hp : dotG p p = 1)
    (hγ : realKit.slerpSwitch ≤ angleG realKit a p) (hπ : angleG realKit a p < π) :
    dotG (slerpG realKit a p t) (slerpG realKit a p t) = 1 ∧
    dotG a (slerpG realKit a p t) = Real.cos (t * angleG realKit a p) ∧
    dotG p (slerpG realKit a p t) = Real.cos ((1 - t) * angleG realKit a p) := by
  obtain ⟨a, rfl⟩ := exists_toTR a
  obtain ⟨p, rfl⟩ := exists_toTR p
  simp only [← slerpR_tie, ← dotR_tie, ← angleR_tie]
  exact slerpR_spec t ha hp hγ hπ

/-- **`vector_difference` on the twin** (`A5.RadialRoundTrip.vectorDifferenceR_eq`): both branches give
`sin (γ/2)` -/
theorem vectorDifference_on_twin {a b : T3 ℝ} (ha : dotG a a = 1) (hb : dotG b b = 1)
    (hπ : angleG realKit a b < π) :
    vectorDifferenceG realKit a b = Real.sin (angleG realKit a b / 2) := by
  obtain ⟨a, rfl⟩ := exists_toTR a
  obtain ⟨b, rfl⟩ := exists_toTR b
  simp only [← vectorDifferenceR_tie, ← angleR_tie]
  exact vectorDifferenceR_eq ha hb hπ

/-- **`get_triangle_area` on the twin** (`midpoint_triple_eq`, `midTriple_abs_le`, `triAreaR_eq_arctan`): for a
unit triangle with `1 + x·y + y·z + z·x > 0` the code's `s` is `V / √(2 (1+x·y)(1+y·z)(1+z·x))`; on the `asin`
branch the twin's area is `2 arctan (V / (1 + x·y + y·z + z·x))` (Eriksson); on the small-`|s|` branch it is `2 s`
(NOT the exact area: `2 s` instead of `2 asin s`). -/
theorem triArea_on_twin {x y z : T3 ℝ} (hx : dotG x x = 1) (hy : dotG y y = 1) (hz : dotG z z = 1)
    (hD : 0 < 1 + dotG x y + dotG y z + dotG z x) :
    midTripleG realKit x y z = tripleG x y z / √(2 * (1 + dotG x y) * (1 + dotG y z) * (1 + dotG z x)) ∧
    (OnAsinBranchG x y z →
      triAreaG realKit x y z = 2 * Real.arctan (tripleG x y z / (1 + dotG x y + dotG y z + dotG z x))) ∧
    (¬ OnAsinBranchG x y z → triAreaG realKit x y z = 2 * midTripleG realKit x y z) := by
  obtain ⟨x, rfl⟩ := exists_toTR x
  obtain ⟨y, rfl⟩ := exists_toTR y
  obtain ⟨z, rfl⟩ := exists_toTR z
  simp only [← dotR_tie, ← tripleR_tie, ← midTripleR_tie, ← onAsinBranch_tie] at *
  obtain ⟨h1, h2, h3⟩ := one_add_dots_pos_of_D hx hy hz hD
  refine ⟨midpoint_triple_eq hx hy hz h1 h2 h3, fun h => ?_, fun h => ?_⟩
  · rw [triAreaG_of_ge h]; exact triAreaR_eq_arctan hx hy hz hD
  · obtain ⟨b1, b2⟩ := midTriple_abs_le hx hy hz h1 h2 h3
    rw [triAreaG_real, if_pos (not_le.mp h), clamp1R_id b1 b2]

/-- **the radial round trip on the twins** (`A5.RadialRoundTrip.radial_roundtrip_vector_safeAcos`): all four
functions involved (`slerp`, `vector_difference`, `safe_acos`, `length`) are the twins, no discrepancy. -/
theorem radial_roundtrip_on_twin {a p : T3 ℝ} {s : ℝ} (hs0 : 0 ≤ s) (hs1 : s ≤ 1)
    (ha : dotG a a = 1) (hp : dotG p p = 1) (hγ : realKit.slerpSwitch ≤ angleG realKit a p)
    (hπ : angleG realKit a p < π) :
    let v := slerpG realKit a p s
    let h := vectorDifferenceG realKit a v / vectorDifferenceG realKit a p
    let k := vectorDifferenceG realKit a p
    let t := GP.safeAcosG realKit (h * k) / GP.safeAcosG realKit k
    dotG (slerpG realKit a p t) (slerpG realKit a p t) = 1 ∧
      lengthG realKit (subG (slerpG realKit a p t) v) ≤ 5e-16 := by
  obtain ⟨a, rfl⟩ := exists_toTR a
  obtain ⟨p, rfl⟩ := exists_toTR p
  simp only [← slerpR_tie, ← vectorDifferenceR_tie, ← safeAcosR_tie_GP, ← subR_tie, ← lengthR_tie, ← dotR_tie]
  exact radial_roundtrip_vector_safeAcos hs0 hs1 ha hp hγ hπ

/-- the same with the idealised `2 arcsin` in place of `safe_acos` (`radial_roundtrip_vector`): exact -/
theorem radial_roundtrip_exact_on_twin {a p : T3 ℝ} {s : ℝ} (hs0 : 0 ≤ s) (hs1 : s ≤ 1)
    (ha : dotG a a = 1) (hp : dotG p p = 1) (hγ : realKit.slerpSwitch ≤ angleG realKit a p)
    (hπ : angleG realKit a p < π) :
    let v := slerpG realKit a p s
    let h := vectorDifferenceG realKit a v / vectorDifferenceG realKit a p
    let k := vectorDifferenceG realKit a p
    let t := (2 * Real.arcsin (h * k)) / (2 * Real.arcsin k)
    t = s ∧ slerpG realKit a p t = v := by
  obtain ⟨a, rfl⟩ := exists_toTR a
  obtain ⟨p, rfl⟩ := exists_toTR p
  simp only [← slerpR_tie, ← vectorDifferenceR_tie]
  have h := radial_roundtrip_vector hs0 hs1 ha hp hγ hπ
  exact ⟨h.1, congrArg toTR h.2⟩

/-- **(B) on the twins** (`angular_inverse_formula`): the inverse's `q` recovers the parameter of `p = slerp b c q`
from the twin's area of `a b p`, provided that triangle is on the `asin` branch or has `s = 0` (`AreaAgreesG`: this
excludes `q` within about `1e-8` of `0`, but not `q = 0`). -/
theorem angular_inverse_on_twin {a b c : T3 ℝ} {q : ℝ} (ha : dotG a a = 1) (hb : dotG b b = 1)
    (hc : dotG c c = 1) (hV : 0 < tripleG a b c) (hD : 0 < 1 + dotG a b + dotG b c + dotG c a)
    (hγ : realKit.slerpSwitch ≤ angleG realKit b c) (hq0 : 0 ≤ q) (hq1 : q ≤ 1)
    (hE3 : AreaAgreesG a b (slerpG realKit b c q)) :
    edgeParamG realKit a b c (triAreaG realKit a b (slerpG realKit b c q)) = q := by
  obtain ⟨a, rfl⟩ := exists_toTR a
  obtain ⟨b, rfl⟩ := exists_toTR b
  obtain ⟨c, rfl⟩ := exists_toTR c
  simp only [← slerpR_tie, ← areaAgrees_tie] at hE3
  simp only [← slerpR_tie, triAreaG_of_agrees hE3, ← edgeParamR_tie]
  exact (angular_inverse_formula ha hb hc hV hD hγ hq0 hq1).2

/-- **(C) on the twins** (`angular_forward_formula`) -/
theorem angular_forward_on_twin {a b c : T3 ℝ} {alpha : ℝ} (ha : dotG a a = 1) (hb : dotG b b = 1)
    (hc : dotG c c = 1) (hV : 0 < tripleG a b c) (hD : 0 < 1 + dotG a b + dotG b c + dotG c a)
    (hγ : realKit.slerpSwitch ≤ angleG realKit b c) (hE : AreaAgreesG a b c)
    (hα0 : 0 < alpha) (hα1 : alpha < triAreaG realKit a b c)
    (hE3 : AreaAgreesG a b (slerpG realKit b c (edgeParamG realKit a b c alpha))) :
    0 < edgeParamG realKit a b c alpha ∧ edgeParamG realKit a b c alpha < 1 ∧
      triAreaG realKit a b (slerpG realKit b c (edgeParamG realKit a b c alpha)) = alpha := by
  obtain ⟨a, rfl⟩ := exists_toTR a
  obtain ⟨b, rfl⟩ := exists_toTR b
  obtain ⟨c, rfl⟩ := exists_toTR c
  simp only [← areaAgrees_tie] at hE
  simp only [← edgeParamR_tie, ← slerpR_tie, ← areaAgrees_tie] at hE3
  rw [triAreaG_of_agrees hE] at hα1
  simp only [← edgeParamR_tie, ← slerpR_tie, triAreaG_of_agrees hE3]
  exact angular_forward_formula ha hb hc hV hD hγ hα0 hα1

/-- **(D) the polyhedral round trip on the twins** (`polyhedral_roundtrip_exact`).  `forwardBaryG` is the twin of
`polyhedralForward` (barycentric level, all of it); `inverseCoreG … (2 arcsin)` is the twin of the general branch of
`polyhedralInverse` with `safe_acos` idealised to `2 arcsin`.  Compared with `polyhedral_roundtrip_exact` there are
three more hypotheses: the triangles `a b c`, `a p c`, `a b p` (`p = slerp b c q`) are on the `asin` branch of
`get_triangle_area` or have `s = 0` (`AreaAgreesG`; this excludes `q` within about `1e-8` of `0` or `1`, end points
not excluded). -/
theorem polyhedral_roundtrip_on_twin {a b c : T3 ℝ} {q s : ℝ} (ha : dotG a a = 1) (hb : dotG b b = 1)
    (hc : dotG c c = 1) (hV : 0 < tripleG a b c) (hD : 0 < 1 + dotG a b + dotG b c + dotG c a)
    (hγ : realKit.slerpSwitch ≤ angleG realKit b c)
    (hγ' : realKit.slerpSwitch ≤ angleG realKit a (slerpG realKit b c q))
    (hq0 : 0 ≤ q) (hq1 : q ≤ 1) (hs0 : 0 < s) (hs1 : s ≤ 1)
    (hE : AreaAgreesG a b c) (hE2 : AreaAgreesG a (slerpG realKit b c q) c)
    (hE3 : AreaAgreesG a b (slerpG realKit b c q)) :
    let v := slerpG realKit a (slerpG realKit b c q) s
    forwardPointG realKit a b c v = slerpG realKit b c q ∧
      inverseCoreG realKit (fun x => 2 * Real.arcsin x) a b c (forwardBaryG realKit a b c v) = v := by
  obtain ⟨a, rfl⟩ := exists_toTR a
  obtain ⟨b, rfl⟩ := exists_toTR b
  obtain ⟨c, rfl⟩ := exists_toTR c
  simp only [← slerpR_tie, ← areaAgrees_tie] at hγ' hE hE2 hE3
  have R := polyhedral_roundtrip_exact ha hb hc hV hD hγ hγ' hq0 hq1 hs0 hs1
  have e := forwardBaryR_tie (v := slerpR a (slerpR b c q) s) hE (by rw [R.1]; exact hE2) (by rw [R.1]; exact hE3)
  simp only [← slerpR_tie, ← forwardPointR_tie, ← e, ← inverseBaryR_tie _ hE]
  exact ⟨congrArg toTR R.1, congrArg toTR R.2⟩

/-- **(D) with `safe_acos`, on the twins** (`polyhedral_roundtrip_safeAcos`): `inverseCoreG … safeAcosG` is the
twin of the general branch of `polyhedralInverse`, nothing idealised. -/
theorem polyhedral_roundtrip_safeAcos_on_twin {a b c : T3 ℝ} {q s : ℝ} (ha : dotG a a = 1) (hb : dotG b b = 1)
    (hc : dotG c c = 1) (hV : 0 < tripleG a b c) (hD : 0 < 1 + dotG a b + dotG b c + dotG c a)
    (hγ : realKit.slerpSwitch ≤ angleG realKit b c)
    (hγ' : realKit.slerpSwitch ≤ angleG realKit a (slerpG realKit b c q))
    (hq0 : 0 ≤ q) (hq1 : q ≤ 1) (hs0 : 0 < s) (hs1 : s ≤ 1)
    (hE : AreaAgreesG a b c) (hE2 : AreaAgreesG a (slerpG realKit b c q) c)
    (hE3 : AreaAgreesG a b (slerpG realKit b c q)) :
    let v := slerpG realKit a (slerpG realKit b c q) s
    let r := inverseCoreG realKit (GP.safeAcosG realKit) a b c (forwardBaryG realKit a b c v)
    dotG r r = 1 ∧ lengthG realKit (subG r v) ≤ 5e-16 := by
  obtain ⟨a, rfl⟩ := exists_toTR a
  obtain ⟨b, rfl⟩ := exists_toTR b
  obtain ⟨c, rfl⟩ := exists_toTR c
  simp only [← slerpR_tie, ← areaAgrees_tie] at hγ' hE hE2 hE3
  have R := polyhedral_roundtrip_exact ha hb hc hV hD hγ hγ' hq0 hq1 hs0 hs1
  have e := forwardBaryR_tie (v := slerpR a (slerpR b c q) s) hE (by rw [R.1]; exact hE2) (by rw [R.1]; exact hE3)
  simp only [← slerpR_tie, ← e, ← inverseBarySafeR_tie _ hE, ← subR_tie, ← lengthR_tie, ← dotR_tie]
  exact polyhedral_roundtrip_safeAcos ha hb hc hV hD hγ hγ' hq0 hq1 hs0 hs1

/-- **(D) on the full twin of `polyhedralInverse`** (vertex snapping included): when none of the three barycentric
coordinates computed by the forward twin exceeds `1 - POLY_SNAP_EPS`, the full twin returns a unit vector within
`5e-16` of `v`.  (When a coordinate does exceed it the code returns the vertex itself; that case is not covered.) -/
theorem polyhedral_roundtrip_full_twin {a b c : T3 ℝ} {q s : ℝ} (ha : dotG a a = 1) (hb : dotG b b = 1)
    (hc : dotG c c = 1) (hV : 0 < tripleG a b c) (hD : 0 < 1 + dotG a b + dotG b c + dotG c a)
    (hγ : realKit.slerpSwitch ≤ angleG realKit b c)
    (hγ' : realKit.slerpSwitch ≤ angleG realKit a (slerpG realKit b c q))
    (hq0 : 0 ≤ q) (hq1 : q ≤ 1) (hs0 : 0 < s) (hs1 : s ≤ 1)
    (hE : AreaAgreesG a b c) (hE2 : AreaAgreesG a (slerpG realKit b c q) c)
    (hE3 : AreaAgreesG a b (slerpG realKit b c q))
    (hn1 : ¬ (forwardBaryG realKit a b c (slerpG realKit a (slerpG realKit b c q) s)).1
      > realKit.one - realKit.snapEps)
    (hn2 : ¬ (forwardBaryG realKit a b c (slerpG realKit a (slerpG realKit b c q) s)).2.1
      > realKit.one - realKit.snapEps)
    (hn3 : ¬ (forwardBaryG realKit a b c (slerpG realKit a (slerpG realKit b c q) s)).2.2
      > realKit.one - realKit.snapEps) :
    let v := slerpG realKit a (slerpG realKit b c q) s
    let r := inverseBaryG realKit a b c (forwardBaryG realKit a b c v)
    dotG r r = 1 ∧ lengthG realKit (subG r v) ≤ 5e-16 := by
  intro v r
  have e : r = inverseCoreG realKit (GP.safeAcosG realKit) a b c (forwardBaryG realKit a b c v) :=
    inverseBaryG_of_not_snap realKit a b c _ hn1 hn2 hn3
  rw [e]
  exact polyhedral_roundtrip_safeAcos_on_twin ha hb hc hV hD hγ hγ' hq0 hq1 hs0 hs1 hE hE2 hE3

/-- kernel-checked on the generated constants: `TRI_AREA_SWITCH` (the `f64` nearest `1e-8`) is positive and at most
`1e-7`, `POLY_SNAP_EPS` (the `f64` nearest `1e-14`) is at most `1.2e-14` -/
theorem switchQ_bounds :
    0 < Gen.TRI_AREA_SWITCH.toRat ∧ Gen.TRI_AREA_SWITCH.toRat ≤ 1 / 10 ^ 7 ∧
    Gen.POLY_SNAP_EPS.toRat ≤ 12 / 10 ^ 15 := by
  decide +kernel

theorem triAreaSwitch_pos : 0 < triAreaSwitch := by
  unfold triAreaSwitch; exact_mod_cast switchQ_bounds.1

theorem triAreaSwitch_le : triAreaSwitch ≤ 1 / 10 ^ 7 := cast_le_of rfl (by norm_num) switchQ_bounds.2.1

theorem snapEps_le : snapEps ≤ 12 / 10 ^ 15 := cast_le_of rfl (by norm_num) switchQ_bounds.2.2

/-- a unit triangle of area `< π` whose triple product is at least `4 · TRI_AREA_SWITCH` (`≈ 4e-8`) is on the
`asin` branch: `s = V / √(2 (1+x·y)(1+y·z)(1+z·x)) ≥ V / 4`. -/
theorem onAsinBranch_of_triple {x y z : R3} (hx : dotR x x = 1) (hy : dotR y y = 1) (hz : dotR z z = 1)
    (hD : 0 < 1 + dotR x y + dotR y z + dotR z x) (hV : 4 * triAreaSwitch ≤ tripleR x y z) :
    OnAsinBranch x y z := by
  obtain ⟨h1, h2, h3⟩ := one_add_dots_pos_of_D hx hy hz hD
  obtain ⟨b1, b2⟩ := midTriple_abs_le hx hy hz h1 h2 h3
  have hsw := triAreaSwitch_pos
  unfold OnAsinBranch
  rw [clamp1R_id b1 b2, midpoint_triple_eq hx hy hz h1 h2 h3]
  have u1 := (dotR_unit_mem hx hy).2
  have u2 := (dotR_unit_mem hy hz).2
  have u3 := (dotR_unit_mem hz hx).2
  have hP : 0 < 2 * (1 + dotR x y) * (1 + dotR y z) * (1 + dotR z x) := by positivity
  have hP16 : 2 * (1 + dotR x y) * (1 + dotR y z) * (1 + dotR z x) ≤ 4 ^ 2 := by
    have e1 : (1 + dotR x y) * (1 + dotR y z) ≤ 2 * 2 := mul_le_mul (by linarith) (by linarith) h2.le (by norm_num)
    have e2 : (1 + dotR x y) * (1 + dotR y z) * (1 + dotR z x) ≤ 2 * 2 * 2 :=
      mul_le_mul e1 (by linarith) h3.le (by norm_num)
    linarith
  have hs4 : √(2 * (1 + dotR x y) * (1 + dotR y z) * (1 + dotR z x)) ≤ 4 := by
    rw [show (4 : ℝ) = √(4 ^ 2) by rw [Real.sqrt_sq (by norm_num)]]
    exact Real.sqrt_le_sqrt hP16
  have hs0 : 0 < √(2 * (1 + dotR x y) * (1 + dotR y z) * (1 + dotR z x)) := Real.sqrt_pos.mpr hP
  have hVpos : 0 < tripleR x y z := by linarith
  rw [abs_of_pos (div_pos hVpos hs0), le_div_iff₀ hs0]
  linarith [mul_le_mul_of_nonneg_left hs4 hsw.le]

/-! ## non-vacuity: the octant triangle `a = e₃`, `b = e₁`, `c = e₂`, `q = 1/3`, `s = 1/4` -/

theorem octant_angle_bc : angleR ⟨1, 0, 0⟩ ⟨0, 1, 0⟩ = π / 2 := by
  obtain ⟨_, hb, hc, _⟩ := octant_hyps
  rw [(angleR_unit hb hc).1]
  have : dotR ⟨1, 0, 0⟩ ⟨0, 1, 0⟩ = 0 := by norm_num [dotR]
  rw [this, Real.arccos_zero]

theorem octant_p : slerpR ⟨1, 0, 0⟩ ⟨0, 1, 0⟩ (1 / 3) = ⟨√3 / 2, 1 / 2, 0⟩ := by
  obtain ⟨_, _, _, _, _, hγ⟩ := octant_hyps
  rw [slerpR_unfold (1 / 3) hγ, octant_angle_bc,
    show (1 - 1 / 3 : ℝ) * (π / 2) = π / 3 by ring, show (1 / 3 : ℝ) * (π / 2) = π / 6 by ring,
    Real.sin_pi_div_two, Real.sin_pi_div_three, Real.sin_pi_div_six]
  ext <;> simp [addR, scaleR]

theorem sqrt3_bounds : 1 ≤ √3 ∧ √3 ≤ 2 := by
  constructor
  · rw [show (1 : ℝ) = √1 by simp]; exact Real.sqrt_le_sqrt (by norm_num)
  · rw [show (2 : ℝ) = √(2 ^ 2) by rw [Real.sqrt_sq (by norm_num)]]; exact Real.sqrt_le_sqrt (by norm_num)

/-- all hypotheses of the round-trip theorems on the octant triangle, `q = 1/3`
(`a = e₃`, `b = e₁`, `c = e₂`, `p = slerp b c (1/3) = (√3/2, 1/2, 0)`) -/
theorem octant_example_hyps :
    dotR (slerpR ⟨1, 0, 0⟩ ⟨0, 1, 0⟩ (1 / 3)) (slerpR ⟨1, 0, 0⟩ ⟨0, 1, 0⟩ (1 / 3)) = 1 ∧
    slerpSwitch ≤ angleR ⟨0, 0, 1⟩ (slerpR ⟨1, 0, 0⟩ ⟨0, 1, 0⟩ (1 / 3)) ∧
    angleR ⟨0, 0, 1⟩ (slerpR ⟨1, 0, 0⟩ ⟨0, 1, 0⟩ (1 / 3)) = π / 2 ∧
    OnAsinBranch ⟨0, 0, 1⟩ ⟨1, 0, 0⟩ ⟨0, 1, 0⟩ ∧
    OnAsinBranch ⟨0, 0, 1⟩ (slerpR ⟨1, 0, 0⟩ ⟨0, 1, 0⟩ (1 / 3)) ⟨0, 1, 0⟩ ∧
    OnAsinBranch ⟨0, 0, 1⟩ ⟨1, 0, 0⟩ (slerpR ⟨1, 0, 0⟩ ⟨0, 1, 0⟩ (1 / 3)) := by
  obtain ⟨ha, hb, hc, hV, hD, hγ⟩ := octant_hyps
  obtain ⟨s1, s2⟩ := sqrt3_bounds
  have hsw := triAreaSwitch_le
  have hu := (slerpR_spec (1 / 3) hb hc hγ (angle_bc_lt_pi ha hb hc hV)).1
  have hang := octant_apex_angle (1 / 3)
  have hsl : slerpSwitch ≤ angleR ⟨0, 0, 1⟩ (slerpR ⟨1, 0, 0⟩ ⟨0, 1, 0⟩ (1 / 3)) := by
    rw [hang]
    linarith only [slerpSwitch_le, Real.pi_gt_three]
  have eV : tripleR ⟨0, 0, 1⟩ ⟨1, 0, 0⟩ ⟨0, 1, 0⟩ = 1 := by norm_num [tripleR, dotR, crossR]
  refine ⟨hu, hsl, hang, onAsinBranch_of_triple ha hb hc hD (by rw [eV]; linarith only [hsw]), ?_⟩
  generalize hp : slerpR ⟨1, 0, 0⟩ ⟨0, 1, 0⟩ (1 / 3) = p at hu
  rw [octant_p] at hp
  have e1 : tripleR ⟨0, 0, 1⟩ p ⟨0, 1, 0⟩ = √3 / 2 := by rw [← hp]; norm_num [tripleR, dotR, crossR]
  have e2 : 1 + dotR ⟨0, 0, 1⟩ p + dotR p ⟨0, 1, 0⟩ + dotR ⟨0, 1, 0⟩ ⟨0, 0, 1⟩ = 3 / 2 := by
    rw [← hp]; norm_num [dotR]
  have e3 : tripleR ⟨0, 0, 1⟩ ⟨1, 0, 0⟩ p = 1 / 2 := by rw [← hp]; norm_num [tripleR, dotR, crossR]
  have e4 : 1 + dotR ⟨0, 0, 1⟩ ⟨1, 0, 0⟩ + dotR ⟨1, 0, 0⟩ p + dotR p ⟨0, 0, 1⟩ = 1 + √3 / 2 := by
    rw [← hp]; norm_num [dotR]
  exact ⟨onAsinBranch_of_triple ha hu hc (by rw [e2]; norm_num) (by rw [e1]; linarith only [hsw, s1]),
    onAsinBranch_of_triple ha hb hu (by rw [e4]; linarith only [s1]) (by rw [e3]; linarith only [hsw])⟩

/-- Jordan's inequality `2/π · x ≤ sin x` with `π < 3.15` -/
theorem sin_ge_mul {x : ℝ} (h0 : 0 ≤ x) (h1 : x ≤ π / 2) : 63 / 100 * x ≤ Real.sin x := by
  refine le_trans ?_ (Real.mul_le_sin h0 h1)
  rw [div_mul_eq_mul_div 2, le_div_iff₀ Real.pi_pos]
  linarith only [mul_le_mul_of_nonneg_left Real.pi_lt_d2.le h0, h0]

/-- Jordan's inequality at `π/k` -/
theorem two_div_le_sin_pi_div {k : ℝ} (hk : 2 ≤ k) : 2 / k ≤ Real.sin (π / k) := by
  have hk0 : 0 < k := by linarith
  have := Real.mul_le_sin (x := π / k) (by positivity) (div_le_div_of_nonneg_left Real.pi_pos.le (by norm_num) hk)
  rwa [div_mul_div_comm, mul_comm 2 π, mul_div_mul_left _ _ Real.pi_ne_zero] at this

/-- the radial coordinate and the area ratios of the octant example: for `h = sin (π/16) / sin (π/4) ∈ [1/8, 2/5]`
and an area `A ≤ π`, `h / (π/2) · A ≤ 2h ≤ 4/5` -/
theorem octant_coords {A ε : ℝ} (hA1 : A ≤ π) (hε : ε ≤ 12 / 10 ^ 15) :
    1 - Real.sin (π / 16) / Real.sin (π / 4) ≤ 1 - ε ∧
    Real.sin (π / 16) / Real.sin (π / 4) / (π / 2) * A ≤ 1 - ε := by
  have x1 := two_div_le_sin_pi_div (k := 16) (by norm_num)
  have y1 := two_div_le_sin_pi_div (k := 4) (by norm_num)
  have x2 : Real.sin (π / 16) ≤ π / 16 := Real.sin_le (by positivity)
  have hy0 : 0 < Real.sin (π / 4) := lt_of_lt_of_le (by norm_num) y1
  have hpi2 := Real.pi_lt_d2
  have h1 : 1 / 8 ≤ Real.sin (π / 16) / Real.sin (π / 4) := by
    rw [le_div_iff₀ hy0]
    linarith only [mul_le_mul_of_nonneg_left (Real.sin_le_one (π / 4)) (by norm_num : (0 : ℝ) ≤ 1 / 8), x1]
  have h2 : Real.sin (π / 16) / Real.sin (π / 4) ≤ 2 / 5 := by
    rw [div_le_iff₀ hy0]; linarith only [x2, y1, hpi2]
  generalize Real.sin (π / 16) / Real.sin (π / 4) = h at h1 h2
  refine ⟨by linarith only [h1, hε], ?_⟩
  rw [div_mul_eq_mul_div, div_le_iff₀ (by positivity)]
  linarith only [mul_le_mul_of_nonneg_left hA1 (le_trans (by norm_num) h1),
    mul_le_mul_of_nonneg_right h2 Real.pi_pos.le,
    mul_le_mul_of_nonneg_right (hε.trans (by norm_num) : ε ≤ 1 / 10) Real.pi_pos.le, Real.pi_pos]

/-- on the octant triangle, `q = 1/3`, `s = 1/4`, none of the forward's barycentric coordinates is within
`POLY_SNAP_EPS` of `1`: `h = sin (π/16) / sin (π/4) ∈ [1/8, 2/5]`, and the two area ratios are `< 2`. -/
theorem octant_no_snap :
    ¬ (forwardBaryR ⟨0, 0, 1⟩ ⟨1, 0, 0⟩ ⟨0, 1, 0⟩
        (slerpR ⟨0, 0, 1⟩ (slerpR ⟨1, 0, 0⟩ ⟨0, 1, 0⟩ (1 / 3)) (1 / 4))).1 > 1 - snapEps ∧
    ¬ (forwardBaryR ⟨0, 0, 1⟩ ⟨1, 0, 0⟩ ⟨0, 1, 0⟩
        (slerpR ⟨0, 0, 1⟩ (slerpR ⟨1, 0, 0⟩ ⟨0, 1, 0⟩ (1 / 3)) (1 / 4))).2.1 > 1 - snapEps ∧
    ¬ (forwardBaryR ⟨0, 0, 1⟩ ⟨1, 0, 0⟩ ⟨0, 1, 0⟩
        (slerpR ⟨0, 0, 1⟩ (slerpR ⟨1, 0, 0⟩ ⟨0, 1, 0⟩ (1 / 3)) (1 / 4))).2.2 > 1 - snapEps := by
  obtain ⟨ha, hb, hc, hV, hD, hγ⟩ := octant_hyps
  obtain ⟨hu, hsl, hang, _⟩ := octant_example_hyps
  have hπ' : angleR ⟨0, 0, 1⟩ (slerpR ⟨1, 0, 0⟩ ⟨0, 1, 0⟩ (1 / 3)) < π := by rw [hang]; linarith [Real.pi_pos]
  rw [forwardBaryR_eq ha hb hc hV hγ hsl hπ' (by norm_num) (by norm_num)]
  obtain ⟨e1, e2, _⟩ := vectorDifferenceR_slerp (s := 1 / 4) (by norm_num) (by norm_num) ha hu hsl hπ'
  rw [e1, e2, hang, octant_area, show 1 / 4 * (π / 2) / 2 = π / 16 by ring, show π / 2 / 2 = π / 4 by ring]
  exact ⟨not_lt.mpr (octant_coords le_rfl snapEps_le).1,
    not_lt.mpr (octant_coords (triAreaR_le_pi _ _ _) snapEps_le).2,
    not_lt.mpr (octant_coords (triAreaR_le_pi _ _ _) snapEps_le).2⟩

/-- a degenerate unit triangle (`V = 0`, e.g. `a b p` with `p = b`) has `s = 0`: the two branches of
`get_triangle_area` agree there -/
theorem areaAgrees_of_triple_zero {x y z : R3} (hx : dotR x x = 1) (hy : dotR y y = 1) (hz : dotR z z = 1)
    (hD : 0 < 1 + dotR x y + dotR y z + dotR z x) (hV : tripleR x y z = 0) : AreaAgrees x y z := by
  obtain ⟨h1, h2, h3⟩ := one_add_dots_pos_of_D hx hy hz hD
  right
  rw [midpoint_triple_eq hx hy hz h1 h2 h3, hV, zero_div, clamp1R_id (by norm_num) (by norm_num)]

theorem octant_slerp_zero : slerpR ⟨1, 0, 0⟩ ⟨0, 1, 0⟩ 0 = ⟨1, 0, 0⟩ := by
  obtain ⟨_, _, _, _, _, hγ⟩ := octant_hyps
  rw [slerpR_unfold 0 hγ, octant_angle_bc]
  ext <;> simp [addR, scaleR]

/-- the point the inverse designates for `alpha = 1/2` on the octant triangle spans, with `a b`, a triangle on the
`asin` branch (its `s` is `sin (1/4)`) -/
theorem octant_forward_branch :
    OnAsinBranch ⟨0, 0, 1⟩ ⟨1, 0, 0⟩
      (slerpR ⟨1, 0, 0⟩ ⟨0, 1, 0⟩ (edgeParamR ⟨0, 0, 1⟩ ⟨1, 0, 0⟩ ⟨0, 1, 0⟩ (1 / 2))) := by
  obtain ⟨ha, hb, hc, hV, hD, hγ⟩ := octant_hyps
  have hpi := Real.pi_gt_three
  have h := (angular_forward_formula ha hb hc hV hD hγ (alpha := 1 / 2) (by norm_num)
    (by rw [octant_area]; linarith only [hpi])).2.2
  unfold OnAsinBranch
  unfold triAreaR at h
  generalize midTripleR ⟨0, 0, 1⟩ ⟨1, 0, 0⟩
    (slerpR ⟨1, 0, 0⟩ ⟨0, 1, 0⟩ (edgeParamR ⟨0, 0, 1⟩ ⟨1, 0, 0⟩ ⟨0, 1, 0⟩ (1 / 2))) = s at h
  have hc1 : -1 ≤ clamp1R s ∧ clamp1R s ≤ 1 := by
    unfold clamp1R; split_ifs with h1 h2
    · norm_num
    · norm_num
    · exact ⟨not_lt.mp h1, not_lt.mp h2⟩
  have e : Real.arcsin (clamp1R s) = 1 / 4 := by linarith only [h]
  have e2 : clamp1R s = Real.sin (1 / 4) := by rw [← e, Real.sin_arcsin hc1.1 hc1.2]
  have j := sin_ge_mul (x := 1 / 4) (by norm_num) (by linarith only [hpi])
  rw [e2, abs_of_pos (by linarith only [j])]
  linarith only [j, triAreaSwitch_le]

/-- `slerp` / `vector_difference` twins on the arc `e₁ → e₂` -/
example : dotG (slerpG realKit (1, 0, 0) (0, 1, 0) (1 / 3)) (slerpG realKit (1, 0, 0) (0, 1, 0) (1 / 3)) = (1 : ℝ) :=
  (slerp_on_twin (a := toTR ⟨1, 0, 0⟩) (p := toTR ⟨0, 1, 0⟩) (1 / 3) e1_e2_hyps.1 e1_e2_hyps.2.1
    e1_e2_hyps.2.2.1 e1_e2_hyps.2.2.2).1

example : vectorDifferenceG realKit (1, 0, 0) (0, 1, 0) = Real.sin (angleG realKit (1, 0, 0) (0, 1, 0) / 2) :=
  vectorDifference_on_twin (a := toTR ⟨1, 0, 0⟩) (b := toTR ⟨0, 1, 0⟩) e1_e2_hyps.1 e1_e2_hyps.2.1
    e1_e2_hyps.2.2.2

example :
    let a : T3 ℝ := (1, 0, 0)
    let p : T3 ℝ := (0, 1, 0)
    let v := slerpG realKit a p (1 / 3)
    let h := vectorDifferenceG realKit a v / vectorDifferenceG realKit a p
    let k := vectorDifferenceG realKit a p
    let t := GP.safeAcosG realKit (h * k) / GP.safeAcosG realKit k
    dotG (slerpG realKit a p t) (slerpG realKit a p t) = 1 ∧
      lengthG realKit (subG (slerpG realKit a p t) v) ≤ 5e-16 :=
  radial_roundtrip_on_twin (a := toTR ⟨1, 0, 0⟩) (p := toTR ⟨0, 1, 0⟩) (by norm_num) (by norm_num)
    e1_e2_hyps.1 e1_e2_hyps.2.1 e1_e2_hyps.2.2.1 e1_e2_hyps.2.2.2

/-- the octant triangle is on the `asin` branch and the twin's area is `2 arctan 1` (`= π/2`) -/
example : triAreaG realKit (0, 0, 1) (1, 0, 0) (0, 1, 0) =
    2 * Real.arctan (tripleG (0, 0, 1) (1, 0, 0) (0, 1, 0) /
      (1 + dotG (0, 0, 1) (1, 0, 0) + dotG (1, 0, 0) (0, 1, 0) + dotG ((0, 1, 0) : T3 ℝ) (0, 0, 1))) := by
  obtain ⟨ha, hb, hc, _, hD, _⟩ := octant_hyps
  exact (triArea_on_twin (x := toTR ⟨0, 0, 1⟩) (y := toTR ⟨1, 0, 0⟩) (z := toTR ⟨0, 1, 0⟩) ha hb hc hD).2.1
    ((onAsinBranch_tie _ _ _).mp octant_example_hyps.2.2.2.1)

/-- a degenerate triangle (`z = x`, `V = 0`) is on the small-`|s|` branch: both branches are inhabited -/
example : ¬ OnAsinBranchG (0, 0, 1) (1, 0, 0) (0, 0, 1) := by
  have hx : dotR ⟨0, 0, 1⟩ ⟨0, 0, 1⟩ = 1 := by norm_num [dotR]
  have hy : dotR ⟨1, 0, 0⟩ ⟨1, 0, 0⟩ = 1 := by norm_num [dotR]
  have hD : 0 < 1 + dotR ⟨0, 0, 1⟩ ⟨1, 0, 0⟩ + dotR ⟨1, 0, 0⟩ ⟨0, 0, 1⟩ + dotR ⟨0, 0, 1⟩ ⟨0, 0, 1⟩ := by
    norm_num [dotR]
  have h := (triArea_on_twin (x := toTR ⟨0, 0, 1⟩) (y := toTR ⟨1, 0, 0⟩) (z := toTR ⟨0, 0, 1⟩) hx hy hx hD).1
  have hV : tripleG (toTR ⟨0, 0, 1⟩) (toTR ⟨1, 0, 0⟩) (toTR ⟨0, 0, 1⟩) = 0 := by
    norm_num [tripleG, dotG, crossG, toTR]
  rw [hV, zero_div] at h
  intro hE
  have hE' : triAreaSwitch ≤ |clamp1G (1 : ℝ) (midTripleG realKit (toTR ⟨0, 0, 1⟩) (toTR ⟨1, 0, 0⟩) (toTR ⟨0, 0, 1⟩))| :=
    hE
  rw [h, ← clamp1R_tie, clamp1R_id (by norm_num) (by norm_num), abs_zero] at hE'
  linarith [triAreaSwitch_pos]

/-- (B) on the twins, octant triangle, `q = 1/3` -/
example : edgeParamG realKit (0, 0, 1) (1, 0, 0) (0, 1, 0)
    (triAreaG realKit (0, 0, 1) (1, 0, 0) (slerpG realKit (1, 0, 0) (0, 1, 0) (1 / 3))) = 1 / 3 := by
  obtain ⟨ha, hb, hc, hV, hD, hγ⟩ := octant_hyps
  obtain ⟨_, _, _, _, _, hE3⟩ := octant_example_hyps
  exact angular_inverse_on_twin (a := toTR ⟨0, 0, 1⟩) (b := toTR ⟨1, 0, 0⟩) (c := toTR ⟨0, 1, 0⟩) ha hb hc hV hD hγ
    (by norm_num) (by norm_num) (by rw [← slerpR_tie]; exact (areaAgrees_tie _ _ _).mp hE3.agrees)

/-- (B) on the twins at the end point `q = 0` (`p = b`, degenerate triangle `a b b`, `s = 0`, covered by
`AreaAgrees`) -/
example : edgeParamG realKit (0, 0, 1) (1, 0, 0) (0, 1, 0)
    (triAreaG realKit (0, 0, 1) (1, 0, 0) (slerpG realKit (1, 0, 0) (0, 1, 0) 0)) = 0 := by
  obtain ⟨ha, hb, hc, hV, hD, hγ⟩ := octant_hyps
  have hA : AreaAgrees ⟨0, 0, 1⟩ ⟨1, 0, 0⟩ (slerpR ⟨1, 0, 0⟩ ⟨0, 1, 0⟩ 0) := by
    rw [octant_slerp_zero]
    exact areaAgrees_of_triple_zero ha hb hb (by norm_num [dotR]) (by norm_num [tripleR, dotR, crossR])
  exact angular_inverse_on_twin (a := toTR ⟨0, 0, 1⟩) (b := toTR ⟨1, 0, 0⟩) (c := toTR ⟨0, 1, 0⟩) ha hb hc hV hD hγ
    le_rfl (by norm_num) (by rw [← slerpR_tie]; exact (areaAgrees_tie _ _ _).mp hA)

/-- (C) on the twins, octant triangle, `alpha = 1/2` -/
example : triAreaG realKit (0, 0, 1) (1, 0, 0)
    (slerpG realKit (1, 0, 0) (0, 1, 0) (edgeParamG realKit (0, 0, 1) (1, 0, 0) (0, 1, 0) (1 / 2))) = 1 / 2 := by
  obtain ⟨ha, hb, hc, hV, hD, hγ⟩ := octant_hyps
  obtain ⟨_, _, _, hE, _⟩ := octant_example_hyps
  have hα1 : (1 / 2 : ℝ) < triAreaG realKit (toTR ⟨0, 0, 1⟩) (toTR ⟨1, 0, 0⟩) (toTR ⟨0, 1, 0⟩) := by
    rw [triAreaG_of_ge hE, octant_area]; linarith [Real.pi_gt_three]
  exact (angular_forward_on_twin (a := toTR ⟨0, 0, 1⟩) (b := toTR ⟨1, 0, 0⟩) (c := toTR ⟨0, 1, 0⟩) ha hb hc hV hD hγ
    ((areaAgrees_tie _ _ _).mp hE.agrees) (by norm_num) hα1
    (by rw [← edgeParamR_tie, ← slerpR_tie]; exact (areaAgrees_tie _ _ _).mp octant_forward_branch.agrees)).2.2

/-- (D) on the twins: forward twin, then the inverse twin (`2 arcsin`, resp. `safe_acos`, resp. the full twin
with vertex snapping), octant triangle, `q = 1/3`, `s = 1/4` -/
example :
    let a : T3 ℝ := (0, 0, 1)
    let b : T3 ℝ := (1, 0, 0)
    let c : T3 ℝ := (0, 1, 0)
    let v := slerpG realKit a (slerpG realKit b c (1 / 3)) (1 / 4)
    (forwardPointG realKit a b c v = slerpG realKit b c (1 / 3) ∧
      inverseCoreG realKit (fun x => 2 * Real.arcsin x) a b c (forwardBaryG realKit a b c v) = v) ∧
    (let r := inverseCoreG realKit (GP.safeAcosG realKit) a b c (forwardBaryG realKit a b c v)
     dotG r r = 1 ∧ lengthG realKit (subG r v) ≤ 5e-16) ∧
    (let r := inverseBaryG realKit a b c (forwardBaryG realKit a b c v)
     dotG r r = 1 ∧ lengthG realKit (subG r v) ≤ 5e-16) := by
  obtain ⟨ha, hb, hc, hV, hD, hγ⟩ := octant_hyps
  obtain ⟨hu, hsl, hang, hE, hE2, hE3⟩ := octant_example_hyps
  obtain ⟨n1, n2, n3⟩ := octant_no_snap
  have gsl : realKit.slerpSwitch ≤ angleG realKit (toTR ⟨0, 0, 1⟩)
      (slerpG realKit (toTR ⟨1, 0, 0⟩) (toTR ⟨0, 1, 0⟩) (1 / 3)) := by rw [← slerpR_tie]; exact hsl
  have gE := (areaAgrees_tie _ _ _).mp hE.agrees
  have gE2 : AreaAgreesG (toTR ⟨0, 0, 1⟩) (slerpG realKit (toTR ⟨1, 0, 0⟩) (toTR ⟨0, 1, 0⟩) (1 / 3))
      (toTR ⟨0, 1, 0⟩) := by rw [← slerpR_tie]; exact (areaAgrees_tie _ _ _).mp hE2.agrees
  have gE3 : AreaAgreesG (toTR ⟨0, 0, 1⟩) (toTR ⟨1, 0, 0⟩)
      (slerpG realKit (toTR ⟨1, 0, 0⟩) (toTR ⟨0, 1, 0⟩) (1 / 3)) := by
    rw [← slerpR_tie]; exact (areaAgrees_tie _ _ _).mp hE3.agrees
  have e := forwardBaryR_tie (v := slerpR ⟨0, 0, 1⟩ (slerpR ⟨1, 0, 0⟩ ⟨0, 1, 0⟩ (1 / 3)) (1 / 4)) hE.agrees
    (by rw [(polyhedral_roundtrip_exact ha hb hc hV hD hγ hsl (by norm_num) (by norm_num) (by norm_num)
      (by norm_num)).1]; exact hE2.agrees)
    (by rw [(polyhedral_roundtrip_exact ha hb hc hV hD hγ hsl (by norm_num) (by norm_num) (by norm_num)
      (by norm_num)).1]; exact hE3.agrees)
  rw [e, slerpR_tie, slerpR_tie] at n1 n2 n3
  exact ⟨polyhedral_roundtrip_on_twin ha hb hc hV hD hγ gsl (by norm_num) (by norm_num) (by norm_num)
      (by norm_num) gE gE2 gE3,
    polyhedral_roundtrip_safeAcos_on_twin ha hb hc hV hD hγ gsl (by norm_num) (by norm_num) (by norm_num)
      (by norm_num) gE gE2 gE3,
    polyhedral_roundtrip_full_twin ha hb hc hV hD hγ gsl (by norm_num) (by norm_num) (by norm_num)
      (by norm_num) gE gE2 gE3 n1 n2 n3⟩

end A5.PolyTies
