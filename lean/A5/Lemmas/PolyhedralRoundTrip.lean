import A5.Lemmas.AngularRoundTrip
/-! # C15 — the polyhedral round trip `inverse ∘ forward = id`, over `ℝ`

Combines the angular half (`AngularRoundTrip.lean`) with the radial half (`RadialRoundTrip.lean`).
`forwardBaryR`, `inverseBaryR` transcribe `polyhedralForward` / `polyhedralInverse` between the point on the sphere and the
barycentric triple (the affine maps `barycentricToFace` / `faceToBarycentric` are not part of this file): `asin` branch of
the area, no vertex snapping (`b_coords.u > 1 - 1e-14` …), and `2 arcsin` in place of `safe_acos`; `inverseBarySafeR`
keeps the real twin of `safe_acos`.  Every `v = slerp a (slerp b c q) s`, `0 ≤ q ≤ 1`, `0 < s ≤ 1`, is recovered: exactly
with `2 arcsin`, within `5e-16` with `safeAcosR`.  Exact real arithmetic; nothing is claimed about floating-point rounding. -/
namespace A5.AngularRoundTrip
open A5 Real Set A5.RadialRoundTrip

/-- real twin of `polyhedralForward`, up to the barycentric triple (before `barycentricToFace`) -/
noncomputable def forwardBaryR (a b c v : R3) : ℝ × ℝ × ℝ :=
  let z := normalizeR (subR v a)
  let p := normalizeR (quadrupleProductR a z b c)
  let h := vectorDifferenceR a v / vectorDifferenceR a p
  let areaABC := triAreaR a b c
  let scaledArea := h / areaABC
  (1 - h, scaledArea * triAreaR a p c, scaledArea * triAreaR a b p)

/-- the point `p` of the forward map -/
noncomputable def forwardPointR (a b c v : R3) : R3 :=
  normalizeR (quadrupleProductR a (normalizeR (subR v a)) b c)

/-- real twin of the general branch of `polyhedralInverse` (after `faceToBarycentric`; no vertex snapping),
with `2 arcsin` in place of `safe_acos` -/
noncomputable def inverseBaryR (a b c : R3) (bary : ℝ × ℝ × ℝ) : R3 :=
  let bu := bary.1
  let bw := bary.2.2
  let areaABC := triAreaR a b c
  let h := 1 - bu
  let r := bw / h
  let alpha := r * areaABC
  let q := edgeParamR a b c alpha
  let p := slerpR b c q
  let k := vectorDifferenceR a p
  let t := (2 * Real.arcsin (h * k)) / (2 * Real.arcsin k)
  slerpR a p t

/-- the same with the real twin `safeAcosR` of the code's `safe_acos` -/
noncomputable def inverseBarySafeR (a b c : R3) (bary : ℝ × ℝ × ℝ) : R3 :=
  let bu := bary.1
  let bw := bary.2.2
  let areaABC := triAreaR a b c
  let h := 1 - bu
  let r := bw / h
  let alpha := r * areaABC
  let q := edgeParamR a b c alpha
  let p := slerpR b c q
  let k := vectorDifferenceR a p
  let t := safeAcosR (h * k) / safeAcosR k
  slerpR a p t

theorem normalize_scale {p : R3} {k : ℝ} (hp : dotR p p = 1) (hk : 0 < k) : normalizeR (scaleR p k) = p := by
  have hd : dotR (scaleR p k) (scaleR p k) = k ^ 2 := by
    have : dotR (scaleR p k) (scaleR p k) = k ^ 2 * dotR p p := by simp only [dotR, scaleR]; ring
    rw [this, hp, mul_one]
  have hL : lengthR (scaleR p k) = k := by rw [lengthR_eq, hd, Real.sqrt_sq hk.le]
  unfold normalizeR
  simp only [hL, if_neg hk.ne']
  ext <;> simp only [scaleR] <;> field_simp

/-- the vector identity behind `quadruple_product`: for `v = wa a + wp p` with `p ⊥ n`,
`z (a·n) - a (z·n) = (wp (a·n) / L) p` where `z = (v - a) / L`. -/
theorem quadruple_core (a p n : R3) (wa wp L : ℝ) (hL : L ≠ 0) (hpn : dotR p n = 0) :
    let d := subR (addR (scaleR a wa) (scaleR p wp)) a
    let z : R3 := ⟨d.x / L, d.y / L, d.z / L⟩
    subR (scaleR z (dotR a n)) (scaleR a (dotR z n)) = scaleR p (wp * dotR a n / L) := by
  intro d z
  simp only [dotR] at hpn
  ext
  · simp only [z, d, subR, scaleR, addR, dotR]
    field_simp
    linear_combination (-(a.x * wp)) * hpn
  · simp only [z, d, subR, scaleR, addR, dotR]
    field_simp
    linear_combination (-(a.y * wp)) * hpn
  · simp only [z, d, subR, scaleR, addR, dotR]
    field_simp
    linear_combination (-(a.z * wp)) * hpn

/-- **the forward's `p`.**  For `v = slerp a p s`, `p = slerp b c q` a point of the edge `b c`, `0 < s ≤ 1`,
the forward's `normalize (quadruple_product a (normalize (v - a)) b c)` is `p`. -/
theorem forward_point {a b c : R3} {q s : ℝ} (ha : dotR a a = 1) (hb : dotR b b = 1)
    (hc : dotR c c = 1) (hV : 0 < tripleR a b c) (hγ : slerpSwitch ≤ angleR b c)
    (hγ' : slerpSwitch ≤ angleR a (slerpR b c q)) (hπ' : angleR a (slerpR b c q) < π)
    (hs0 : 0 < s) (hs1 : s ≤ 1) :
    forwardPointR a b c (slerpR a (slerpR b c q) s) = slerpR b c q := by
  have hπ := angle_bc_lt_pi ha hb hc hV
  obtain ⟨hu, _, _⟩ := slerpR_spec q hb hc hγ hπ
  have hpn : dotR (slerpR b c q) (crossR b c) = 0 := by
    rw [slerpR_unfold q hγ]; exact (dotR_tripleR_comb a b c _ _).2.2
  set p := slerpR b c q
  have hγ0 : 0 < angleR a p := lt_of_lt_of_le slerpSwitch_pos hγ'
  have hSγ : 0 < Real.sin (angleR a p) := Real.sin_pos_of_pos_of_lt_pi hγ0 hπ'
  have hsγ0 : 0 < s * angleR a p := mul_pos hs0 hγ0
  have hsγ1 : s * angleR a p < π := by
    have := mul_le_mul_of_nonneg_right hs1 hγ0.le; linarith
  obtain ⟨hvu, hva, _⟩ := slerpR_spec s ha hu hγ' hπ'
  -- `|v - a| > 0`
  have hlen : 0 < lengthR (subR (slerpR a p s) a) := by
    rw [lengthR_eq, dotR_sub_self, hvu, ha, dotR_comm, hva]
    refine Real.sqrt_pos.mpr ?_
    have := Real.cos_lt_cos_of_nonneg_of_le_pi (le_refl 0) hsγ1.le hsγ0
    rw [Real.cos_zero] at this; linarith
  have hz := normalizeR_of_pos (Real.sqrt_pos.mp hlen)
  rw [← lengthR_eq] at hz
  unfold forwardPointR
  rw [hz]
  generalize lengthR (subR (slerpR a p s) a) = L at hlen
  rw [slerpR_unfold s hγ']
  have hq := quadruple_core a p (crossR b c) (Real.sin ((1 - s) * angleR a p) / Real.sin (angleR a p))
    (Real.sin (s * angleR a p) / Real.sin (angleR a p)) L hlen.ne' hpn
  simp only at hq
  unfold quadrupleProductR
  simp only
  rw [hq]
  refine normalize_scale hu ?_
  have hwp : 0 < Real.sin (s * angleR a p) / Real.sin (angleR a p) :=
    div_pos (Real.sin_pos_of_pos_of_lt_pi hsγ0 hsγ1) hSγ
  have hV' : 0 < dotR a (crossR b c) := hV
  positivity

/-- what the forward map stores for `v = slerp a p s`, `p = slerp b c q` -/
theorem forwardBaryR_eq {a b c : R3} {q s : ℝ} (ha : dotR a a = 1) (hb : dotR b b = 1)
    (hc : dotR c c = 1) (hV : 0 < tripleR a b c) (hγ : slerpSwitch ≤ angleR b c)
    (hγ' : slerpSwitch ≤ angleR a (slerpR b c q)) (hπ' : angleR a (slerpR b c q) < π)
    (hs0 : 0 < s) (hs1 : s ≤ 1) :
    forwardBaryR a b c (slerpR a (slerpR b c q) s) =
      (1 - vectorDifferenceR a (slerpR a (slerpR b c q) s) / vectorDifferenceR a (slerpR b c q),
       vectorDifferenceR a (slerpR a (slerpR b c q) s) / vectorDifferenceR a (slerpR b c q) / triAreaR a b c
         * triAreaR a (slerpR b c q) c,
       vectorDifferenceR a (slerpR a (slerpR b c q) s) / vectorDifferenceR a (slerpR b c q) / triAreaR a b c
         * triAreaR a b (slerpR b c q)) := by
  have h := forward_point ha hb hc hV hγ hγ' hπ' hs0 hs1
  unfold forwardPointR at h
  unfold forwardBaryR
  simp only
  rw [h]

theorem forward_h_pos {a p : R3} {s : ℝ} (ha : dotR a a = 1) (hp : dotR p p = 1)
    (hγ : slerpSwitch ≤ angleR a p) (hπ : angleR a p < π) (hs0 : 0 < s) (hs1 : s ≤ 1) :
    0 < vectorDifferenceR a (slerpR a p s) / vectorDifferenceR a p := by
  obtain ⟨e1, e2, hpos, _, hav1⟩ := vectorDifferenceR_slerp hs0.le hs1 ha hp hγ hπ
  have hav0 : 0 < s * angleR a p := mul_pos hs0 hpos
  have hpi := Real.pi_pos
  rw [e1, e2]
  exact div_pos (Real.sin_pos_of_pos_of_lt_pi (by linarith) (by linarith))
    (Real.sin_pos_of_pos_of_lt_pi (by linarith) (by linarith))

/-- the `alpha` recovered by the inverse is the area `a b p` stored by the forward -/
theorem alpha_recovered {h E A : ℝ} (hh : h ≠ 0) (hE : E ≠ 0) : h / E * A / (1 - (1 - h)) * E = A := by
  rw [sub_sub_cancel]; field_simp

/-- **(D) `inverse ∘ forward = id` on the open triangle and its far edge, exact real arithmetic.**
`a b c` unit, counter-clockwise (`V > 0`), area `< π`; the edge `b c` and the arc `a p` are not in the
small-angle branch of `slerp`.  Every `v = slerp a (slerp b c q) s` with `0 ≤ q ≤ 1`, `0 < s ≤ 1` is recovered:
the forward's `p` is `slerp b c q`, and the inverse (exact formulas) of the forward's barycentrics is `v`. -/
theorem polyhedral_roundtrip_exact {a b c : R3} {q s : ℝ} (ha : dotR a a = 1) (hb : dotR b b = 1)
    (hc : dotR c c = 1) (hV : 0 < tripleR a b c) (hD : 0 < 1 + dotR a b + dotR b c + dotR c a)
    (hγ : slerpSwitch ≤ angleR b c) (hγ' : slerpSwitch ≤ angleR a (slerpR b c q))
    (hq0 : 0 ≤ q) (hq1 : q ≤ 1) (hs0 : 0 < s) (hs1 : s ≤ 1) :
    let v := slerpR a (slerpR b c q) s
    forwardPointR a b c v = slerpR b c q ∧ inverseBaryR a b c (forwardBaryR a b c v) = v := by
  intro v
  have T : UnitTri a b c := ⟨ha, hb, hc, hV, hD, hγ⟩
  have hπ' := T.apex_lt_pi hq0 hq1
  have hu := T.edge_unit q
  refine ⟨forward_point ha hb hc hV hγ hγ' hπ' hs0 hs1, ?_⟩
  show inverseBaryR a b c (forwardBaryR a b c (slerpR a (slerpR b c q) s)) = slerpR a (slerpR b c q) s
  rw [forwardBaryR_eq ha hb hc hV hγ hγ' hπ' hs0 hs1]
  have hh := forward_h_pos ha hu hγ' hπ' hs0 hs1
  have hE := T.area_pos
  have hB := (angular_inverse_formula ha hb hc hV hD hγ hq0 hq1).2
  have hR := (radial_roundtrip_vector hs0.le hs1 ha hu hγ' hπ').2
  unfold inverseBaryR
  simp only
  rw [alpha_recovered hh.ne' hE.ne', hB, sub_sub_cancel]
  exact hR

/-- **(D) with `safe_acos`.**  Same situation, the radial interpolation parameter computed with the real twin
of the code's `safe_acos`: the result is a unit vector within Euclidean distance `5e-16` of `v`. -/
theorem polyhedral_roundtrip_safeAcos {a b c : R3} {q s : ℝ} (ha : dotR a a = 1) (hb : dotR b b = 1)
    (hc : dotR c c = 1) (hV : 0 < tripleR a b c) (hD : 0 < 1 + dotR a b + dotR b c + dotR c a)
    (hγ : slerpSwitch ≤ angleR b c) (hγ' : slerpSwitch ≤ angleR a (slerpR b c q))
    (hq0 : 0 ≤ q) (hq1 : q ≤ 1) (hs0 : 0 < s) (hs1 : s ≤ 1) :
    let v := slerpR a (slerpR b c q) s
    let r := inverseBarySafeR a b c (forwardBaryR a b c v)
    dotR r r = 1 ∧ lengthR (subR r v) ≤ 5e-16 := by
  intro v r
  have T : UnitTri a b c := ⟨ha, hb, hc, hV, hD, hγ⟩
  have hπ' := T.apex_lt_pi hq0 hq1
  have hu := T.edge_unit q
  have hh := forward_h_pos ha hu hγ' hπ' hs0 hs1
  have hE := T.area_pos
  have hB := (angular_inverse_formula ha hb hc hV hD hγ hq0 hq1).2
  have hR := radial_roundtrip_vector_safeAcos hs0.le hs1 ha hu hγ' hπ'
  have hr : r = slerpR a (slerpR b c q)
      (safeAcosR (vectorDifferenceR a (slerpR a (slerpR b c q) s) / vectorDifferenceR a (slerpR b c q)
        * vectorDifferenceR a (slerpR b c q)) / safeAcosR (vectorDifferenceR a (slerpR b c q))) := by
    show inverseBarySafeR a b c (forwardBaryR a b c (slerpR a (slerpR b c q) s)) = _
    rw [forwardBaryR_eq ha hb hc hV hγ hγ' hπ' hs0 hs1]
    unfold inverseBarySafeR
    simp only
    rw [alpha_recovered hh.ne' hE.ne', hB, sub_sub_cancel]
  rw [hr]
  exact hR

/-! ## non-vacuity: the octant triangle, `q = 1/3`, `s = 1/2` -/

/-- on the octant triangle `a = e₃` is orthogonal to the whole edge `b c`: `∠(a, p) = π/2` -/
theorem octant_apex_angle (q : ℝ) :
    angleR ⟨0, 0, 1⟩ (slerpR ⟨1, 0, 0⟩ ⟨0, 1, 0⟩ q) = π / 2 := by
  obtain ⟨ha, hb, hc, hV, _, hγ⟩ := octant_hyps
  have hπ := angle_bc_lt_pi ha hb hc hV
  obtain ⟨hu, _, _⟩ := slerpR_spec q hb hc hγ hπ
  rw [(angleR_unit ha hu).1, slerpR_unfold q hγ]
  have : dotR ⟨0, 0, 1⟩ (addR (scaleR ⟨1, 0, 0⟩
      (Real.sin ((1 - q) * angleR ⟨1, 0, 0⟩ ⟨0, 1, 0⟩) / Real.sin (angleR ⟨1, 0, 0⟩ ⟨0, 1, 0⟩)))
      (scaleR ⟨0, 1, 0⟩ (Real.sin (q * angleR ⟨1, 0, 0⟩ ⟨0, 1, 0⟩) / Real.sin (angleR ⟨1, 0, 0⟩ ⟨0, 1, 0⟩)))) = 0 := by
    simp [dotR, addR, scaleR]
  rw [this, Real.arccos_zero]

example :
    let a : R3 := ⟨0, 0, 1⟩
    let b : R3 := ⟨1, 0, 0⟩
    let c : R3 := ⟨0, 1, 0⟩
    let v := slerpR a (slerpR b c (1 / 3)) (1 / 2)
    forwardPointR a b c v = slerpR b c (1 / 3) ∧ inverseBaryR a b c (forwardBaryR a b c v) = v := by
  obtain ⟨ha, hb, hc, hV, hD, hγ⟩ := octant_hyps
  refine polyhedral_roundtrip_exact ha hb hc hV hD hγ ?_ (by norm_num) (by norm_num) (by norm_num) (by norm_num)
  rw [octant_apex_angle]
  linarith [slerpSwitch_le, Real.pi_gt_three]

end A5.AngularRoundTrip
