import A5.Model.GenericGeo
import Mathlib.Analysis.SpecialFunctions.Trigonometric.Basic
import Mathlib.Analysis.SpecialFunctions.Trigonometric.Inverse
import Mathlib.Analysis.SpecialFunctions.Trigonometric.InverseDeriv
import Mathlib.Analysis.Calculus.Deriv.MeanValue
import Mathlib.Analysis.Real.Pi.Bounds
import Mathlib.Tactic.Ring
import Mathlib.Tactic.FieldSimp
import Mathlib.Tactic.LinearCombination
import Mathlib.Tactic.Linarith
import Mathlib.Tactic.NormNum
import Mathlib.Tactic.Positivity
/-! # C15 — the radial part of the polyhedral round trip, over `ℝ`

Model (`A5/Model/Geo.lean`, at `Float`; `polyhedral.rs`, `vector.rs`):
```
def safeAcos (x : Float) : Float :=
  if x < fc Gen.SAFE_ACOS_SWITCH then 2.0 * x + x * x * x / 3.0 else (1.0 - 2.0 * x * x).acos
polyhedralForward :  h := vectorDifference a v / vectorDifference a p
polyhedralInverse :  k := vectorDifference a p;  t := safeAcos (h * k) / safeAcos k;  slerp a p t
```
Over the reals `vectorDifference a b = sin (∠(a,b) / 2)` for unit vectors (both branches), so `h = sin (AV/2) / sin (AP/2)`,
`k = sin (AP/2)`, and the inverse returns the point at arc `t · AP` from `a` on the great circle `a → p`: exactly `v` with
`2 arcsin` in place of `safe_acos`, and within `5e-16` of it with the two-branch `safeAcosR`, which stays within `2.1e-16`
of `2 arcsin` on `[0,1]`.

`slerpR`, `angleR`, `vectorDifferenceR` are transcriptions of the model's expression trees (the model's `V3` has `Float`
fields; `PolyTies.lean` ties both to the generic twins); `safeAcosR` is tied through `safeAcosG` by `rfl`.  Everything is
exact real arithmetic: nothing is claimed about floating-point rounding.  The `lerp` branch of `slerp`
(`γ < SLERP_SWITCH`) is covered only by `lerpR_norm_sq_bounds`; the angular part of the round trip is in
`AngularRoundTrip.lean`, the composition in `PolyhedralRoundTrip.lean`. -/
namespace A5.RadialRoundTrip
open A5 Real Set

/-- the switch constant of `safe_acos` (`1e-3` in the Rust source), exact value of the generated `f64` -/
def safeAcosSwitchQ : ℚ := Gen.SAFE_ACOS_SWITCH.toRat

noncomputable def safeAcosSwitch : ℝ := ((safeAcosSwitchQ : ℚ) : ℝ)

/-- real twin of `A5.safeAcos`: the same expression tree, `Float` operations replaced by real ones -/
noncomputable def safeAcosR (x : ℝ) : ℝ :=
  if x < safeAcosSwitch then 2 * x + x * x * x / 3 else Real.arccos (1 - 2 * x * x)

/-- generic twin of `safe_acos`: one expression tree, instantiated at `Float` by the model and at `ℝ` here -/
def safeAcosG {α : Type} [Add α] [Sub α] [Mul α] [Div α] [LT α] [DecidableRel (α := α) (· < ·)]
    (acos : α → α) (one two three thr : α) (x : α) : α :=
  if x < thr then two * x + x * x * x / three else acos (one - two * x * x)

theorem safeAcos_tie (x : Float) :
    safeAcos x = safeAcosG Float.acos 1.0 2.0 3.0 (fc Gen.SAFE_ACOS_SWITCH) x := rfl

theorem safeAcosR_tie (x : ℝ) : safeAcosR x = safeAcosG Real.arccos 1 2 3 safeAcosSwitch x := rfl

/-- kernel-checked on the generated constant: it is the `f64` nearest to `1e-3`
(`1152921504606847 · 2⁻⁶⁰`), in particular it lies in `[1e-3, 1.001e-3]`. -/
theorem safeAcosSwitchQ_bounds :
    safeAcosSwitchQ = 1152921504606847 / 2 ^ 60 ∧ 1 / 1000 ≤ safeAcosSwitchQ ∧
      safeAcosSwitchQ ≤ 1001 / 1000000 := by
  decide +kernel

/-- transport of a rational inequality to `ℝ` with the casts of the two sides evaluated separately -/
theorem cast_le_of {p q : ℚ} {x y : ℝ} (hx : ((p : ℚ) : ℝ) = x) (hy : ((q : ℚ) : ℝ) = y) (h : p ≤ q) : x ≤ y := by
  rw [← hx, ← hy]; exact Rat.cast_le.mpr h

theorem safeAcosSwitch_ge : (1 / 1000 : ℝ) ≤ safeAcosSwitch :=
  cast_le_of (by norm_num) rfl safeAcosSwitchQ_bounds.2.1

theorem safeAcosSwitch_le : safeAcosSwitch ≤ (1001 / 1000000 : ℝ) :=
  cast_le_of rfl (by norm_num) safeAcosSwitchQ_bounds.2.2

theorem safeAcosSwitch_pos : 0 < safeAcosSwitch := lt_of_lt_of_le (by norm_num) safeAcosSwitch_ge

/-- the identity behind the large-argument branch of `safe_acos` -/
theorem arccos_one_sub_two_sq {x : ℝ} (hx0 : 0 ≤ x) (hx1 : x ≤ 1) :
    Real.arccos (1 - 2 * x ^ 2) = 2 * Real.arcsin x := by
  have hs : Real.sin (Real.arcsin x) = x := Real.sin_arcsin (by linarith) hx1
  have h0 : 0 ≤ Real.arcsin x := Real.arcsin_nonneg.mpr hx0
  have h1 : Real.arcsin x ≤ π / 2 := Real.arcsin_le_pi_div_two x
  have hc : Real.cos (2 * Real.arcsin x) = 1 - 2 * x ^ 2 := by
    rw [Real.cos_two_mul, Real.cos_sq', hs]; ring
  rw [← hc, Real.arccos_cos (by linarith) (by linarith)]

/-- the same with the expression tree of the model (`1 - 2*x*x`) -/
theorem arccos_model_branch {x : ℝ} (hx0 : 0 ≤ x) (hx1 : x ≤ 1) :
    Real.arccos (1 - 2 * x * x) = 2 * Real.arcsin x := by
  rw [← arccos_one_sub_two_sq hx0 hx1]; congr 1; ring

/-- `arcsin_ge_cubic` and `arcsin_le_quintic` below: the difference `f` of the two sides has `f 0 = 0` and `f' ≥ 0`,
the latter from the two bounds `1 + u/2 ≤ 1/√(1-u) ≤ 1 + u/2 + u²/2` at `u = y²`. -/
theorem nonneg_of_deriv_nonneg {f f' : ℝ → ℝ} {b : ℝ} (hb : 0 ≤ b) (hd : ∀ y ∈ Icc 0 b, HasDerivAt f (f' y) y)
    (hf' : ∀ y ∈ Icc 0 b, 0 ≤ f' y) (h0 : f 0 = 0) : 0 ≤ f b := by
  have hmono : MonotoneOn f (Icc 0 b) :=
    monotoneOn_of_hasDerivWithinAt_nonneg (convex_Icc 0 b) (fun y hy => (hd y hy).continuousAt.continuousWithinAt)
      (fun y hy => (hd y (interior_subset hy)).hasDerivWithinAt) (fun y hy => hf' y (interior_subset hy))
  simpa only [h0] using hmono (left_mem_Icc.mpr hb) (right_mem_Icc.mpr hb) hb

/-- `1/√(1-u)` is compared with `q ≥ 0` after squaring -/
theorem inv_sqrt_cmp {u q : ℝ} (hu1 : u < 1) (hq : 0 ≤ q) :
    (q ≤ 1 / √(1 - u) ↔ q ^ 2 * (1 - u) ≤ 1) ∧ (1 / √(1 - u) ≤ q ↔ 1 ≤ q ^ 2 * (1 - u)) := by
  have hu : 0 ≤ 1 - u := by linarith only [hu1]
  have hs : 0 < √(1 - u) := Real.sqrt_pos.mpr (by linarith only [hu1])
  have hq' := mul_nonneg hq hs.le
  rw [le_div_iff₀ hs, div_le_iff₀ hs, ← pow_le_one_iff_of_nonneg hq' two_ne_zero,
    ← one_le_pow_iff_of_nonneg hq' two_ne_zero, mul_pow, Real.sq_sqrt hu]
  exact ⟨Iff.rfl, Iff.rfl⟩

theorem inv_sqrt_lower {u : ℝ} (hu0 : 0 ≤ u) (hu1 : u < 1) : 1 + u / 2 ≤ 1 / √(1 - u) := by
  rw [(inv_sqrt_cmp hu1 (by positivity)).1]
  -- this is `1 - (1 + u/2)² (1 - u)`
  have h : 0 ≤ 3 * u ^ 2 / 4 + u ^ 3 / 4 := by positivity
  linarith only [h]

theorem inv_sqrt_upper {u : ℝ} (hu0 : 0 ≤ u) (hu1 : u ≤ 1 / 4) : 1 / √(1 - u) ≤ 1 + u / 2 + u ^ 2 / 2 := by
  rw [(inv_sqrt_cmp (by linarith only [hu1]) (by positivity)).2]
  have h2 : u ^ 2 ≤ (1 / 4) ^ 2 := pow_le_pow_left₀ hu0 hu1 2
  have h3 : u ^ 3 ≤ (1 / 4) ^ 3 := pow_le_pow_left₀ hu0 hu1 3
  -- this is `(1 + u/2 + u²/2)² (1 - u) - 1`
  have h : 0 ≤ u ^ 2 / 4 * (1 - 3 * u - u ^ 2 - u ^ 3) :=
    mul_nonneg (by positivity) (by linarith only [hu1, h2, h3])
  linarith only [h]

theorem hasDerivAt_arcsin_sub_cubic {y : ℝ} (h1 : y ≠ -1) (h2 : y ≠ 1) :
    HasDerivAt (fun y => Real.arcsin y - (y + y ^ 3 / 6)) (1 / √(1 - y ^ 2) - (1 + y ^ 2 / 2)) y := by
  have h := (Real.hasDerivAt_arcsin h1 h2).sub ((hasDerivAt_id y).add ((hasDerivAt_pow 3 y).div_const 6))
  refine h.congr_deriv ?_
  ring

theorem hasDerivAt_quintic_sub_arcsin {y : ℝ} (h1 : y ≠ -1) (h2 : y ≠ 1) :
    HasDerivAt (fun y => y + y ^ 3 / 6 + y ^ 5 / 10 - Real.arcsin y)
      (1 + y ^ 2 / 2 + y ^ 4 / 2 - 1 / √(1 - y ^ 2)) y := by
  have h := (((hasDerivAt_id y).add ((hasDerivAt_pow 3 y).div_const 6)).add
    ((hasDerivAt_pow 5 y).div_const 10)).sub (Real.hasDerivAt_arcsin h1 h2)
  refine h.congr_deriv ?_
  ring

theorem arcsin_ge_cubic {x : ℝ} (hx0 : 0 ≤ x) (hx1 : x ≤ 1) : x + x ^ 3 / 6 ≤ Real.arcsin x := by
  rcases eq_or_lt_of_le hx1 with rfl | hlt
  · rw [Real.arcsin_one]; have := Real.pi_gt_three; norm_num; linarith
  rw [← sub_nonneg]
  exact nonneg_of_deriv_nonneg (f := fun y => Real.arcsin y - (y + y ^ 3 / 6)) hx0
    (fun y hy => hasDerivAt_arcsin_sub_cubic (by linarith only [hy.1]) (hy.2.trans_lt hlt).ne)
    (fun y hy => sub_nonneg.mpr (inv_sqrt_lower (by positivity) (pow_lt_one₀ hy.1 (hy.2.trans_lt hlt) two_ne_zero)))
    (by simp)

/-- the true coefficient of `x⁵` is `3/40` -/
theorem arcsin_le_quintic {x : ℝ} (hx0 : 0 ≤ x) (hx1 : x ≤ 1 / 2) :
    Real.arcsin x ≤ x + x ^ 3 / 6 + x ^ 5 / 10 := by
  rw [← sub_nonneg]
  refine nonneg_of_deriv_nonneg (f := fun y => y + y ^ 3 / 6 + y ^ 5 / 10 - Real.arcsin y) hx0
    (fun y hy => hasDerivAt_quintic_sub_arcsin (by linarith only [hy.1]) (by linarith only [hy.2, hx1]))
    (fun y hy => sub_nonneg.mpr ?_) (by simp)
  rw [show y ^ 4 = (y ^ 2) ^ 2 by ring]
  exact inv_sqrt_upper (by positivity) ((pow_le_pow_left₀ hy.1 (hy.2.trans hx1) 2).trans (by norm_num))

/-- accuracy of the series branch of `safe_acos`: `0 ≤ 2 arcsin x - (2x + x³/3) ≤ x⁵/5` on `[0,1/2]` -/
theorem two_arcsin_series {x : ℝ} (hx0 : 0 ≤ x) (hx1 : x ≤ 1 / 2) :
    0 ≤ 2 * Real.arcsin x - (2 * x + x * x * x / 3) ∧
      2 * Real.arcsin x - (2 * x + x * x * x / 3) ≤ x ^ 5 / 5 := by
  have h1 := arcsin_ge_cubic hx0 (by linarith)
  have h2 := arcsin_le_quintic hx0 hx1
  constructor <;> linarith

theorem two_arcsin_series_abs {x : ℝ} (hx0 : 0 ≤ x) (hx1 : x ≤ 1 / 2) :
    |2 * Real.arcsin x - (2 * x + x * x * x / 3)| ≤ x ^ 5 / 5 := by
  obtain ⟨h1, h2⟩ := two_arcsin_series hx0 hx1
  rwa [abs_of_nonneg h1]

/-- `(switch)⁵/5 ≤ 2.1e-16`: absolute accuracy of the series branch below the switch -/
theorem switch_pow_five : safeAcosSwitch ^ 5 / 5 ≤ 21 / 10 ^ 17 := by
  have h := pow_le_pow_left₀ safeAcosSwitch_pos.le safeAcosSwitch_le 5
  have : ((1001 : ℝ) / 1000000) ^ 5 / 5 ≤ 21 / 10 ^ 17 := by norm_num
  linarith

/-- `(switch)⁴/10 ≤ 1.01e-13`: relative accuracy of the series branch below the switch -/
theorem switch_pow_four : safeAcosSwitch ^ 4 / 10 ≤ 101 / 10 ^ 15 := by
  have h := pow_le_pow_left₀ safeAcosSwitch_pos.le safeAcosSwitch_le 4
  have : ((1001 : ℝ) / 1000000) ^ 4 / 10 ≤ 101 / 10 ^ 15 := by norm_num
  linarith

theorem safeAcosR_bounds {x : ℝ} (hx0 : 0 ≤ x) (hx1 : x ≤ 1) :
    0 ≤ 2 * Real.arcsin x - safeAcosR x ∧ 2 * Real.arcsin x - safeAcosR x ≤ 21 / 10 ^ 17 := by
  unfold safeAcosR
  split_ifs with h
  · have hx2 : x ≤ 1 / 2 := by linarith [safeAcosSwitch_le]
    obtain ⟨h1, h2⟩ := two_arcsin_series hx0 hx2
    refine ⟨h1, h2.trans ?_⟩
    have := pow_le_pow_left₀ hx0 h.le 5
    linarith [switch_pow_five]
  · rw [arccos_model_branch hx0 hx1]; norm_num

theorem safeAcosR_error {x : ℝ} (hx0 : 0 ≤ x) (hx1 : x ≤ 1) :
    |safeAcosR x - 2 * Real.arcsin x| ≤ 1e-15 := by
  obtain ⟨h1, h2⟩ := safeAcosR_bounds hx0 hx1
  rw [abs_sub_comm, abs_of_nonneg h1]
  refine h2.trans ?_; norm_num

theorem safeAcosR_rel {x : ℝ} (hx0 : 0 ≤ x) (hx1 : x ≤ 1) :
    2 * Real.arcsin x - safeAcosR x ≤ 101 / 10 ^ 15 * (2 * Real.arcsin x) := by
  have ha : x ≤ Real.arcsin x := by
    have h3 : 0 ≤ x ^ 3 / 6 := by positivity
    linarith only [arcsin_ge_cubic hx0 hx1, h3]
  unfold safeAcosR
  split_ifs with h
  · have hx2 : x ≤ 1 / 2 := by linarith only [h, safeAcosSwitch_le]
    obtain ⟨_, h2⟩ := two_arcsin_series hx0 hx2
    have h4 : x ^ 4 / 10 ≤ 101 / 10 ^ 15 := by
      linarith only [pow_le_pow_left₀ hx0 h.le 4, switch_pow_four]
    have h5 : x ^ 5 / 5 = x ^ 4 / 10 * (2 * x) := by ring
    have h6 : x ^ 4 / 10 * (2 * x) ≤ 101 / 10 ^ 15 * (2 * Real.arcsin x) :=
      mul_le_mul h4 (by linarith only [ha]) (by positivity) (by norm_num)
    linarith only [h2, h5, h6]
  · rw [arccos_model_branch hx0 hx1, sub_self]
    have : 0 ≤ Real.arcsin x := Real.arcsin_nonneg.mpr hx0
    positivity

/-- the two branches of `safe_acos` agree at the switch point to `2.1e-16` (so the switch introduces no jump
larger than one unit in the 16th decimal; the result there is `≈ 2e-3`, ulp `≈ 4.3e-19`) -/
theorem safeAcos_branches_agree_at_switch :
    |(2 * safeAcosSwitch + safeAcosSwitch * safeAcosSwitch * safeAcosSwitch / 3)
        - Real.arccos (1 - 2 * safeAcosSwitch * safeAcosSwitch)| ≤ 21 / 10 ^ 17 := by
  have h0 := safeAcosSwitch_pos.le
  have h1 : safeAcosSwitch ≤ 1 / 2 := by linarith [safeAcosSwitch_le]
  rw [arccos_model_branch h0 (by linarith), abs_sub_comm]
  exact (two_arcsin_series_abs h0 h1).trans switch_pow_five

theorem safeAcos_branches_agree {x : ℝ} (hx0 : 0 ≤ x) (hx1 : x ≤ 1 / 2) :
    |Real.arccos (1 - 2 * x * x) - (2 * x + x * x * x / 3)| ≤ x ^ 5 / 5 := by
  rw [arccos_model_branch hx0 (by linarith)]
  exact two_arcsin_series_abs hx0 hx1

/-! ## the radial round trip

`AV` = arc from the triangle vertex `A` to the point `v`, `AP` = arc from `A` to the point `p` where the great
circle `A v` meets the edge `BC`.  Forward: `h = sin (AV/2) / sin (AP/2)`.  Inverse: `k = sin (AP/2)`,
`t = safeAcos (h k) / safeAcos k`, result = point at arc `t · AP` from `A` towards `p`. -/

theorem radial_setup {AV AP : ℝ} (h0 : 0 ≤ AV) (h1 : AV ≤ AP) (h2 : 0 < AP) (h3 : AP ≤ π) :
    0 < Real.sin (AP / 2) ∧ Real.sin (AP / 2) ≤ 1 ∧
    Real.sin (AV / 2) / Real.sin (AP / 2) * Real.sin (AP / 2) = Real.sin (AV / 2) ∧
    0 ≤ Real.sin (AV / 2) ∧ Real.sin (AV / 2) ≤ Real.sin (AP / 2) ∧
    2 * Real.arcsin (Real.sin (AV / 2)) = AV ∧ 2 * Real.arcsin (Real.sin (AP / 2)) = AP := by
  have hπ := Real.pi_pos
  have hk : 0 < Real.sin (AP / 2) := Real.sin_pos_of_pos_of_lt_pi (by linarith) (by linarith)
  refine ⟨hk, Real.sin_le_one _, div_mul_cancel₀ _ hk.ne', ?_, ?_, ?_, ?_⟩
  · exact Real.sin_nonneg_of_nonneg_of_le_pi (by linarith) (by linarith)
  · exact Real.sin_le_sin_of_le_of_le_pi_div_two (by linarith) (by linarith) (by linarith)
  · rw [Real.arcsin_sin (by linarith) (by linarith)]; ring
  · rw [Real.arcsin_sin (by linarith) (by linarith)]; ring

/-- `0 ≤ h ≤ 1`: the forward radial coordinate is a valid barycentric weight -/
theorem radial_h_mem {AV AP : ℝ} (h0 : 0 ≤ AV) (h1 : AV ≤ AP) (h2 : 0 < AP) (h3 : AP ≤ π) :
    0 ≤ Real.sin (AV / 2) / Real.sin (AP / 2) ∧ Real.sin (AV / 2) / Real.sin (AP / 2) ≤ 1 := by
  obtain ⟨hk, _, _, hv0, hv1, _, _⟩ := radial_setup h0 h1 h2 h3
  exact ⟨div_nonneg hv0 hk.le, (div_le_one hk).mpr hv1⟩

theorem radial_t_exact {AV AP : ℝ} (h0 : 0 ≤ AV) (h1 : AV ≤ AP) (h2 : 0 < AP) (h3 : AP ≤ π) :
    (2 * Real.arcsin (Real.sin (AV / 2) / Real.sin (AP / 2) * Real.sin (AP / 2))) /
      (2 * Real.arcsin (Real.sin (AP / 2))) = AV / AP := by
  obtain ⟨_, _, hhk, _, _, eV, eP⟩ := radial_setup h0 h1 h2 h3
  rw [hhk, eV, eP]

/-- **Radial round trip, exact branch.**  With `2 arcsin` (= `arccos (1 - 2x²)`, the function `safe_acos`
approximates) the inverse recovers the arc length of the forward image exactly. -/
theorem radial_roundtrip_exact {AV AP : ℝ} (h0 : 0 ≤ AV) (h1 : AV ≤ AP) (h2 : 0 < AP) (h3 : AP ≤ π) :
    let k := Real.sin (AP / 2)
    let h := Real.sin (AV / 2) / Real.sin (AP / 2)
    (2 * Real.arcsin (h * k)) / (2 * Real.arcsin k) * AP = AV := by
  intro k h
  exact (congrArg (· * AP) (radial_t_exact h0 h1 h2 h3)).trans (div_mul_cancel₀ _ h2.ne')

theorem ratio_perturb_abs {AV AP s1 s2 ε : ℝ} (h0 : 0 ≤ AV) (hε : ε < AP)
    (e1 : |s1 - AV| ≤ ε) (e2 : |s2 - AP| ≤ ε) : |s1 / s2 * AP - AV| ≤ ε * (AP + AV) / (AP - ε) := by
  have hε0 : 0 ≤ ε := (abs_nonneg _).trans e1
  have hAP : 0 ≤ AP := by linarith
  have hs2 : AP - ε ≤ s2 := by have := (abs_le.mp e2).1; linarith
  have hs2p : 0 < s2 := by linarith
  have e : s1 / s2 * AP - AV = ((s1 - AV) * AP - AV * (s2 - AP)) / s2 := by field_simp; ring
  rw [e, abs_div, abs_of_pos hs2p]
  refine div_le_div₀ (by positivity) ?_ (by linarith) hs2
  calc |(s1 - AV) * AP - AV * (s2 - AP)| ≤ |(s1 - AV) * AP| + |AV * (s2 - AP)| := abs_sub _ _
    _ = |s1 - AV| * AP + AV * |s2 - AP| := by rw [abs_mul, abs_mul, abs_of_nonneg hAP, abs_of_nonneg h0]
    _ ≤ ε * AP + AV * ε := add_le_add (mul_le_mul_of_nonneg_right e1 hAP) (mul_le_mul_of_nonneg_left e2 h0)
    _ = ε * (AP + AV) := by ring

theorem ratio_perturb_rel {AV AP d1 d2 η : ℝ} (h0 : 0 ≤ AV) (h2 : 0 < AP) (hη0 : 0 ≤ η) (hη : η < 1)
    (hd1 : 0 ≤ d1) (hd1' : d1 ≤ η * AV) (hd2 : 0 ≤ d2) (hd2' : d2 ≤ η * AP) :
    |(AV - d1) / (AP - d2) * AP - AV| ≤ AV * η / (1 - η) := by
  have hs2 : AP * (1 - η) ≤ AP - d2 := by linarith
  have hpos : 0 < AP * (1 - η) := mul_pos h2 (by linarith)
  have hs2p : 0 < AP - d2 := by linarith
  have e : (AV - d1) / (AP - d2) * AP - AV = (AV * d2 - d1 * AP) / (AP - d2) := by field_simp; ring
  have e' : AV * η / (1 - η) = (η * AV * AP) / (AP * (1 - η)) := by
    have : (1 - η) ≠ 0 := by linarith
    field_simp
  rw [e, e', abs_div, abs_of_pos hs2p]
  refine div_le_div₀ (by positivity) ?_ hpos hs2
  rw [abs_le]
  have p1 : AV * d2 ≤ AV * (η * AP) := mul_le_mul_of_nonneg_left hd2' h0
  have p2 : d1 * AP ≤ η * AV * AP := mul_le_mul_of_nonneg_right hd1' h2.le
  have p3 : 0 ≤ AV * d2 := mul_nonneg h0 hd2
  have p4 : 0 ≤ d1 * AP := mul_nonneg hd1 h2.le
  constructor <;> linarith

/-- **Radial round trip with `safe_acos`.**  With the real twin `safeAcosR` of the code (series below the
switch, `arccos (1 - 2x²)` above) the recovered arc `t · AP` differs from `AV` by at most `5e-16`, uniformly in
`0 ≤ AV ≤ AP ≤ π`, `AP > 0` (exact real arithmetic; no floating-point rounding is modelled here). -/
theorem radial_roundtrip_safeAcos {AV AP : ℝ} (h0 : 0 ≤ AV) (h1 : AV ≤ AP) (h2 : 0 < AP) (h3 : AP ≤ π) :
    let k := Real.sin (AP / 2)
    let h := Real.sin (AV / 2) / Real.sin (AP / 2)
    |safeAcosR (h * k) / safeAcosR k * AP - AV| ≤ 5e-16 := by
  intro k h
  obtain ⟨hk, hk1, hhk, hv0, hv1, eV, eP⟩ := radial_setup h0 h1 h2 h3
  show |safeAcosR (Real.sin (AV / 2) / Real.sin (AP / 2) * Real.sin (AP / 2)) /
    safeAcosR (Real.sin (AP / 2)) * AP - AV| ≤ 5e-16
  rw [hhk]
  obtain ⟨a1, a2⟩ := safeAcosR_bounds hv0 (hv1.trans hk1)
  obtain ⟨b1, b2⟩ := safeAcosR_bounds hk.le hk1
  have r1 := safeAcosR_rel hv0 (hv1.trans hk1)
  have r2 := safeAcosR_rel hk.le hk1
  rw [eV] at a1 a2 r1
  rw [eP] at b1 b2 r2
  refine le_trans ?_ (by norm_num : (5 / 10 ^ 16 : ℝ) ≤ 5e-16)
  rcases le_or_gt (1 / 1000) AP with hbig | hsmall
  · -- absolute accuracy 2.1e-16 of both terms
    have hε : (21 / 10 ^ 17 : ℝ) < AP := lt_of_lt_of_le (by norm_num) hbig
    have e1 : |safeAcosR (Real.sin (AV / 2)) - AV| ≤ 21 / 10 ^ 17 := by
      rw [abs_sub_comm, abs_of_nonneg a1]; exact a2
    have e2 : |safeAcosR (Real.sin (AP / 2)) - AP| ≤ 21 / 10 ^ 17 := by
      rw [abs_sub_comm, abs_of_nonneg b1]; exact b2
    refine (ratio_perturb_abs h0 hε e1 e2).trans ?_
    rw [div_le_iff₀ (sub_pos.mpr hε)]
    linarith only [h1, hbig]
  · -- relative accuracy 1.01e-13 of both terms, and `AV ≤ AP < 1e-3`
    have e : safeAcosR (Real.sin (AV / 2)) / safeAcosR (Real.sin (AP / 2)) * AP - AV
        = (AV - (AV - safeAcosR (Real.sin (AV / 2)))) / (AP - (AP - safeAcosR (Real.sin (AP / 2)))) * AP - AV := by
      rw [sub_sub_cancel, sub_sub_cancel]
    rw [e]
    refine (ratio_perturb_rel (η := 101 / 10 ^ 15) h0 h2 (by norm_num) (by norm_num) a1 r1 b1 r2).trans ?_
    rw [div_le_iff₀ (by norm_num)]
    linarith only [h1, hsmall]

/-- real twin of `A5.V3` -/
@[ext] structure R3 where
  x : ℝ
  y : ℝ
  z : ℝ

def dotR (a b : R3) : ℝ := a.x * b.x + a.y * b.y + a.z * b.z
def crossR (a b : R3) : R3 := ⟨a.y * b.z - a.z * b.y, a.z * b.x - a.x * b.z, a.x * b.y - a.y * b.x⟩
noncomputable def lengthR (v : R3) : ℝ := √(v.x * v.x + v.y * v.y + v.z * v.z)
noncomputable def normalizeR (v : R3) : R3 :=
  let len := lengthR v
  if len = 0 then v else ⟨v.x / len, v.y / len, v.z / len⟩
def lerpR (a b : R3) (t : ℝ) : R3 := ⟨a.x + t * (b.x - a.x), a.y + t * (b.y - a.y), a.z + t * (b.z - a.z)⟩
def subR (a b : R3) : R3 := ⟨a.x - b.x, a.y - b.y, a.z - b.z⟩
def addR (a b : R3) : R3 := ⟨a.x + b.x, a.y + b.y, a.z + b.z⟩
def scaleR (v : R3) (s : ℝ) : R3 := ⟨v.x * s, v.y * s, v.z * s⟩
noncomputable def clamp1R (x : ℝ) : ℝ := if x < -1 then -1 else if x > 1 then 1 else x

/-- exact values of the generated switch constants (`1e-12`, `1e-8` in the Rust source) -/
def slerpSwitchQ : ℚ := Gen.SLERP_SWITCH.toRat
noncomputable def slerpSwitch : ℝ := ((slerpSwitchQ : ℚ) : ℝ)
noncomputable def vecdiffSwitch : ℝ := ((Gen.VECDIFF_SWITCH.toRat : ℚ) : ℝ)

theorem slerpSwitchQ_bounds : 0 < slerpSwitchQ ∧ slerpSwitchQ ≤ 1 / 10 := by decide +kernel

theorem slerpSwitch_pos : 0 < slerpSwitch := by
  unfold slerpSwitch
  exact_mod_cast slerpSwitchQ_bounds.1

theorem slerpSwitch_le : slerpSwitch ≤ 1 / 10 := cast_le_of rfl (by norm_num) slerpSwitchQ_bounds.2

/-- real twin of `A5.v3angle` -/
noncomputable def angleR (a b : R3) : ℝ :=
  let cosA := dotR a b / (lengthR a * lengthR b)
  Real.arccos (clamp1R cosA)

/-- real twin of `A5.slerp` (same expression tree, same small-angle branch) -/
noncomputable def slerpR (a b : R3) (t : ℝ) : R3 :=
  let gamma := angleR a b
  if gamma < slerpSwitch then lerpR a b t
  else
    let wa := Real.sin ((1 - t) * gamma) / Real.sin gamma
    let wb := Real.sin (t * gamma) / Real.sin gamma
    addR (scaleR a wa) (scaleR b wb)

/-- real twin of `A5.vectorDifference` (the literal `0.5` is the real `1/2`) -/
noncomputable def vectorDifferenceR (a b : R3) : ℝ :=
  let mid := normalizeR (lerpR a b (1 / 2))
  let d := lengthR (crossR a mid)
  if d < vecdiffSwitch then 1 / 2 * lengthR (subR a b) else d

theorem lengthR_eq (v : R3) : lengthR v = √(dotR v v) := rfl

theorem dotR_self_nonneg (v : R3) : 0 ≤ dotR v v :=
  add_nonneg (add_nonneg (mul_self_nonneg _) (mul_self_nonneg _)) (mul_self_nonneg _)

theorem lengthR_unit {a : R3} (ha : dotR a a = 1) : lengthR a = 1 := by
  rw [lengthR_eq, ha, Real.sqrt_one]

theorem dotR_comm (a b : R3) : dotR a b = dotR b a := by simp only [dotR]; ring

theorem dotR_sub_self (r v : R3) :
    dotR (subR r v) (subR r v) = dotR r r + dotR v v - 2 * dotR r v := by
  simp only [dotR, subR]; ring

theorem dotR_comb_comb (a b : R3) (wa wb wa' wb' : ℝ) :
    dotR (addR (scaleR a wa) (scaleR b wb)) (addR (scaleR a wa') (scaleR b wb'))
      = wa * wa' * dotR a a + wb * wb' * dotR b b + (wa * wb' + wb * wa') * dotR a b := by
  simp only [dotR, addR, scaleR]; ring

theorem dotR_comb (a b : R3) (wa wb : ℝ) :
    dotR (addR (scaleR a wa) (scaleR b wb)) (addR (scaleR a wa) (scaleR b wb))
      = wa ^ 2 * dotR a a + wb ^ 2 * dotR b b + 2 * wa * wb * dotR a b ∧
    dotR a (addR (scaleR a wa) (scaleR b wb)) = wa * dotR a a + wb * dotR a b ∧
    dotR b (addR (scaleR a wa) (scaleR b wb)) = wa * dotR a b + wb * dotR b b := by
  refine ⟨(dotR_comb_comb a b wa wb wa wb).trans (by ring), ?_, ?_⟩ <;> simp only [dotR, addR, scaleR] <;> ring

theorem dotR_comb_right (x b c : R3) (wa wb : ℝ) :
    dotR x (addR (scaleR b wa) (scaleR c wb)) = wa * dotR x b + wb * dotR c x := by
  simp only [dotR, addR, scaleR]; ring

theorem lerpR_half_dot {a b : R3} (ha : dotR a a = 1) (hb : dotR b b = 1) :
    dotR (lerpR a b (1 / 2)) (lerpR a b (1 / 2)) = (1 + dotR a b) / 2 ∧
    dotR a (lerpR a b (1 / 2)) = (1 + dotR a b) / 2 := by
  simp only [dotR, lerpR] at *
  exact ⟨by linear_combination (1 / 4 : ℝ) * ha + (1 / 4 : ℝ) * hb, by linear_combination (1 / 2 : ℝ) * ha⟩

theorem normalizeR_of_pos {v : R3} (h : 0 < dotR v v) :
    normalizeR v = ⟨v.x / √(dotR v v), v.y / √(dotR v v), v.z / √(dotR v v)⟩ := by
  have hL : √(dotR v v) ≠ 0 := (Real.sqrt_pos.mpr h).ne'
  unfold normalizeR
  simp only [lengthR_eq]
  exact if_neg hL

theorem lagrange (a b : R3) :
    dotR a a * dotR b b - dotR a b ^ 2 = dotR (crossR a b) (crossR a b) := by
  simp only [dotR, crossR]; ring

/-- Cauchy–Schwarz for unit vectors -/
theorem dotR_unit_mem {a b : R3} (ha : dotR a a = 1) (hb : dotR b b = 1) :
    -1 ≤ dotR a b ∧ dotR a b ≤ 1 := by
  have h := lagrange a b
  rw [ha, hb] at h
  have h2 := dotR_self_nonneg (crossR a b)
  exact abs_le.mp ((sq_le_one_iff_abs_le_one _).mp (by linarith))

theorem angleR_unit {a b : R3} (ha : dotR a a = 1) (hb : dotR b b = 1) :
    angleR a b = Real.arccos (dotR a b) ∧ Real.cos (angleR a b) = dotR a b ∧
      0 ≤ angleR a b ∧ angleR a b ≤ π := by
  obtain ⟨h1, h2⟩ := dotR_unit_mem ha hb
  have e : angleR a b = Real.arccos (dotR a b) := by
    unfold angleR clamp1R
    simp only [lengthR_unit ha, lengthR_unit hb, mul_one, div_one]
    rw [if_neg (by linarith), if_neg (by linarith)]
  rw [e]
  exact ⟨rfl, Real.cos_arccos h1 h2, Real.arccos_nonneg _, Real.arccos_le_pi _⟩

theorem slerpR_unfold {b c : R3} (q : ℝ) (hγ : slerpSwitch ≤ angleR b c) :
    slerpR b c q = addR (scaleR b (Real.sin ((1 - q) * angleR b c) / Real.sin (angleR b c)))
      (scaleR c (Real.sin (q * angleR b c) / Real.sin (angleR b c))) := by
  unfold slerpR
  simp only [if_neg (not_lt.mpr hγ)]

/-- the algebra of `slerpR_dot_slerpR`: `S, C` are `sin γ, cos γ`, and `s, c`, `s', c'` the sines and cosines of `sγ`, `tγ` -/
theorem slerp_weights_dot {S C s c s' c' : ℝ} (h1 : S ^ 2 + C ^ 2 = 1) (hS : S ≠ 0) :
    ((S * c - C * s) / S) * ((S * c' - C * s') / S) + (s / S) * (s' / S)
      + (((S * c - C * s) / S) * (s' / S) + (s / S) * ((S * c' - C * s') / S)) * C = c * c' + s * s' := by
  field_simp
  linear_combination (-(s * s')) * h1

theorem slerpR_dot_slerpR {a p : R3} (s t : ℝ) (ha : dotR a a = 1) (hp : dotR p p = 1)
    (hγ : slerpSwitch ≤ angleR a p) (hπ : angleR a p < π) :
    dotR (slerpR a p s) (slerpR a p t) = Real.cos ((s - t) * angleR a p) := by
  obtain ⟨_, hcos, _, _⟩ := angleR_unit ha hp
  have hpos : 0 < angleR a p := lt_of_lt_of_le slerpSwitch_pos hγ
  have hS : Real.sin (angleR a p) ≠ 0 := (Real.sin_pos_of_pos_of_lt_pi hpos hπ).ne'
  unfold slerpR
  simp only [if_neg (not_lt.mpr hγ)]
  generalize angleR a p = γ at *
  have es : (1 - s) * γ = γ - s * γ := by ring
  have et : (1 - t) * γ = γ - t * γ := by ring
  have est : (s - t) * γ = s * γ - t * γ := by ring
  have c := slerp_weights_dot (s := Real.sin (s * γ)) (c := Real.cos (s * γ)) (s' := Real.sin (t * γ))
    (c' := Real.cos (t * γ)) (Real.sin_sq_add_cos_sq γ) hS
  rw [dotR_comb_comb, ha, hp, ← hcos, es, et, est, Real.sin_sub, Real.sin_sub, Real.cos_sub]
  refine Eq.trans ?_ c; ring

theorem slerpR_zero_one {a p : R3} (hγ : slerpSwitch ≤ angleR a p) (hS : Real.sin (angleR a p) ≠ 0) :
    slerpR a p 0 = a ∧ slerpR a p 1 = p := by
  rw [slerpR_unfold 0 hγ, slerpR_unfold 1 hγ]
  simp only [sub_zero, one_mul, zero_mul, sub_self, Real.sin_zero, zero_div, div_self hS]
  exact ⟨by ext <;> simp [addR, scaleR], by ext <;> simp [addR, scaleR]⟩

/-- **`slerp` over `ℝ`.**  For unit vectors `a`, `p` at angle `γ ∈ [SLERP_SWITCH, π)` the result of
`slerp a p t` is a unit vector whose inner products with `a` and `p` are `cos (tγ)` and `cos ((1-t)γ)`:
it is the point of the great circle through `a` and `p` at arc `tγ` from `a`.  (Any real `t`.) -/
theorem slerpR_spec {a p : R3} (t : ℝ) (ha : dotR a a = 1) (hp : dotR p p = 1)
    (hγ : slerpSwitch ≤ angleR a p) (hπ : angleR a p < π) :
    dotR (slerpR a p t) (slerpR a p t) = 1 ∧
    dotR a (slerpR a p t) = Real.cos (t * angleR a p) ∧
    dotR p (slerpR a p t) = Real.cos ((1 - t) * angleR a p) := by
  have hpos : 0 < angleR a p := lt_of_lt_of_le slerpSwitch_pos hγ
  obtain ⟨e0, e1⟩ := slerpR_zero_one hγ (Real.sin_pos_of_pos_of_lt_pi hpos hπ).ne'
  have h0 := slerpR_dot_slerpR 0 t ha hp hγ hπ
  have h1 := slerpR_dot_slerpR 1 t ha hp hγ hπ
  rw [e0, zero_sub, neg_mul, Real.cos_neg] at h0
  rw [e1] at h1
  exact ⟨by simpa using slerpR_dot_slerpR t t ha hp hγ hπ, h0, h1⟩

theorem slerpR_angle {a p : R3} {t : ℝ} (ht0 : 0 ≤ t) (ht1 : t ≤ 1) (ha : dotR a a = 1) (hp : dotR p p = 1)
    (hγ : slerpSwitch ≤ angleR a p) (hπ : angleR a p < π) :
    angleR a (slerpR a p t) = t * angleR a p := by
  obtain ⟨hu, hd, _⟩ := slerpR_spec t ha hp hγ hπ
  have hpos : 0 < angleR a p := lt_of_lt_of_le slerpSwitch_pos hγ
  rw [(angleR_unit ha hu).1, hd, Real.arccos_cos (by positivity)]
  have : t * angleR a p ≤ 1 * angleR a p := mul_le_mul_of_nonneg_right ht1 hpos.le
  linarith

theorem lerpR_norm_sq (a p : R3) (t : ℝ) (ha : dotR a a = 1) (hp : dotR p p = 1) :
    dotR (lerpR a p t) (lerpR a p t) = 1 - 2 * t * (1 - t) * (1 - dotR a p) := by
  simp only [dotR, lerpR] at *
  linear_combination ((1 - t) ^ 2) * ha + t ^ 2 * hp

/-- the small-angle branch of `slerp` (plain `lerp`): for `0 ≤ t ≤ 1` the squared norm of the result is within `γ²/4`
of `1` (`γ < SLERP_SWITCH` on that branch) -/
theorem lerpR_norm_sq_bounds {a p : R3} {t : ℝ} (ht0 : 0 ≤ t) (ht1 : t ≤ 1) (ha : dotR a a = 1)
    (hp : dotR p p = 1) :
    1 - angleR a p ^ 2 / 4 ≤ dotR (lerpR a p t) (lerpR a p t) ∧ dotR (lerpR a p t) (lerpR a p t) ≤ 1 := by
  rw [lerpR_norm_sq a p t ha hp]
  obtain ⟨_, hcos, _, _⟩ := angleR_unit ha hp
  obtain ⟨_, hle⟩ := dotR_unit_mem ha hp
  have h1 := Real.one_sub_sq_div_two_le_cos (x := angleR a p)
  rw [hcos] at h1
  have h2 : 0 ≤ t * (1 - t) := mul_nonneg ht0 (by linarith)
  have h3 : t * (1 - t) ≤ 1 / 4 := by linarith [sq_nonneg (t - 1 / 2)]
  have h4 : 0 ≤ 1 - dotR a p := by linarith
  have h5 := mul_le_mul h3 (by linarith : 1 - dotR a p ≤ angleR a p ^ 2 / 2) h4 (by norm_num)
  have h6 := mul_nonneg h2 h4
  constructor <;> linarith

theorem sin_half_facts {γ : ℝ} (h0 : 0 ≤ γ) (h1 : γ ≤ π) :
    0 ≤ Real.sin (γ / 2) ∧ Real.sin (γ / 2) ^ 2 = (1 - Real.cos γ) / 2 := by
  refine ⟨Real.sin_nonneg_of_nonneg_of_le_pi (by linarith) (by linarith [Real.pi_pos]), ?_⟩
  rw [Real.sin_sq_eq_half_sub, mul_div_cancel₀ _ two_ne_zero]; ring

/-- the near branch: half the chord -/
theorem vectorDifference_near {a b : R3} (ha : dotR a a = 1) (hb : dotR b b = 1) :
    1 / 2 * lengthR (subR a b) = Real.sin (angleR a b / 2) := by
  obtain ⟨_, hcos, g0, g1⟩ := angleR_unit ha hb
  obtain ⟨s0, s2⟩ := sin_half_facts g0 g1
  refine (sq_eq_sq₀ (by unfold lengthR; positivity) s0).mp ?_
  have hrad : (subR a b).x * (subR a b).x + (subR a b).y * (subR a b).y + (subR a b).z * (subR a b).z
      = 2 - 2 * dotR a b := by
    simp only [dotR, subR] at *
    linear_combination ha + hb
  have hnn : 0 ≤ 2 - 2 * dotR a b := by linarith [(dotR_unit_mem ha hb).2]
  rw [s2, hcos, mul_pow, lengthR, hrad, Real.sq_sqrt hnn]; ring

theorem cross_div_norm_sq (a m : R3) {L : ℝ} (hL : L ≠ 0) :
    dotR (crossR a ⟨m.x / L, m.y / L, m.z / L⟩) (crossR a ⟨m.x / L, m.y / L, m.z / L⟩)
      = (dotR a a * dotR m m - dotR a m ^ 2) / L ^ 2 := by
  simp only [dotR, crossR]
  field_simp
  ring

/-- the far branch: `|a × normalize ((a+b)/2)|` -/
theorem vectorDifference_far {a b : R3} (ha : dotR a a = 1) (hb : dotR b b = 1) (hπ : angleR a b < π) :
    lengthR (crossR a (normalizeR (lerpR a b (1 / 2)))) = Real.sin (angleR a b / 2) := by
  obtain ⟨hang, hcos, g0, g1⟩ := angleR_unit ha hb
  obtain ⟨s0, s2⟩ := sin_half_facts g0 g1
  have hC : -1 < dotR a b := by rw [hang] at hπ; exact Real.arccos_lt_pi.mp hπ
  obtain ⟨hmm, ham⟩ := lerpR_half_dot ha hb
  have hm0 : 0 < dotR (lerpR a b (1 / 2)) (lerpR a b (1 / 2)) := by rw [hmm]; linarith
  refine (sq_eq_sq₀ (by unfold lengthR; positivity) s0).mp ?_
  rw [lengthR_eq, Real.sq_sqrt (dotR_self_nonneg _), normalizeR_of_pos hm0,
    cross_div_norm_sq a _ (Real.sqrt_pos.mpr hm0).ne', Real.sq_sqrt hm0.le, hmm, ham, ha, s2, hcos]
  have : (1 + dotR a b) ≠ 0 := by linarith
  field_simp
  ring

/-- **`vector_difference` over `ℝ`**: for unit vectors at angle `γ < π`, whichever branch is taken, the result
is `sin (γ/2)`. -/
theorem vectorDifferenceR_eq {a b : R3} (ha : dotR a a = 1) (hb : dotR b b = 1) (hπ : angleR a b < π) :
    vectorDifferenceR a b = Real.sin (angleR a b / 2) := by
  unfold vectorDifferenceR
  simp only
  split_ifs
  · exact vectorDifference_near ha hb
  · exact vectorDifference_far ha hb hπ

theorem vectorDifferenceR_slerp {a p : R3} {s : ℝ} (hs0 : 0 ≤ s) (hs1 : s ≤ 1)
    (ha : dotR a a = 1) (hp : dotR p p = 1) (hγ : slerpSwitch ≤ angleR a p) (hπ : angleR a p < π) :
    vectorDifferenceR a (slerpR a p s) = Real.sin (s * angleR a p / 2) ∧
    vectorDifferenceR a p = Real.sin (angleR a p / 2) ∧
    0 < angleR a p ∧ 0 ≤ s * angleR a p ∧ s * angleR a p ≤ angleR a p := by
  have hpos : 0 < angleR a p := lt_of_lt_of_le slerpSwitch_pos hγ
  have hav : angleR a (slerpR a p s) = s * angleR a p := slerpR_angle hs0 hs1 ha hp hγ hπ
  have hav1 : s * angleR a p ≤ angleR a p := mul_le_of_le_one_left hpos.le hs1
  refine ⟨?_, vectorDifferenceR_eq ha hp hπ, hpos, mul_nonneg hs0 hpos.le, hav1⟩
  rw [vectorDifferenceR_eq ha (slerpR_spec s ha hp hγ hπ).1 (by rw [hav]; linarith), hav]

/-- **Radial round trip for points of the arc `a → p`** (exact real arithmetic, exact `2 arcsin`).
Let `a`, `p` be unit vectors at angle `γ ∈ [SLERP_SWITCH, π)` and `v = slerp a p s` a point of the arc between
them (`0 ≤ s ≤ 1`).  The forward map computes `h = vector_difference a v / vector_difference a p`; the inverse
computes `k = vector_difference a p`, `t = 2 arcsin (h k) / (2 arcsin k)` and returns `slerp a p t`.  Then `t = s`
and the returned point is `v`. -/
theorem radial_roundtrip_vector {a p : R3} {s : ℝ} (hs0 : 0 ≤ s) (hs1 : s ≤ 1)
    (ha : dotR a a = 1) (hp : dotR p p = 1) (hγ : slerpSwitch ≤ angleR a p) (hπ : angleR a p < π) :
    let v := slerpR a p s
    let h := vectorDifferenceR a v / vectorDifferenceR a p
    let k := vectorDifferenceR a p
    let t := (2 * Real.arcsin (h * k)) / (2 * Real.arcsin k)
    t = s ∧ slerpR a p t = v := by
  intro v h k t
  obtain ⟨e1, e2, hpos, hav0, hav1⟩ := vectorDifferenceR_slerp hs0 hs1 ha hp hγ hπ
  have ht : t = s := by
    show (2 * Real.arcsin (vectorDifferenceR a v / vectorDifferenceR a p * vectorDifferenceR a p)) /
      (2 * Real.arcsin (vectorDifferenceR a p)) = s
    rw [e1, e2, radial_t_exact hav0 hav1 hpos hπ.le]
    exact mul_div_cancel_right₀ _ hpos.ne'
  exact ⟨ht, by rw [ht]⟩

/-- **Radial round trip for points of the arc `a → p`, with `safe_acos`.**  Same situation, but `t` computed with
the real twin `safeAcosR` of the code: the returned point is a unit vector within Euclidean distance `5e-16`
of `v` (exact real arithmetic; floating-point rounding is not modelled). -/
theorem radial_roundtrip_vector_safeAcos {a p : R3} {s : ℝ} (hs0 : 0 ≤ s) (hs1 : s ≤ 1)
    (ha : dotR a a = 1) (hp : dotR p p = 1) (hγ : slerpSwitch ≤ angleR a p) (hπ : angleR a p < π) :
    let v := slerpR a p s
    let h := vectorDifferenceR a v / vectorDifferenceR a p
    let k := vectorDifferenceR a p
    let t := safeAcosR (h * k) / safeAcosR k
    dotR (slerpR a p t) (slerpR a p t) = 1 ∧ lengthR (subR (slerpR a p t) v) ≤ 5e-16 := by
  intro v h k t
  obtain ⟨e1, e2, hpos, hav0, hav1⟩ := vectorDifferenceR_slerp hs0 hs1 ha hp hγ hπ
  obtain ⟨hvu, _, _⟩ := slerpR_spec s ha hp hγ hπ
  obtain ⟨hru, _, _⟩ := slerpR_spec t ha hp hγ hπ
  have key := radial_roundtrip_safeAcos hav0 hav1 hpos hπ.le
  have ht : t = safeAcosR (Real.sin (s * angleR a p / 2) / Real.sin (angleR a p / 2) *
      Real.sin (angleR a p / 2)) / safeAcosR (Real.sin (angleR a p / 2)) := by
    show safeAcosR (vectorDifferenceR a v / vectorDifferenceR a p * vectorDifferenceR a p) /
      safeAcosR (vectorDifferenceR a p) = _
    rw [e1, e2]
  simp only at key
  rw [← ht] at key
  refine ⟨hru, ?_⟩
  have hdot : dotR (slerpR a p t) v = Real.cos ((t - s) * angleR a p) := slerpR_dot_slerpR t s ha hp hγ hπ
  have hδ : |(t - s) * angleR a p| ≤ 5e-16 := by
    have : (t - s) * angleR a p = t * angleR a p - s * angleR a p := by ring
    rw [this]; exact key
  have hcos := Real.one_sub_sq_div_two_le_cos (x := (t - s) * angleR a p)
  show √(dotR (subR (slerpR a p t) v) (subR (slerpR a p t) v)) ≤ 5e-16
  rw [dotR_sub_self, hru, hvu, hdot]
  refine Real.sqrt_le_iff.mpr ⟨by norm_num, ?_⟩
  have h2 : ((t - s) * angleR a p) ^ 2 ≤ (5e-16 : ℝ) ^ 2 := by
    rw [← sq_abs]; exact pow_le_pow_left₀ (abs_nonneg _) hδ 2
  linarith

/-- the switch constant is what the source says: the `f64` nearest `1e-3` -/
example : safeAcosSwitchQ = 1152921504606847 / 2 ^ 60 := safeAcosSwitchQ_bounds.1

/-- both branches of `safeAcosR` are inhabited: `0 < switch` (series branch at `x = 0`), `1/2 ≥ switch` -/
example : safeAcosR 0 = 0 := by
  unfold safeAcosR; rw [if_pos safeAcosSwitch_pos]; ring
example : safeAcosR (1 / 2) = Real.arccos (1 - 2 * (1 / 2) * (1 / 2)) := by
  unfold safeAcosR; rw [if_neg (by linarith [safeAcosSwitch_le])]

example : (2 * Real.arcsin (Real.sin (π / 3 / 2) / Real.sin (π / 2 / 2) * Real.sin (π / 2 / 2))) /
    (2 * Real.arcsin (Real.sin (π / 2 / 2))) * (π / 2) = π / 3 :=
  radial_roundtrip_exact (AV := π / 3) (AP := π / 2) (by positivity)
    (by linarith [Real.pi_pos]) (by positivity) (by linarith [Real.pi_pos])

theorem e1_e2_hyps : dotR ⟨1, 0, 0⟩ ⟨1, 0, 0⟩ = 1 ∧ dotR ⟨0, 1, 0⟩ ⟨0, 1, 0⟩ = 1 ∧
    slerpSwitch ≤ angleR ⟨1, 0, 0⟩ ⟨0, 1, 0⟩ ∧ angleR ⟨1, 0, 0⟩ ⟨0, 1, 0⟩ < π := by
  have h1 : dotR ⟨1, 0, 0⟩ ⟨1, 0, 0⟩ = 1 := by norm_num [dotR]
  have h2 : dotR ⟨0, 1, 0⟩ ⟨0, 1, 0⟩ = 1 := by norm_num [dotR]
  have e : angleR ⟨1, 0, 0⟩ ⟨0, 1, 0⟩ = π / 2 := by
    rw [(angleR_unit h1 h2).1]
    have : dotR ⟨1, 0, 0⟩ ⟨0, 1, 0⟩ = 0 := by norm_num [dotR]
    rw [this, Real.arccos_zero]
  refine ⟨h1, h2, ?_, ?_⟩
  · rw [e]
    linarith [slerpSwitch_le, Real.pi_gt_three]
  · rw [e]; linarith [Real.pi_pos]

/-- series branch (`x = 1/2000 <` switch) and `arccos` branch (`x = 1/2`) of the error bound -/
example : |safeAcosR (1 / 2000) - 2 * Real.arcsin (1 / 2000)| ≤ 1e-15 :=
  safeAcosR_error (by norm_num) (by norm_num)
example : (1 / 2000 : ℝ) < safeAcosSwitch := by linarith [safeAcosSwitch_ge]
example : |safeAcosR (1 / 2) - 2 * Real.arcsin (1 / 2)| ≤ 1e-15 :=
  safeAcosR_error (by norm_num) (by norm_num)

example : |safeAcosR (Real.sin (π / 3 / 2) / Real.sin (π / 2 / 2) * Real.sin (π / 2 / 2)) /
    safeAcosR (Real.sin (π / 2 / 2)) * (π / 2) - π / 3| ≤ 5e-16 :=
  radial_roundtrip_safeAcos (AV := π / 3) (AP := π / 2) (by positivity)
    (by linarith [Real.pi_pos]) (by positivity) (by linarith [Real.pi_pos])

example : dotR (slerpR ⟨1, 0, 0⟩ ⟨0, 1, 0⟩ (1 / 3)) (slerpR ⟨1, 0, 0⟩ ⟨0, 1, 0⟩ (1 / 3)) = 1 :=
  (slerpR_spec (1 / 3) e1_e2_hyps.1 e1_e2_hyps.2.1 e1_e2_hyps.2.2.1 e1_e2_hyps.2.2.2).1
example : vectorDifferenceR ⟨1, 0, 0⟩ ⟨0, 1, 0⟩ = Real.sin (angleR ⟨1, 0, 0⟩ ⟨0, 1, 0⟩ / 2) :=
  vectorDifferenceR_eq e1_e2_hyps.1 e1_e2_hyps.2.1 e1_e2_hyps.2.2.2
example :
    let a : R3 := ⟨1, 0, 0⟩
    let p : R3 := ⟨0, 1, 0⟩
    let v := slerpR a p (1 / 3)
    let h := vectorDifferenceR a v / vectorDifferenceR a p
    let k := vectorDifferenceR a p
    let t := (2 * Real.arcsin (h * k)) / (2 * Real.arcsin k)
    t = 1 / 3 ∧ slerpR a p t = v :=
  radial_roundtrip_vector (by norm_num) (by norm_num) e1_e2_hyps.1 e1_e2_hyps.2.1 e1_e2_hyps.2.2.1
    e1_e2_hyps.2.2.2
example :
    let a : R3 := ⟨1, 0, 0⟩
    let p : R3 := ⟨0, 1, 0⟩
    let v := slerpR a p (1 / 3)
    let h := vectorDifferenceR a v / vectorDifferenceR a p
    let k := vectorDifferenceR a p
    let t := safeAcosR (h * k) / safeAcosR k
    dotR (slerpR a p t) (slerpR a p t) = 1 ∧ lengthR (subR (slerpR a p t) v) ≤ 5e-16 :=
  radial_roundtrip_vector_safeAcos (by norm_num) (by norm_num) e1_e2_hyps.1 e1_e2_hyps.2.1
    e1_e2_hyps.2.2.1 e1_e2_hyps.2.2.2

end A5.RadialRoundTrip
