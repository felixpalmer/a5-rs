import A5.Model.GenericGeo
import Mathlib.Analysis.SpecialFunctions.Trigonometric.Basic
import Mathlib.Analysis.SpecialFunctions.Trigonometric.Deriv
import Mathlib.Analysis.Calculus.Deriv.MeanValue
import Mathlib.Tactic.Ring
import Mathlib.Tactic.LinearCombination
import Mathlib.Tactic.Linarith
import Mathlib.Tactic.NormNum
/-! # The generic twins of `A5/Model/GenericGeo.lean` at `ℝ` (and at arbitrary commutative rings)

Mathematical facts about the *same expression trees* the float model evaluates (see the tie lemmas
`A5.G.applyCoefficients_tie`, … which are `rfl`). -/
namespace A5.RealGeo
open A5 A5.G

section ring
variable {R : Type} [CommRing R] (sin cos : R → R) (two : R)

theorem applyCoefficientsG_neg (hs : ∀ x, sin (-x) = -sin x) (hc : ∀ x, cos (-x) = cos x)
    (phi c0 c1 c2 c3 c4 c5 : R) :
    applyCoefficientsG sin cos two (-phi) c0 c1 c2 c3 c4 c5 =
      -applyCoefficientsG sin cos two phi c0 c1 c2 c3 c4 c5 := by
  simp only [applyCoefficientsG, hs, hc]; ring

theorem applyCoefficientsG_of_sin_eq_zero (phi c0 c1 c2 c3 c4 c5 : R) (h : sin phi = 0) :
    applyCoefficientsG sin cos two phi c0 c1 c2 c3 c4 c5 = phi := by
  simp only [applyCoefficientsG, h]; ring

theorem applyCoefficientsG_of_cos_eq_zero (phi c0 c1 c2 c3 c4 c5 : R) (h : cos phi = 0) :
    applyCoefficientsG sin cos two phi c0 c1 c2 c3 c4 c5 = phi := by
  simp only [applyCoefficientsG, h]; ring

end ring

/-- the conversion of `authalic.rs` over the reals, with coefficients `c1 … c6` (Rust `c[0] … c[5]`) -/
noncomputable def authalicR (c1 c2 c3 c4 c5 c6 : ℝ) (φ : ℝ) : ℝ :=
  applyCoefficientsG Real.sin Real.cos 2 φ c1 c2 c3 c4 c5 c6

theorem authalicR_neg (c1 c2 c3 c4 c5 c6 φ : ℝ) :
    authalicR c1 c2 c3 c4 c5 c6 (-φ) = -authalicR c1 c2 c3 c4 c5 c6 φ :=
  applyCoefficientsG_neg Real.sin Real.cos 2 Real.sin_neg Real.cos_neg φ c1 c2 c3 c4 c5 c6

theorem authalicR_zero (c1 c2 c3 c4 c5 c6 : ℝ) : authalicR c1 c2 c3 c4 c5 c6 0 = 0 :=
  applyCoefficientsG_of_sin_eq_zero Real.sin Real.cos 2 0 c1 c2 c3 c4 c5 c6 Real.sin_zero

theorem authalicR_pi_div_two (c1 c2 c3 c4 c5 c6 : ℝ) :
    authalicR c1 c2 c3 c4 c5 c6 (Real.pi / 2) = Real.pi / 2 :=
  applyCoefficientsG_of_cos_eq_zero Real.sin Real.cos 2 _ c1 c2 c3 c4 c5 c6 Real.cos_pi_div_two

theorem authalicR_neg_pi_div_two (c1 c2 c3 c4 c5 c6 : ℝ) :
    authalicR c1 c2 c3 c4 c5 c6 (-(Real.pi / 2)) = -(Real.pi / 2) := by
  rw [authalicR_neg, authalicR_pi_div_two]

private theorem sin_step (k φ : ℝ) :
    Real.sin ((k + 2) * φ) = 2 * Real.cos (2 * φ) * Real.sin (k * φ) - Real.sin ((k - 2) * φ) := by
  rw [add_mul, sub_mul, Real.sin_add, Real.sin_sub]; ring

/-- The series the code *actually* evaluates.  The recurrence in `apply_coefficients` is Clenshaw's
summation with `x = 2 cos 2φ`, except that its second step reads `u1 = x*u0 + c[3]` where Clenshaw's
recurrence has `x*u0 − c[5] + c[3]`.  Consequently the value is the sine series with the coefficient of
`sin 8φ` equal to `c4 + c6` instead of `c4`. -/
theorem authalicR_eq_series (c1 c2 c3 c4 c5 c6 φ : ℝ) :
    authalicR c1 c2 c3 c4 c5 c6 φ =
      φ + c1 * Real.sin (2 * φ) + c2 * Real.sin (4 * φ) + c3 * Real.sin (6 * φ)
        + (c4 + c6) * Real.sin (8 * φ) + c5 * Real.sin (10 * φ) + c6 * Real.sin (12 * φ) := by
  have h4 := sin_step 2 φ
  have h6 := sin_step 4 φ
  have h8 := sin_step 6 φ
  have h10 := sin_step 8 φ
  have h12 := sin_step 10 φ
  norm_num at h4 h6 h8 h10 h12
  have hx : 2 * (Real.cos φ - Real.sin φ) * (Real.cos φ + Real.sin φ) = 2 * Real.cos (2 * φ) := by
    rw [Real.cos_two_mul]
    have := Real.sin_sq_add_cos_sq φ
    linear_combination (-2 : ℝ) * this
  have hy : 2 * Real.sin φ * Real.cos φ = Real.sin (2 * φ) := (Real.sin_two_mul φ).symm
  simp only [authalicR, applyCoefficientsG]
  rw [hx, hy, h12, h10, h8, h6, h4]
  ring

/-- the genuine 6-term series `φ + Σ_{k=1..6} c_k sin 2kφ` -/
noncomputable def fourier6 (c1 c2 c3 c4 c5 c6 φ : ℝ) : ℝ :=
  φ + c1 * Real.sin (2 * φ) + c2 * Real.sin (4 * φ) + c3 * Real.sin (6 * φ)
    + c4 * Real.sin (8 * φ) + c5 * Real.sin (10 * φ) + c6 * Real.sin (12 * φ)

theorem authalicR_eq_fourier6_add (c1 c2 c3 c4 c5 c6 φ : ℝ) :
    authalicR c1 c2 c3 c4 c5 c6 φ = fourier6 c1 c2 c3 c4 c5 c6 φ + c6 * Real.sin (8 * φ) := by
  rw [authalicR_eq_series, fourier6]; ring

theorem abs_authalicR_sub_fourier6_le (c1 c2 c3 c4 c5 c6 φ : ℝ) :
    |authalicR c1 c2 c3 c4 c5 c6 φ - fourier6 c1 c2 c3 c4 c5 c6 φ| ≤ |c6| := by
  rw [authalicR_eq_fourier6_add, add_sub_cancel_left, abs_mul]
  exact mul_le_of_le_one_right (abs_nonneg _) (Real.abs_sin_le_one _)

/-- … so "the recurrence equals the 6-term series" is **false** as soon as `c6 ≠ 0`
(witness `φ = π/16`, where `sin 8φ = 1`). -/
theorem authalicR_ne_fourier6 (c1 c2 c3 c4 c5 c6 : ℝ) (h : c6 ≠ 0) :
    authalicR c1 c2 c3 c4 c5 c6 (Real.pi / 16) ≠ fourier6 c1 c2 c3 c4 c5 c6 (Real.pi / 16) := by
  rw [authalicR_eq_fourier6_add, show 8 * (Real.pi / 16) = Real.pi / 2 by ring, Real.sin_pi_div_two]
  intro hh
  apply h
  linarith

private theorem hasDerivAt_term (c k φ : ℝ) :
    HasDerivAt (fun t => c * Real.sin (k * t)) (c * (k * Real.cos (k * φ))) φ := by
  refine ((((hasDerivAt_id' φ).const_mul k).sin).const_mul c).congr_deriv ?_
  ring

/-- the derivative of the evaluated series -/
noncomputable def authalicDeriv (c1 c2 c3 c4 c5 c6 φ : ℝ) : ℝ :=
  1 + c1 * (2 * Real.cos (2 * φ)) + c2 * (4 * Real.cos (4 * φ)) + c3 * (6 * Real.cos (6 * φ))
    + (c4 + c6) * (8 * Real.cos (8 * φ)) + c5 * (10 * Real.cos (10 * φ)) + c6 * (12 * Real.cos (12 * φ))

theorem hasDerivAt_authalicR (c1 c2 c3 c4 c5 c6 φ : ℝ) :
    HasDerivAt (authalicR c1 c2 c3 c4 c5 c6) (authalicDeriv c1 c2 c3 c4 c5 c6 φ) φ := by
  have hf : authalicR c1 c2 c3 c4 c5 c6 = fun φ =>
      φ + c1 * Real.sin (2 * φ) + c2 * Real.sin (4 * φ) + c3 * Real.sin (6 * φ)
        + (c4 + c6) * Real.sin (8 * φ) + c5 * Real.sin (10 * φ) + c6 * Real.sin (12 * φ) :=
    funext (authalicR_eq_series c1 c2 c3 c4 c5 c6)
  rw [hf]
  exact ((((((hasDerivAt_id φ).add (hasDerivAt_term c1 2 φ)).add (hasDerivAt_term c2 4 φ)).add
    (hasDerivAt_term c3 6 φ)).add (hasDerivAt_term (c4 + c6) 8 φ)).add (hasDerivAt_term c5 10 φ)).add
    (hasDerivAt_term c6 12 φ)

private theorem term_ge (c k x : ℝ) (hk : 0 ≤ k) : -(k * |c|) ≤ c * (k * Real.cos x) := by
  refine neg_le_of_abs_le ?_
  rw [abs_mul, abs_mul, abs_of_nonneg hk, mul_comm]
  exact mul_le_mul_of_nonneg_right (mul_le_of_le_one_right hk (Real.abs_cos_le_one x)) (abs_nonneg c)

theorem authalicDeriv_ge (c1 c2 c3 c4 c5 c6 φ : ℝ) :
    1 - (2 * |c1| + 4 * |c2| + 6 * |c3| + 8 * |c4 + c6| + 10 * |c5| + 12 * |c6|)
      ≤ authalicDeriv c1 c2 c3 c4 c5 c6 φ := by
  unfold authalicDeriv
  have e1 := term_ge c1 2 (2 * φ) (by norm_num)
  have e2 := term_ge c2 4 (4 * φ) (by norm_num)
  have e3 := term_ge c3 6 (6 * φ) (by norm_num)
  have e4 := term_ge (c4 + c6) 8 (8 * φ) (by norm_num)
  have e5 := term_ge c5 10 (10 * φ) (by norm_num)
  have e6 := term_ge c6 12 (12 * φ) (by norm_num)
  linarith

theorem authalicR_strictMono (c1 c2 c3 c4 c5 c6 : ℝ)
    (h : 2 * |c1| + 4 * |c2| + 6 * |c3| + 8 * |c4 + c6| + 10 * |c5| + 12 * |c6| < 1) :
    StrictMono (authalicR c1 c2 c3 c4 c5 c6) := by
  apply strictMono_of_deriv_pos
  intro φ
  rw [(hasDerivAt_authalicR c1 c2 c3 c4 c5 c6 φ).deriv]
  have := authalicDeriv_ge c1 c2 c3 c4 c5 c6 φ
  linarith

theorem deriv_authalicR_gt (c1 c2 c3 c4 c5 c6 φ : ℝ)
    (h : 2 * |c1| + 4 * |c2| + 6 * |c3| + 8 * |c4 + c6| + 10 * |c5| + 12 * |c6| < 1 / 200) :
    (0.995 : ℝ) < deriv (authalicR c1 c2 c3 c4 c5 c6) φ := by
  rw [(hasDerivAt_authalicR c1 c2 c3 c4 c5 c6 φ).deriv, show (0.995 : ℝ) = 1 - 1 / 200 by norm_num]
  exact (sub_lt_sub_left h 1).trans_le (authalicDeriv_ge c1 c2 c3 c4 c5 c6 φ)

/-- the exact value of the `i`-th generated coefficient, as a real number -/
noncomputable def coeffR (c : List FConst) (i : Nat) : ℝ := (((c.getD i ⟨0, 0, 0⟩).toRat : ℚ) : ℝ)

/-- geodetic → authalic latitude over `ℝ`, with the exact values of the generated coefficients -/
noncomputable def authalicForwardR : ℝ → ℝ :=
  authalicR (coeffR Gen.GEODETIC_TO_AUTHALIC 0) (coeffR Gen.GEODETIC_TO_AUTHALIC 1)
    (coeffR Gen.GEODETIC_TO_AUTHALIC 2) (coeffR Gen.GEODETIC_TO_AUTHALIC 3)
    (coeffR Gen.GEODETIC_TO_AUTHALIC 4) (coeffR Gen.GEODETIC_TO_AUTHALIC 5)

/-- authalic → geodetic latitude over `ℝ`, with the exact values of the generated coefficients -/
noncomputable def authalicInverseR : ℝ → ℝ :=
  authalicR (coeffR Gen.AUTHALIC_TO_GEODETIC 0) (coeffR Gen.AUTHALIC_TO_GEODETIC 1)
    (coeffR Gen.AUTHALIC_TO_GEODETIC 2) (coeffR Gen.AUTHALIC_TO_GEODETIC 3)
    (coeffR Gen.AUTHALIC_TO_GEODETIC 4) (coeffR Gen.AUTHALIC_TO_GEODETIC 5)

/-- the exact value of the `i`-th generated coefficient, as a rational -/
def coeffQ (c : List FConst) (i : Nat) : Rat := (c.getD i ⟨0, 0, 0⟩).toRat

/-- `Σ 2k|a_k|` for the series evaluated from table `c`, as an exact rational -/
def coeffBoundQ (c : List FConst) : Rat :=
  2 * ratAbs (coeffQ c 0) + 4 * ratAbs (coeffQ c 1) + 6 * ratAbs (coeffQ c 2)
    + 8 * ratAbs (coeffQ c 3 + coeffQ c 5) + 10 * ratAbs (coeffQ c 4) + 12 * ratAbs (coeffQ c 5)

theorem coeff_sums_small :
    coeffBoundQ Gen.GEODETIC_TO_AUTHALIC < 1 / 200 ∧ coeffBoundQ Gen.AUTHALIC_TO_GEODETIC < 1 / 200 := by
  decide +kernel

theorem ratAbs_eq_abs (q : ℚ) : ((ratAbs q : ℚ) : ℝ) = |(q : ℝ)| := by
  unfold ratAbs
  split_ifs with h
  · rw [abs_of_neg (by exact_mod_cast h)]; push_cast; rfl
  · rw [abs_of_nonneg (by exact_mod_cast not_lt.mp h)]

theorem coeffBound_cast (c : List FConst) :
    ((coeffBoundQ c : ℚ) : ℝ) =
      2 * |coeffR c 0| + 4 * |coeffR c 1| + 6 * |coeffR c 2| + 8 * |coeffR c 3 + coeffR c 5|
        + 10 * |coeffR c 4| + 12 * |coeffR c 5| := by
  unfold coeffBoundQ coeffR coeffQ
  push_cast [ratAbs_eq_abs]
  rfl

theorem coeffBound_lt {c : List FConst} (h : coeffBoundQ c < 1 / 200) :
    2 * |coeffR c 0| + 4 * |coeffR c 1| + 6 * |coeffR c 2| + 8 * |coeffR c 3 + coeffR c 5|
      + 10 * |coeffR c 4| + 12 * |coeffR c 5| < 1 / 200 := by
  rw [← coeffBound_cast]
  exact (Rat.cast_lt.mpr h).trans_eq (by norm_num)

end A5.RealGeo
