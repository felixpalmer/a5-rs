import A5.Lemmas.RuntimeTriangles
import A5.Lemmas.SweepFormula3
/-! # The spherical triangles the library actually uses satisfy the hypotheses of the round-trip theorems: the table

`RuntimeTriangles.lean` proves `TriOK t → TriHyp (triR t)` for a decidable rational certificate `TriOK`, and the
consequences of `TriHyp` for an arbitrary triangle.  This file
* evaluates the certificate on ALL 240 entries of `A5.Gen.Runtime.SPH_TRIANGLES` in the kernel (`runtime_triangles_ok`,
  `decide +kernel`, no exception, base and reflected alike; computed from the table, not stated by a theorem: every
  entry has raw triple product `0.18759…`, `b·c = 0.93417…`, `{a·b, c·a} = {0.79465…, 0.85065…}`, squared norms within
  `3.5e-16` of `1`);
* checks that the table has exactly one entry for every `(origin < 12, face-triangle index < 10, reflected)` (`runtime_keys`);
* concludes, for the NORMALISED real triangle `(entryA t, entryB t, entryC t)` of EVERY entry `t`, all hypotheses H
  (`runtime_hyp`), and instantiates at it the theorems about a triangle satisfying H: the conclusions of
  `C15.angular_roundtrip`, `C15.polyhedral_roundtrip_real` for EVERY `0 ≤ q ≤ 1`, `0 < s ≤ 1`,
  `C16.equal_area_pointwise` for every `0 ≤ t ≤ 1`, and `C15.polyhedral_roundtrip_twin` for
  `10⁻⁴ ≤ q ≤ 1 - 10⁻⁴`, with the no-snap conditions as hypotheses (`runtime_roundtrip_twin_mid`, `0 < s ≤ 1`) or
  discharged (`runtime_roundtrip_twin_interior`, `2·10⁻¹⁴ ≤ s ≤ 1`).

The statements are verbatim those of the `Props` theorems.

NOT proved here: anything about `f64` rounding (the entries are read as exact reals, normalised in `ℝ`, and all operations
are real); that the rounded table vertices are within some distance of the ideal icosahedral/dodecahedral frame; the
twin-level round trip for `q` within `10⁻⁴` of an end of the far edge or `s < 2·10⁻¹⁴` (there the code snaps to the apex and returns `a`). -/
namespace A5.RuntimeTriangles
open A5 A5.RadialRoundTrip A5.AngularRoundTrip A5.SweepFormula A5.Gen.Runtime

/-- a row of `SPH_TRIANGLES` -/
abbrev Entry := Nat × Nat × Bool × V3C × V3C × V3C

/-- the normalised real apex / second / third vertex of a table row -/
noncomputable def entryA (t : Entry) : R3 := unitR t.2.2.2.1
noncomputable def entryB (t : Entry) : R3 := unitR t.2.2.2.2.1
noncomputable def entryC (t : Entry) : R3 := unitR t.2.2.2.2.2

theorem entry_triR (t : Entry) : triR t.2.2.2 = (entryA t, entryB t, entryC t) := rfl

theorem runtime_count : SPH_TRIANGLES.length = 240 := by decide +kernel

/-- the rows are keyed by `(origin, face-triangle index, reflected)`, each key of `12 × 10 × 2` exactly once, in order -/
theorem runtime_keys :
    SPH_TRIANGLES.map (fun t => (t.1, t.2.1, t.2.2.1)) =
      (List.range 12).flatMap (fun o => (List.range 10).flatMap (fun k => [(o, k, false), (o, k, true)])) := by
  decide +kernel

/-- **every one of the 240 table triangles passes the rational certificate** (kernel evaluation of exact integer
arithmetic on the scaled `f64` coordinates, `triOK_of_triZ`; no entry fails, reflected or not). -/
theorem runtime_triangles_ok : ∀ t ∈ SPH_TRIANGLES, TriOK t.2.2.2 :=
  fun t ht => triOK_of_triZ ((by decide +kernel : ∀ t ∈ SPH_TRIANGLES, TriZ t.2.2.2) t ht)

theorem runtime_filter_all : SPH_TRIANGLES.filter (fun t => decide (TriOK t.2.2.2)) = SPH_TRIANGLES := by
  rw [List.filter_eq_self]
  intro t ht
  exact decide_eq_true (runtime_triangles_ok t ht)

/-- **H holds for the normalised real triangle of every table entry.** -/
theorem runtime_hyp : ∀ t ∈ SPH_TRIANGLES, TriHyp (entryA t) (entryB t) (entryC t) :=
  fun t ht => triHyp_of_triOK (runtime_triangles_ok t ht)

/-- the conclusion of `C15.angular_roundtrip` for every table triangle -/
theorem runtime_angular_roundtrip : ∀ t ∈ SPH_TRIANGLES,
    (∀ q : ℝ, 0 ≤ q → q ≤ 1 →
      edgeParamR (entryA t) (entryB t) (entryC t) (triAreaR (entryA t) (entryB t) (slerpR (entryB t) (entryC t) q)) = q) ∧
    (∀ alpha : ℝ, 0 < alpha → alpha < triAreaR (entryA t) (entryB t) (entryC t) →
      0 < edgeParamR (entryA t) (entryB t) (entryC t) alpha ∧ edgeParamR (entryA t) (entryB t) (entryC t) alpha < 1 ∧
        triAreaR (entryA t) (entryB t)
          (slerpR (entryB t) (entryC t) (edgeParamR (entryA t) (entryB t) (entryC t) alpha)) = alpha) := by
  intro t ht
  have H := runtime_hyp t ht
  exact ⟨fun _ h0 h1 => (angular_inverse_formula H.ha H.hb H.hc H.hV H.hD H.hγ h0 h1).2,
    fun _ h0 h1 => angular_forward_formula H.ha H.hb H.hc H.hV H.hD H.hγ h0 h1⟩

/-- the conclusion of `C15.polyhedral_roundtrip_real` for every table triangle and EVERY
point `v = slerp(a, slerp(b, c, q), s)`, `0 ≤ q ≤ 1`, `0 < s ≤ 1`: the forward map finds `P = slerp(b, c, q)`,
`inverse (forward v) = v` exactly with `2·arcsin`, and within `5e-16` (chord) with the two-branch `safe_acos`. -/
theorem runtime_roundtrip : ∀ t ∈ SPH_TRIANGLES, ∀ q s : ℝ, 0 ≤ q → q ≤ 1 → 0 < s → s ≤ 1 →
    forwardPointR (entryA t) (entryB t) (entryC t) (slerpR (entryA t) (slerpR (entryB t) (entryC t) q) s)
      = slerpR (entryB t) (entryC t) q ∧
    inverseBaryR (entryA t) (entryB t) (entryC t)
        (forwardBaryR (entryA t) (entryB t) (entryC t) (slerpR (entryA t) (slerpR (entryB t) (entryC t) q) s))
      = slerpR (entryA t) (slerpR (entryB t) (entryC t) q) s ∧
    lengthR (subR (inverseBarySafeR (entryA t) (entryB t) (entryC t)
        (forwardBaryR (entryA t) (entryB t) (entryC t) (slerpR (entryA t) (slerpR (entryB t) (entryC t) q) s)))
      (slerpR (entryA t) (slerpR (entryB t) (entryC t) q) s)) ≤ 5e-16 := by
  intro t ht q s hq0 hq1 hs0 hs1
  have H := runtime_hyp t ht
  have hγ' := H.hγ' q hq0 hq1
  exact ⟨(polyhedral_roundtrip_exact H.ha H.hb H.hc H.hV H.hD H.hγ hγ' hq0 hq1 hs0 hs1).1,
    (polyhedral_roundtrip_exact H.ha H.hb H.hc H.hV H.hD H.hγ hγ' hq0 hq1 hs0 hs1).2,
    (polyhedral_roundtrip_safeAcos H.ha H.hb H.hc H.hV H.hD H.hγ hγ' hq0 hq1 hs0 hs1).2⟩

/-- the conclusion of `C16.equal_area_pointwise` for every table triangle, at every point
`P = slerp(b, c, t)`, `0 ≤ t ≤ 1`, of its far edge, for every planar density factor `S` and every arc distance `θ`. -/
theorem runtime_equal_area : ∀ e ∈ SPH_TRIANGLES, ∀ t : ℝ, 0 ≤ t → t ≤ 1 → ∀ S θ : ℝ,
    gcPoint (entryB e) (edgeDirR (entryB e) (entryC e))
        (edgeArcR (entryA e) (entryB e) (edgeDirR (entryB e) (entryC e))
          (azimuthR (entryA e) (entryB e) (slerpR (entryB e) (entryC e) t))) = slerpR (entryB e) (entryC e) t ∧
    Real.sin (angleR (entryA e) (slerpR (entryB e) (entryC e) t) / 2) ≠ 0 ∧
    0 < triAreaR (entryA e) (entryB e) (entryC e) ∧
    ∃ hθ βψ : ℝ,
      HasDerivAt (fun x => Real.sin (x / 2) / Real.sin (angleR (entryA e) (slerpR (entryB e) (entryC e) t) / 2)) hθ θ ∧
      HasDerivAt (fun x => triAreaR (entryA e) (entryB e)
          (gcPoint (entryB e) (edgeDirR (entryB e) (entryC e))
            (edgeArcR (entryA e) (entryB e) (edgeDirR (entryB e) (entryC e)) x)) /
          triAreaR (entryA e) (entryB e) (entryC e)) βψ
        (azimuthR (entryA e) (entryB e) (slerpR (entryB e) (entryC e) t)) ∧
      (Real.sin (θ / 2) / Real.sin (angleR (entryA e) (slerpR (entryB e) (entryC e) t) / 2)) * S * (hθ * βψ) =
        S / (2 * triAreaR (entryA e) (entryB e) (entryC e)) * Real.sin θ := by
  intro e he t ht0 ht1 S θ
  have H := runtime_hyp e he
  exact equal_area_pointwise_edge H.ha H.hb H.hc H.hV H.hD H.hγ H.hbc ht0 ht1 S θ

/-! ## the twin level (`C15.polyhedral_roundtrip_twin`) -/

open A5.GP A5.PolyTies

/-- the conclusion of `C15.polyhedral_roundtrip_twin` for every table triangle,
every `q ∈ [10⁻⁴, 1 - 10⁻⁴]` and `0 < s ≤ 1`, with only the three no-snap conditions left as hypotheses. -/
theorem runtime_roundtrip_twin_mid : ∀ t ∈ SPH_TRIANGLES, ∀ q s : ℝ, 1 / 10 ^ 4 ≤ q → q ≤ 1 - 1 / 10 ^ 4 →
    0 < s → s ≤ 1 →
    ¬ (forwardBaryG realKit (toTR (entryA t)) (toTR (entryB t)) (toTR (entryC t))
        (slerpG realKit (toTR (entryA t)) (slerpG realKit (toTR (entryB t)) (toTR (entryC t)) q) s)).1
      > realKit.one - realKit.snapEps →
    ¬ (forwardBaryG realKit (toTR (entryA t)) (toTR (entryB t)) (toTR (entryC t))
        (slerpG realKit (toTR (entryA t)) (slerpG realKit (toTR (entryB t)) (toTR (entryC t)) q) s)).2.1
      > realKit.one - realKit.snapEps →
    ¬ (forwardBaryG realKit (toTR (entryA t)) (toTR (entryB t)) (toTR (entryC t))
        (slerpG realKit (toTR (entryA t)) (slerpG realKit (toTR (entryB t)) (toTR (entryC t)) q) s)).2.2
      > realKit.one - realKit.snapEps →
    dotG (inverseBaryG realKit (toTR (entryA t)) (toTR (entryB t)) (toTR (entryC t))
          (forwardBaryG realKit (toTR (entryA t)) (toTR (entryB t)) (toTR (entryC t))
            (slerpG realKit (toTR (entryA t)) (slerpG realKit (toTR (entryB t)) (toTR (entryC t)) q) s)))
        (inverseBaryG realKit (toTR (entryA t)) (toTR (entryB t)) (toTR (entryC t))
          (forwardBaryG realKit (toTR (entryA t)) (toTR (entryB t)) (toTR (entryC t))
            (slerpG realKit (toTR (entryA t)) (slerpG realKit (toTR (entryB t)) (toTR (entryC t)) q) s))) = 1 ∧
    lengthG realKit (subG (inverseBaryG realKit (toTR (entryA t)) (toTR (entryB t)) (toTR (entryC t))
          (forwardBaryG realKit (toTR (entryA t)) (toTR (entryB t)) (toTR (entryC t))
            (slerpG realKit (toTR (entryA t)) (slerpG realKit (toTR (entryB t)) (toTR (entryC t)) q) s)))
        (slerpG realKit (toTR (entryA t)) (slerpG realKit (toTR (entryB t)) (toTR (entryC t)) q) s)) ≤ 5e-16 :=
  fun t ht q s hq0 hq1 hs0 hs1 hn1 hn2 hn3 =>
    have H := runtime_hyp t ht
    H.roundtrip_twin (by linarith) (by linarith) hs0 hs1 (H.sub_triangles_twin hq0 hq1).1
      (H.sub_triangles_twin hq0 hq1).2 hn1 hn2 hn3

/-- the conclusion of `C15.polyhedral_roundtrip_twin` - generic twins of
`polyhedralForward` / `polyhedralInverse` at `ℝ`, vertex snapping and two-branch `safe_acos` included - for every table
triangle and every point `v = slerp(a, slerp(b, c, q), s)` with `10⁻⁴ ≤ q ≤ 1 - 10⁻⁴`, `2·10⁻¹⁴ ≤ s ≤ 1`:
NO hypothesis on the point besides these ranges. -/
theorem runtime_roundtrip_twin_interior : ∀ t ∈ SPH_TRIANGLES, ∀ q s : ℝ, 1 / 10 ^ 4 ≤ q → q ≤ 1 - 1 / 10 ^ 4 →
    2 / 10 ^ 14 ≤ s → s ≤ 1 →
    dotG (inverseBaryG realKit (toTR (entryA t)) (toTR (entryB t)) (toTR (entryC t))
          (forwardBaryG realKit (toTR (entryA t)) (toTR (entryB t)) (toTR (entryC t))
            (slerpG realKit (toTR (entryA t)) (slerpG realKit (toTR (entryB t)) (toTR (entryC t)) q) s)))
        (inverseBaryG realKit (toTR (entryA t)) (toTR (entryB t)) (toTR (entryC t))
          (forwardBaryG realKit (toTR (entryA t)) (toTR (entryB t)) (toTR (entryC t))
            (slerpG realKit (toTR (entryA t)) (slerpG realKit (toTR (entryB t)) (toTR (entryC t)) q) s))) = 1 ∧
    lengthG realKit (subG (inverseBaryG realKit (toTR (entryA t)) (toTR (entryB t)) (toTR (entryC t))
          (forwardBaryG realKit (toTR (entryA t)) (toTR (entryB t)) (toTR (entryC t))
            (slerpG realKit (toTR (entryA t)) (slerpG realKit (toTR (entryB t)) (toTR (entryC t)) q) s)))
        (slerpG realKit (toTR (entryA t)) (slerpG realKit (toTR (entryB t)) (toTR (entryC t)) q) s)) ≤ 5e-16 :=
  fun t ht _ _ hq0 hq1 hs0 hs1 => (runtime_hyp t ht).roundtrip_twin_interior hq0 hq1 hs0 hs1

/-- the first row of the table: origin 0, face triangle 0, not reflected, apex = the north pole `(0, 0, 1)` exactly -/
example : (0, 0, false,
    (⟨⟨0x0000000000000000, (0), (0)⟩, ⟨0x0000000000000000, (0), (0)⟩, ⟨0x3ff0000000000000, (1), (0)⟩⟩ : V3C),
    (⟨⟨0x3fe0d2ca0da1530e, (2367682440636807), (-52)⟩, ⟨0x0000000000000000, (0), (0)⟩,
      ⟨0x3feb38880b4603e4, (1915495331758329), (-51)⟩⟩ : V3C),
    (⟨⟨0x3fdf6e9125e919f6, (4423646981688571), (-53)⟩, ⟨0x3fd6d62c51843605, (6427935322158597), (-54)⟩,
      ⟨0x3fe96dcf37439ff1, (7157611170602993), (-53)⟩⟩ : V3C)) ∈ SPH_TRIANGLES := by
  decide +kernel

/-- the certificate is not vacuous: it rejects the first table triangle with `b` and `c` exchanged (clockwise) -/
example : ∃ t ∈ SPH_TRIANGLES, ¬ TriOK (t.2.2.2.1, t.2.2.2.2.2, t.2.2.2.2.1) := by decide +kernel

/-- and `runtime_roundtrip` applies to a concrete interior point of a concrete (reflected) table triangle -/
example : ∃ t ∈ SPH_TRIANGLES, t.2.2.1 = true ∧
    inverseBaryR (entryA t) (entryB t) (entryC t)
        (forwardBaryR (entryA t) (entryB t) (entryC t)
          (slerpR (entryA t) (slerpR (entryB t) (entryC t) (1 / 3)) (1 / 2)))
      = slerpR (entryA t) (slerpR (entryB t) (entryC t) (1 / 3)) (1 / 2) := by
  have h : SPH_TRIANGLES.getD 1 (0, 0, false, ⟨⟨0, 0, 0⟩, ⟨0, 0, 0⟩, ⟨0, 0, 0⟩⟩, ⟨⟨0, 0, 0⟩, ⟨0, 0, 0⟩, ⟨0, 0, 0⟩⟩,
      ⟨⟨0, 0, 0⟩, ⟨0, 0, 0⟩, ⟨0, 0, 0⟩⟩) ∈ SPH_TRIANGLES := by decide +kernel
  exact ⟨_, h, by decide +kernel,
    (runtime_roundtrip _ h (1 / 3) (1 / 2) (by norm_num) (by norm_num) (by norm_num) (by norm_num)).2.1⟩

/-- non-vacuity: `q = 1/3` is in the range -/
example : ∀ t ∈ SPH_TRIANGLES,
    AreaAgreesG (toTR (entryA t)) (slerpG realKit (toTR (entryB t)) (toTR (entryC t)) (1 / 3)) (toTR (entryC t)) :=
  fun t ht => ((runtime_hyp t ht).sub_triangles_twin (by norm_num) (by norm_num)).1

/-- the first row of the table (origin 0, face triangle 0, not reflected), `q = 1/3`, `s = 1/2` -/
example : ∃ t ∈ SPH_TRIANGLES, t.1 = 0 ∧ t.2.1 = 0 ∧ t.2.2.1 = false ∧
    dotG (inverseBaryG realKit (toTR (entryA t)) (toTR (entryB t)) (toTR (entryC t))
          (forwardBaryG realKit (toTR (entryA t)) (toTR (entryB t)) (toTR (entryC t))
            (slerpG realKit (toTR (entryA t)) (slerpG realKit (toTR (entryB t)) (toTR (entryC t)) (1 / 3)) (1 / 2))))
        (inverseBaryG realKit (toTR (entryA t)) (toTR (entryB t)) (toTR (entryC t))
          (forwardBaryG realKit (toTR (entryA t)) (toTR (entryB t)) (toTR (entryC t))
            (slerpG realKit (toTR (entryA t)) (slerpG realKit (toTR (entryB t)) (toTR (entryC t)) (1 / 3)) (1 / 2))))
      = 1 ∧
    lengthG realKit (subG (inverseBaryG realKit (toTR (entryA t)) (toTR (entryB t)) (toTR (entryC t))
          (forwardBaryG realKit (toTR (entryA t)) (toTR (entryB t)) (toTR (entryC t))
            (slerpG realKit (toTR (entryA t)) (slerpG realKit (toTR (entryB t)) (toTR (entryC t)) (1 / 3)) (1 / 2))))
        (slerpG realKit (toTR (entryA t)) (slerpG realKit (toTR (entryB t)) (toTR (entryC t)) (1 / 3)) (1 / 2)))
      ≤ 5e-16 := by
  have h : SPH_TRIANGLES.getD 0 (0, 0, false, ⟨⟨0, 0, 0⟩, ⟨0, 0, 0⟩, ⟨0, 0, 0⟩⟩, ⟨⟨0, 0, 0⟩, ⟨0, 0, 0⟩, ⟨0, 0, 0⟩⟩,
      ⟨⟨0, 0, 0⟩, ⟨0, 0, 0⟩, ⟨0, 0, 0⟩⟩) ∈ SPH_TRIANGLES := by decide +kernel
  exact ⟨_, h, by decide +kernel, by decide +kernel, by decide +kernel,
    runtime_roundtrip_twin_interior _ h (1 / 3) (1 / 2) (by norm_num) (by norm_num) (by norm_num) (by norm_num)⟩

/-- the range of `s` reaches down to `2·10⁻¹⁴`: the theorem applies at `s = 2·10⁻¹⁴` itself, on every row -/
example : ∀ t ∈ SPH_TRIANGLES,
    ¬ (forwardBaryG realKit (toTR (entryA t)) (toTR (entryB t)) (toTR (entryC t))
        (slerpG realKit (toTR (entryA t)) (slerpG realKit (toTR (entryB t)) (toTR (entryC t)) (1 / 3))
          (2 / 10 ^ 14))).1 > realKit.one - realKit.snapEps :=
  fun t ht => ((runtime_hyp t ht).no_snap_twin (by norm_num) (by norm_num) le_rfl (by norm_num)).1

end A5.RuntimeTriangles
