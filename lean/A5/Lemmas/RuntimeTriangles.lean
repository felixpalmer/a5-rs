import A5.Gen.Runtime
import A5.Lemmas.PolyTies
/-! # The spherical triangles the library actually uses satisfy the hypotheses of the round-trip theorems: a triangle given by variables

`A5.Gen.Runtime.SPH_TRIANGLES` lists the 240 spherical triangles `(origin, face-triangle index, reflected, a, b, c)` of the
projection with the EXACT rational values (`FConst.toRat`) of their `f64` coordinates (regenerated from the running model on
every check run, cross-checked bit-for-bit against the library's own 62-vertex frame).

The theorems of `RadialRoundTrip`, `AngularRoundTrip`, `PolyhedralRoundTrip`, `SweepFormula*` (wrapped by `C15.angular_roundtrip`,
`C15.polyhedral_roundtrip_real`, `C16.equal_area_pointwise`) are stated for an arbitrary triangle of UNIT vectors under hypotheses H.  The table entries are
rounded, hence unit only to about `3.5e-16`: the real triangle of an entry is its NORMALISATION `v / ‖v‖` in `ℝ` (`unitR`,
`triR`: the model's own `normalizeR` applied to the exact value of the entry).

This file is about a triangle given by variables; `RuntimeTable.lean` evaluates the certificate on the table and
instantiates.
* `TriHyp` bundles H: unit vectors, `0 < V` (indeed `1/20 ≤ V`), `0 < 1 + a·b + b·c + c·a`, `0 < b·c`,
  `SLERP_SWITCH ≤ ∠(b,c)`, and - for EVERY `q ∈ [0,1]` - `SLERP_SWITCH ≤ ∠(a, slerp b c q)` (the apex stays away from
  the whole opposite edge: `edge_dot_le`);
* `TriOK` is a DECIDABLE rational certificate on the raw rational coordinates (squared norms in `1 ± 2⁻⁵⁰`, triple
  product `≥ 1/10`, `0 ≤ a·b, c·a ≤ 0.86`, `0.9 ≤ b·c ≤ 0.95`), and `TriOK t → TriHyp (triR t)` (`triHyp_of_triOK`).
  Where the thresholds come from: on every row of the table the triple product is `0.18759…`, `b·c = 0.93417…` and
  `{a·b, c·a} = {0.79465…, 0.85065…}` (`RuntimeTable.lean`); the certificate leaves room around these values, and `0.87`, `0.89`, `0.99`,
  `1/20` in the lemmas about unit vectors are what is left of `0.86`, `0.9`, `0.95`, `1/10` after the normalisation has
  cost at most 1 % (`div_bounds`); `8.8e-6 ≤ 0.63 · 10⁻⁴ · 0.14` bounds the `slerp` weights (`weight_lower`);
* §6-§8: for a triangle satisfying `TriHyp` the point-dependent branch conditions of `C15.polyhedral_roundtrip_twin`
  hold away from the corners: for `10⁻⁴ ≤ q ≤ 1 - 10⁻⁴` both sub-triangles are on the `asin` branch of
  `get_triangle_area` (`sub_triangles_on_asin`), and for `2·10⁻¹⁴ ≤ s ≤ 1` no barycentric coordinate exceeds
  `1 - POLY_SNAP_EPS` (`no_snap`); hence `TriHyp.roundtrip_twin_interior`.

Nothing here is about `f64` rounding: the coordinates are read as exact reals and all operations are real. -/
namespace A5.RuntimeTriangles
open A5 A5.RadialRoundTrip A5.AngularRoundTrip A5.Gen.Runtime

/-! ## 1. normalisation in `ℝ` -/

theorem dotR_normalize {u v : R3} (hu : 0 < dotR u u) (hv : 0 < dotR v v) :
    dotR (normalizeR u) (normalizeR v) = dotR u v / (√(dotR u u) * √(dotR v v)) := by
  rw [normalizeR_of_pos hu, normalizeR_of_pos hv]
  simp only [dotR]; ring

theorem dotR_normalize_self {u : R3} (hu : 0 < dotR u u) : dotR (normalizeR u) (normalizeR u) = 1 := by
  rw [dotR_normalize hu hu, Real.mul_self_sqrt hu.le]
  exact div_self hu.ne'

theorem tripleR_normalize {a b c : R3} (ha : 0 < dotR a a) (hb : 0 < dotR b b) (hc : 0 < dotR c c) :
    tripleR (normalizeR a) (normalizeR b) (normalizeR c)
      = tripleR a b c / (√(dotR a a) * √(dotR b b) * √(dotR c c)) := by
  rw [normalizeR_of_pos ha, normalizeR_of_pos hb, normalizeR_of_pos hc]
  simp only [tripleR, dotR, crossR]; ring

/-! ## 2. enclosures for nearly-unit vectors -/

theorem sqrt_mul_bounds {x y δ : ℝ} (hδ1 : δ ≤ 1) (hx1 : 1 - δ ≤ x) (hx2 : x ≤ 1 + δ)
    (hy1 : 1 - δ ≤ y) (hy2 : y ≤ 1 + δ) : 1 - δ ≤ √x * √y ∧ √x * √y ≤ 1 + δ := by
  have hx0 : 0 ≤ x := by linarith
  have hy0 : 0 ≤ y := by linarith
  rw [← Real.sqrt_mul hx0 y]
  constructor
  · refine Real.le_sqrt_of_sq_le ?_
    linarith [mul_le_mul hx1 hy1 (by linarith) hx0]
  · refine Real.sqrt_le_iff.mpr ⟨by linarith, ?_⟩
    linarith [mul_le_mul hx2 hy2 hy0 (by linarith : (0 : ℝ) ≤ 1 + δ)]

/-- enclosure of a quotient `d / P` with `P` within `1/1000` of `1`: at most 1 % is lost on either side -/
theorem div_bounds {d P δ lo hi : ℝ} (hδ : δ ≤ 1 / 1000) (hP1 : 1 - δ ≤ P) (hP2 : P ≤ 1 + δ)
    (hlo : 0 ≤ lo) (h1 : lo ≤ d) (h2 : d ≤ hi) : lo * (99 / 100) ≤ d / P ∧ d / P ≤ hi * (101 / 100) := by
  have hP : 0 < P := by linarith
  have hhi : 0 ≤ hi := by linarith
  constructor
  · rw [le_div_iff₀ hP]
    linarith [mul_le_mul_of_nonneg_left (by linarith : P ≤ 1001 / 1000) hlo]
  · rw [div_le_iff₀ hP]
    linarith [mul_le_mul_of_nonneg_left (by linarith : (999 / 1000 : ℝ) ≤ P) hhi]

/-! ## 3. the apex stays away from the whole opposite edge -/

/-- an angle whose cosine is at most `0.99` is at least `0.14` (`cos γ ≥ 1 - γ²/2`) -/
theorem angle_lower {γ : ℝ} (h0 : 0 ≤ γ) (hc : Real.cos γ ≤ 99 / 100) : 14 / 100 ≤ γ := by
  by_contra hlt
  have := Real.one_sub_sq_div_two_le_cos (x := γ)
  have : γ * γ < 14 / 100 * (14 / 100) := mul_lt_mul'' (not_le.mp hlt) (not_le.mp hlt) h0 h0
  linarith

theorem angle_ge_switch {a p : R3} (ha : dotR a a = 1) (hp : dotR p p = 1) (h : dotR a p ≤ 99 / 100) :
    slerpSwitch ≤ angleR a p := by
  obtain ⟨_, hcos, h0, _⟩ := angleR_unit ha hp
  exact (slerpSwitch_le.trans (by norm_num)).trans (angle_lower h0 (hcos ▸ h))

/-- the scalar core of `edge_dot_le`: for weights `wa, wb ≥ 0` of a unit combination of two unit vectors with inner
product `y ≥ 0.89`, `(wa + wb)² = 1 + 2·wa·wb·(1 - y) ≤ 1 + 0.055·(wa + wb)²`, so `wa + wb ≤ 1.03` -/
theorem comb_le {wa wb x y z : ℝ} (hwa : 0 ≤ wa) (hwb : 0 ≤ wb) (hu : wa ^ 2 + wb ^ 2 + 2 * wa * wb * y = 1)
    (hx : x ≤ 87 / 100) (hz : z ≤ 87 / 100) (hy : 89 / 100 ≤ y) : wa * x + wb * z ≤ 9 / 10 := by
  have h1 : wa * wb * (1 - y) ≤ wa * wb * (11 / 100) :=
    mul_le_mul_of_nonneg_left (by linarith) (mul_nonneg hwa hwb)
  have h2 : 0 ≤ (wa - wb) ^ 2 := sq_nonneg _
  have hs : wa + wb ≤ 103 / 100 := by
    by_contra hlt
    have := mul_lt_mul'' (not_le.mp hlt) (not_le.mp hlt) (by norm_num) (by norm_num)
    linarith
  have h4 : wa * x ≤ wa * (87 / 100) := mul_le_mul_of_nonneg_left hx hwa
  have h5 : wb * z ≤ wb * (87 / 100) := mul_le_mul_of_nonneg_left hz hwb
  linarith

/-- **The apex and the opposite edge.**  If `a·b ≤ 0.87`, `c·a ≤ 0.87` and `b·c ≥ 0.89` then `a·P ≤ 0.9` for EVERY point
`P = slerp b c q`, `0 ≤ q ≤ 1`, of the edge: `P = wa·b + wb·c` is a unit vector with `wa, wb ≥ 0` (`comb_le`). -/
theorem edge_dot_le {a b c : R3} {q : ℝ} (hb : dotR b b = 1) (hc : dotR c c = 1)
    (hγ : slerpSwitch ≤ angleR b c) (hπ : angleR b c < Real.pi) (hq0 : 0 ≤ q) (hq1 : q ≤ 1)
    (hab : dotR a b ≤ 87 / 100) (hca : dotR c a ≤ 87 / 100) (hbc : 89 / 100 ≤ dotR b c) :
    dotR a (slerpR b c q) ≤ 9 / 10 := by
  have hpos : 0 < angleR b c := lt_of_lt_of_le slerpSwitch_pos hγ
  have hS : 0 < Real.sin (angleR b c) := Real.sin_pos_of_pos_of_lt_pi hpos hπ
  have hw : ∀ r : ℝ, 0 ≤ r → r ≤ 1 → 0 ≤ Real.sin (r * angleR b c) / Real.sin (angleR b c) := fun r h0 h1 =>
    div_nonneg (Real.sin_nonneg_of_nonneg_of_le_pi (mul_nonneg h0 hpos.le)
      ((mul_le_of_le_one_left hpos.le h1).trans hπ.le)) hS.le
  have hu := (slerpR_spec q hb hc hγ hπ).1
  rw [slerpR_unfold q hγ] at hu ⊢
  rw [(dotR_comb b c _ _).1, hb, hc, mul_one, mul_one] at hu
  rw [dotR_comb_right]
  exact comb_le (hw (1 - q) (by linarith) (by linarith)) (hw q hq0 hq1) hu hab hca hbc

/-! ## 4. the bundle of hypotheses H -/

/-- the hypotheses of `C15.angular_roundtrip` / `C15.polyhedral_roundtrip_real` (for EVERY `q ∈ [0,1]`) and of
`C16.equal_area_pointwise`, plus the quantitative `1/20 ≤ V` (which puts the area on the `asin` branch) and, from `hab0`
on, what the twin-level round trip uses beyond that (`edge_point_facts`): the other two inner products are non-negative and
the edge `b c` is at least `arccos 0.99` long; `hedge` (the apex is at least `arccos 0.9 ≈ 0.45` rad away from every point
of the edge) is the bound `hγ'` comes from -/
structure TriHyp (a b c : R3) : Prop where
  ha : dotR a a = 1
  hb : dotR b b = 1
  hc : dotR c c = 1
  hV : 0 < tripleR a b c
  hV' : 1 / 20 ≤ tripleR a b c
  hD : 0 < 1 + dotR a b + dotR b c + dotR c a
  hγ : slerpSwitch ≤ angleR b c
  hbc : 0 < dotR b c
  hγ' : ∀ q : ℝ, 0 ≤ q → q ≤ 1 → slerpSwitch ≤ angleR a (slerpR b c q)
  hab0 : 0 ≤ dotR a b
  hca0 : 0 ≤ dotR c a
  hbcU : dotR b c ≤ 99 / 100
  hedge : ∀ q : ℝ, 0 ≤ q → q ≤ 1 → dotR a (slerpR b c q) ≤ 9 / 10

theorem TriHyp.unitTri {a b c : R3} (H : TriHyp a b c) : UnitTri a b c := ⟨H.ha, H.hb, H.hc, H.hV, H.hD, H.hγ⟩

theorem triHyp_of_unit {a b c : R3} (ha : dotR a a = 1) (hb : dotR b b = 1) (hc : dotR c c = 1)
    (hV : 1 / 20 ≤ tripleR a b c) (hab0 : 0 ≤ dotR a b) (hab : dotR a b ≤ 87 / 100)
    (hca0 : 0 ≤ dotR c a) (hca : dotR c a ≤ 87 / 100) (hbc : 89 / 100 ≤ dotR b c) (hbc' : dotR b c ≤ 99 / 100) :
    TriHyp a b c := by
  have hVpos : 0 < tripleR a b c := by linarith
  have hγ := angle_ge_switch hb hc hbc'
  have hπ := angle_bc_lt_pi ha hb hc hVpos
  refine ⟨ha, hb, hc, hVpos, hV, by linarith, hγ, by linarith, fun q hq0 hq1 => ?_, hab0, hca0, hbc',
    fun q hq0 hq1 => edge_dot_le hb hc hγ hπ hq0 hq1 hab hca hbc⟩
  obtain ⟨hu, _, _⟩ := slerpR_spec q hb hc hγ hπ
  exact angle_ge_switch ha hu ((edge_dot_le hb hc hγ hπ hq0 hq1 hab hca hbc).trans (by norm_num))

theorem dotR_normalize_bounds {u v : R3} {δ lo hi : ℝ} (hδ : δ ≤ 1 / 1000)
    (hu1 : 1 - δ ≤ dotR u u) (hu2 : dotR u u ≤ 1 + δ) (hv1 : 1 - δ ≤ dotR v v) (hv2 : dotR v v ≤ 1 + δ)
    (hlo : 0 ≤ lo) (h1 : lo ≤ dotR u v) (h2 : dotR u v ≤ hi) :
    lo * (99 / 100) ≤ dotR (normalizeR u) (normalizeR v) ∧ dotR (normalizeR u) (normalizeR v) ≤ hi * (101 / 100) := by
  obtain ⟨p1, p2⟩ := sqrt_mul_bounds (hδ.trans (by norm_num)) hu1 hu2 hv1 hv2
  rw [dotR_normalize (by linarith) (by linarith)]
  exact div_bounds hδ p1 p2 hlo h1 h2

theorem triHyp_of_near_unit {a b c : R3} {δ : ℝ} (hδ : δ ≤ 1 / 1000)
    (ha1 : 1 - δ ≤ dotR a a) (ha2 : dotR a a ≤ 1 + δ) (hb1 : 1 - δ ≤ dotR b b) (hb2 : dotR b b ≤ 1 + δ)
    (hc1 : 1 - δ ≤ dotR c c) (hc2 : dotR c c ≤ 1 + δ)
    (hV : 1 / 10 ≤ tripleR a b c) (hab0 : 0 ≤ dotR a b) (hab : dotR a b ≤ 86 / 100)
    (hca0 : 0 ≤ dotR c a) (hca : dotR c a ≤ 86 / 100) (hbc : 9 / 10 ≤ dotR b c) (hbc' : dotR b c ≤ 95 / 100) :
    TriHyp (normalizeR a) (normalizeR b) (normalizeR c) := by
  have ha0 : 0 < dotR a a := by linarith
  have hb0 : 0 < dotR b b := by linarith
  have hc0 : 0 < dotR c c := by linarith
  obtain ⟨dab1, dab2⟩ := dotR_normalize_bounds hδ ha1 ha2 hb1 hb2 le_rfl hab0 hab
  obtain ⟨dca1, dca2⟩ := dotR_normalize_bounds hδ hc1 hc2 ha1 ha2 le_rfl hca0 hca
  obtain ⟨dbc1, dbc2⟩ := dotR_normalize_bounds hδ hb1 hb2 hc1 hc2 (by norm_num) hbc hbc'
  have sq : ∀ x : ℝ, 0 < x → x ≤ 1 + δ → 0 < √x ∧ √x ≤ 5 / 4 := fun x h0 h1 =>
    ⟨Real.sqrt_pos.mpr h0, Real.sqrt_le_iff.mpr ⟨by norm_num, by linarith⟩⟩
  obtain ⟨sa0, sa⟩ := sq _ ha0 ha2
  obtain ⟨sb0, sb⟩ := sq _ hb0 hb2
  obtain ⟨sc0, sc⟩ := sq _ hc0 hc2
  refine triHyp_of_unit (dotR_normalize_self ha0) (dotR_normalize_self hb0) (dotR_normalize_self hc0) ?_
    (by rw [zero_mul] at dab1; exact dab1) (dab2.trans (by norm_num)) (by rw [zero_mul] at dca1; exact dca1)
    (dca2.trans (by norm_num)) (le_trans (by norm_num) dbc1) (dbc2.trans (by norm_num))
  -- the product of the three norms is at most `(5/4)³ < 2`
  rw [tripleR_normalize ha0 hb0 hc0, le_div_iff₀ (mul_pos (mul_pos sa0 sb0) sc0)]
  have h1 : √(dotR a a) * √(dotR b b) ≤ 5 / 4 * (5 / 4) := mul_le_mul sa sb sb0.le (by norm_num)
  have h2 := mul_le_mul h1 sc sc0.le (by norm_num)
  linarith only [h2, hV]

/-! ## 5. table entries: exact real value, normalised triangle, rational certificate -/

/-- the exact real value of a table vertex (its three `f64` coordinates read as rationals) -/
noncomputable def toR3 (v : V3C) : R3 := ⟨((v.x.toRat : ℚ) : ℝ), ((v.y.toRat : ℚ) : ℝ), ((v.z.toRat : ℚ) : ℝ)⟩

/-- the unit vector of a table vertex: the model's `normalizeR` of its exact value -/
noncomputable def unitR (v : V3C) : R3 := normalizeR (toR3 v)

noncomputable def triR (t : V3C × V3C × V3C) : R3 × R3 × R3 := (unitR t.1, unitR t.2.1, unitR t.2.2)

def dotQ (u v : V3C) : ℚ := u.x.toRat * v.x.toRat + u.y.toRat * v.y.toRat + u.z.toRat * v.z.toRat

def tripleQ (a b c : V3C) : ℚ :=
  a.x.toRat * (b.y.toRat * c.z.toRat - b.z.toRat * c.y.toRat)
    + a.y.toRat * (b.z.toRat * c.x.toRat - b.x.toRat * c.z.toRat)
    + a.z.toRat * (b.x.toRat * c.y.toRat - b.y.toRat * c.x.toRat)

theorem dotR_toR3 (u v : V3C) : dotR (toR3 u) (toR3 v) = ((dotQ u v : ℚ) : ℝ) := by
  simp only [dotR, toR3, dotQ]; push_cast; ring

theorem tripleR_toR3 (a b c : V3C) : tripleR (toR3 a) (toR3 b) (toR3 c) = ((tripleQ a b c : ℚ) : ℝ) := by
  simp only [tripleR, dotR, crossR, toR3, tripleQ]; push_cast; ring

/-- tolerance on the squared norms: `2⁻⁵⁰ ≈ 8.9e-16` -/
def normTol : ℚ := 1 / 2 ^ 50

def NormOK (v : V3C) : Prop := 1 - normTol ≤ dotQ v v ∧ dotQ v v ≤ 1 + normTol

/-- **the rational certificate** of a table triangle `(a, b, c)` (raw `f64` coordinates, no normalisation, no square
root): nearly unit, triple product `≥ 0.1` (counter-clockwise), `0 ≤ a·b ≤ 0.86`, `0 ≤ c·a ≤ 0.86`, `0.9 ≤ b·c ≤ 0.95`. -/
def TriOK (t : V3C × V3C × V3C) : Prop :=
  NormOK t.1 ∧ NormOK t.2.1 ∧ NormOK t.2.2 ∧
  1 / 10 ≤ tripleQ t.1 t.2.1 t.2.2 ∧
  0 ≤ dotQ t.1 t.2.1 ∧ dotQ t.1 t.2.1 ≤ 86 / 100 ∧
  0 ≤ dotQ t.2.2 t.1 ∧ dotQ t.2.2 t.1 ≤ 86 / 100 ∧
  9 / 10 ≤ dotQ t.2.1 t.2.2 ∧ dotQ t.2.1 t.2.2 ≤ 95 / 100

instance (v : V3C) : Decidable (NormOK v) := by unfold NormOK; exact inferInstance
instance (t : V3C × V3C × V3C) : Decidable (TriOK t) := by unfold TriOK; exact inferInstance

theorem normTol_real : ((normTol : ℚ) : ℝ) ≤ 1 / 1000 :=
  cast_le_of (q := 1 / 1000) rfl (by norm_num) (by decide +kernel)

theorem NormOK.real {v : V3C} (h : NormOK v) :
    1 - ((normTol : ℚ) : ℝ) ≤ dotR (toR3 v) (toR3 v) ∧ dotR (toR3 v) (toR3 v) ≤ 1 + ((normTol : ℚ) : ℝ) := by
  rw [dotR_toR3]
  exact ⟨by exact_mod_cast h.1, by exact_mod_cast h.2⟩

/-- **`TriOK → H`**: a triangle whose raw rational coordinates pass the certificate satisfies, after normalisation in
`ℝ`, every hypothesis of the round-trip and equal-area theorems. -/
theorem triHyp_of_triOK {t : V3C × V3C × V3C} (h : TriOK t) : TriHyp (triR t).1 (triR t).2.1 (triR t).2.2 := by
  obtain ⟨na, nb, nc, hV, hab0, hab, hca0, hca, hbc, hbc'⟩ := h
  refine triHyp_of_near_unit normTol_real na.real.1 na.real.2 nb.real.1 nb.real.2 nc.real.1 nc.real.2
    ?_ ?_ ?_ ?_ ?_ ?_ ?_
  · rw [tripleR_toR3]; exact cast_le_of (by norm_num) rfl hV
  · rw [dotR_toR3]; exact cast_le_of (by norm_num) rfl hab0
  · rw [dotR_toR3]; exact cast_le_of rfl (by norm_num) hab
  · rw [dotR_toR3]; exact cast_le_of (by norm_num) rfl hca0
  · rw [dotR_toR3]; exact cast_le_of rfl (by norm_num) hca
  · rw [dotR_toR3]; exact cast_le_of (by norm_num) rfl hbc
  · rw [dotR_toR3]; exact cast_le_of rfl (by norm_num) hbc'

/-- the normalised vertex is the raw vertex divided by its norm, and the norm is within `2⁻⁵⁰` of `1`
(so every coordinate moves by less than `1e-15` under the normalisation) -/
theorem unitR_eq {v : V3C} (h : NormOK v) :
    unitR v = ⟨(toR3 v).x / lengthR (toR3 v), (toR3 v).y / lengthR (toR3 v), (toR3 v).z / lengthR (toR3 v)⟩ ∧
    1 - ((normTol : ℚ) : ℝ) ≤ lengthR (toR3 v) ∧ lengthR (toR3 v) ≤ 1 + ((normTol : ℚ) : ℝ) := by
  have hδ := normTol_real
  have h0 : 0 < dotR (toR3 v) (toR3 v) := by linarith [h.real.1]
  refine ⟨normalizeR_of_pos h0, ?_, ?_⟩
  · have := (sqrt_mul_bounds (by linarith) h.real.1 h.real.2 h.real.1 h.real.2).1
    rw [Real.mul_self_sqrt h0.le] at this
    rw [lengthR_eq]
    refine Real.le_sqrt_of_sq_le ?_
    have hq : (0 : ℝ) ≤ ((normTol : ℚ) : ℝ) := by exact_mod_cast (by decide +kernel : (0 : ℚ) ≤ normTol)
    linarith [mul_le_of_le_one_left hq (by linarith : ((normTol : ℚ) : ℝ) ≤ 1)]
  · rw [lengthR_eq]
    refine Real.sqrt_le_iff.mpr ⟨by linarith [h.real.1, h.real.2], ?_⟩
    have hq : (0 : ℝ) ≤ ((normTol : ℚ) : ℝ) := by exact_mod_cast (by decide +kernel : (0 : ℚ) ≤ normTol)
    linarith [h.real.2, mul_nonneg hq hq]

/-! ### the certificate on integers

`TriOK` evaluated on rationals normalises a fraction after every operation.  With every coordinate scaled by `2¹¹⁰`
(the smallest exponent in the table is `-106`) each product is computed on integers and divided once. -/

/-- a coordinate scaled by `2¹¹⁰`: an integer when `-110 ≤ exp` -/
def scZ (c : FConst) : ℤ := c.num * 2 ^ (c.exp + 110).toNat

def dotZ (u v : V3C) : ℤ := scZ u.x * scZ v.x + scZ u.y * scZ v.y + scZ u.z * scZ v.z

def tripleZ (a b c : V3C) : ℤ :=
  scZ a.x * (scZ b.y * scZ c.z - scZ b.z * scZ c.y) + scZ a.y * (scZ b.z * scZ c.x - scZ b.x * scZ c.z)
    + scZ a.z * (scZ b.x * scZ c.y - scZ b.y * scZ c.x)

def ExpOK (v : V3C) : Prop := -110 ≤ v.x.exp ∧ -110 ≤ v.y.exp ∧ -110 ≤ v.z.exp

/-- `TriOK` with the inner and triple products computed on the scaled integers -/
def TriZ (t : V3C × V3C × V3C) : Prop :=
  let d (u v : V3C) : ℚ := dotZ u v / 2 ^ 220
  ExpOK t.1 ∧ ExpOK t.2.1 ∧ ExpOK t.2.2 ∧
  (1 - normTol ≤ d t.1 t.1 ∧ d t.1 t.1 ≤ 1 + normTol) ∧ (1 - normTol ≤ d t.2.1 t.2.1 ∧ d t.2.1 t.2.1 ≤ 1 + normTol) ∧
  (1 - normTol ≤ d t.2.2 t.2.2 ∧ d t.2.2 t.2.2 ≤ 1 + normTol) ∧
  1 / 10 ≤ (tripleZ t.1 t.2.1 t.2.2 : ℚ) / 2 ^ 330 ∧
  0 ≤ d t.1 t.2.1 ∧ d t.1 t.2.1 ≤ 86 / 100 ∧ 0 ≤ d t.2.2 t.1 ∧ d t.2.2 t.1 ≤ 86 / 100 ∧
  9 / 10 ≤ d t.2.1 t.2.2 ∧ d t.2.1 t.2.2 ≤ 95 / 100

instance (v : V3C) : Decidable (ExpOK v) := by unfold ExpOK; exact inferInstance
instance (t : V3C × V3C × V3C) : Decidable (TriZ t) := by unfold TriZ; exact inferInstance

theorem toRat_eq_scZ {c : FConst} (h : -110 ≤ c.exp) : c.toRat = (scZ c : ℚ) / 2 ^ 110 := by
  obtain ⟨n, hn⟩ := Int.eq_ofNat_of_zero_le (by omega : 0 ≤ c.exp + 110)
  have he : c.exp = n - 110 := by omega
  unfold FConst.toRat scZ
  rw [hn, Int.toNat_natCast, he, zpow_sub₀ (by norm_num), zpow_natCast]
  push_cast
  rw [mul_div_assoc]
  rfl

theorem dotQ_eq_dotZ {u v : V3C} (hu : ExpOK u) (hv : ExpOK v) : dotQ u v = (dotZ u v : ℚ) / 2 ^ 220 := by
  simp only [dotQ, dotZ, toRat_eq_scZ hu.1, toRat_eq_scZ hu.2.1, toRat_eq_scZ hu.2.2, toRat_eq_scZ hv.1,
    toRat_eq_scZ hv.2.1, toRat_eq_scZ hv.2.2, Int.cast_add, Int.cast_mul]
  ring

theorem tripleQ_eq_tripleZ {a b c : V3C} (ha : ExpOK a) (hb : ExpOK b) (hc : ExpOK c) :
    tripleQ a b c = (tripleZ a b c : ℚ) / 2 ^ 330 := by
  simp only [tripleQ, tripleZ, toRat_eq_scZ ha.1, toRat_eq_scZ ha.2.1, toRat_eq_scZ ha.2.2, toRat_eq_scZ hb.1,
    toRat_eq_scZ hb.2.1, toRat_eq_scZ hb.2.2, toRat_eq_scZ hc.1, toRat_eq_scZ hc.2.1, toRat_eq_scZ hc.2.2,
    Int.cast_add, Int.cast_sub, Int.cast_mul, show (2 : ℚ) ^ 330 = (2 ^ 110) ^ 3 by rw [← pow_mul]]
  generalize (2 : ℚ) ^ 110 = K
  ring

theorem triOK_of_triZ {t : V3C × V3C × V3C} (h : TriZ t) : TriOK t := by
  obtain ⟨ea, eb, ec, h⟩ := h
  unfold TriOK NormOK
  rwa [dotQ_eq_dotZ ea ea, dotQ_eq_dotZ eb eb, dotQ_eq_dotZ ec ec, tripleQ_eq_tripleZ ea eb ec, dotQ_eq_dotZ ea eb,
    dotQ_eq_dotZ ec ea, dotQ_eq_dotZ eb ec]

/-! ## 6. the points of the far edge, `10⁻⁴` away from its ends -/

open A5.GP A5.PolyTies

theorem weight_lower {q γ : ℝ} (hq : 1 / 10 ^ 4 ≤ q) (hq1 : q ≤ 1) (hγlo : 14 / 100 ≤ γ) (hγ2 : γ ≤ Real.pi / 2) :
    88 / 10 ^ 7 ≤ Real.sin (q * γ) / Real.sin γ := by
  have hγ0 : 0 ≤ γ := le_trans (by norm_num) hγlo
  have hS : 0 < Real.sin γ :=
    Real.sin_pos_of_pos_of_lt_pi (lt_of_lt_of_le (by norm_num) hγlo) (by linarith only [hγ2, Real.pi_pos])
  have h1 : 14 / 10 ^ 6 ≤ q * γ := le_trans (by norm_num) (mul_le_mul hq hγlo (by norm_num) (le_trans (by norm_num) hq))
  have h3 : 88 / 10 ^ 7 ≤ Real.sin (q * γ) := by
    linarith only [h1, sin_ge_mul (le_trans (by norm_num) h1) ((mul_le_of_le_one_left hγ0 hq1).trans hγ2)]
  exact h3.trans ((le_div_iff₀ hS).mpr (mul_le_of_le_one_right (le_trans (by norm_num) h3) (Real.sin_le_one _)))

/-- the point `P = slerp b c q`, `10⁻⁴ ≤ q ≤ 1 - 10⁻⁴`, of the far edge of a `TriHyp` triangle: it is `wa·b + wb·c` with
both weights `≥ 8.8e-6`, a unit vector, and both sub-triangles have positive Eriksson denominators -/
theorem edge_point_facts {a b c : R3} (H : TriHyp a b c) {q : ℝ} (hq0 : 1 / 10 ^ 4 ≤ q)
    (hq1 : q ≤ 1 - 1 / 10 ^ 4) :
    ∃ wa wb : ℝ, slerpR b c q = addR (scaleR b wa) (scaleR c wb) ∧ 88 / 10 ^ 7 ≤ wa ∧ 88 / 10 ^ 7 ≤ wb ∧
      dotR (slerpR b c q) (slerpR b c q) = 1 ∧
      0 < 1 + dotR a (slerpR b c q) + dotR (slerpR b c q) c + dotR c a ∧
      0 < 1 + dotR a b + dotR b (slerpR b c q) + dotR (slerpR b c q) a := by
  obtain ⟨_, hcos, g0, g1⟩ := angleR_unit H.hb H.hc
  have hπ := H.unitTri.angle_lt_pi
  have hq0' : 0 ≤ q := le_trans (by norm_num) hq0
  have hq1' : q ≤ 1 := hq1.trans (by norm_num)
  have hr0 : (1 : ℝ) / 10 ^ 4 ≤ 1 - q := by linarith only [hq1]
  have hr1 : 1 - q ≤ 1 := by linarith only [hq0']
  -- the edge is shorter than a quarter circle and longer than 0.14 rad
  have hγ2 : angleR b c ≤ Real.pi / 2 := by
    by_contra hlt
    have := Real.cos_neg_of_pi_div_two_lt_of_lt (not_le.mp hlt) (by linarith only [g1, Real.pi_pos])
    rw [hcos] at this
    exact absurd H.hbc (not_lt.mpr this.le)
  have hγlo : 14 / 100 ≤ angleR b c := angle_lower g0 (hcos ▸ H.hbcU)
  obtain ⟨hu, _, hcP⟩ := slerpR_spec q H.hb H.hc H.hγ hπ
  have hwb := weight_lower hq0 hq1' hγlo hγ2
  have hwa := weight_lower hr0 hr1 hγlo hγ2
  have hD1 : 0 < 1 + dotR a (slerpR b c q) + dotR (slerpR b c q) c + dotR c a := by
    have e1 : 0 ≤ dotR a (slerpR b c q) := by
      rw [slerpR_unfold q H.hγ, dotR_comb_right]
      exact add_nonneg (mul_nonneg (le_trans (by norm_num) hwa) H.hab0) (mul_nonneg (le_trans (by norm_num) hwb) H.hca0)
    have e2 : 0 ≤ dotR (slerpR b c q) c := by
      rw [dotR_comm, hcP]
      have h1 : (1 - q) * angleR b c ≤ angleR b c := mul_le_of_le_one_left g0 hr1
      have h0 : 0 ≤ (1 - q) * angleR b c := mul_nonneg (le_trans (by norm_num) hr0) g0
      exact Real.cos_nonneg_of_neg_pi_div_two_le_of_le (by linarith only [h0, Real.pi_pos])
        (by linarith only [h1, hγ2])
    linarith only [e1, e2, H.hca0]
  exact ⟨_, _, slerpR_unfold q H.hγ, hwa, hwb, hu, hD1, H.unitTri.D_pos hq0' hq1'⟩

theorem sub_triple_lower {w V : ℝ} (hw : 88 / 10 ^ 7 ≤ w) (hV : 1 / 20 ≤ V) : 4 / 10 ^ 7 ≤ w * V :=
  le_trans (by norm_num) (mul_le_mul hw hV (by norm_num) (le_trans (by norm_num) hw))

/-- **sub-triangles.**  For a triangle satisfying `TriHyp` and `q` at least `10⁻⁴` away from both ends of the edge, the
triangles `(a, P, c)` and `(a, b, P)`, `P = slerp b c q`, are on the `asin` branch of `get_triangle_area`. -/
theorem sub_triangles_on_asin {a b c : R3} (H : TriHyp a b c) {q : ℝ} (hq0 : 1 / 10 ^ 4 ≤ q)
    (hq1 : q ≤ 1 - 1 / 10 ^ 4) :
    OnAsinBranch a (slerpR b c q) c ∧ OnAsinBranch a b (slerpR b c q) := by
  obtain ⟨wa, wb, hP, hwa, hwb, hu, hD1, hD2⟩ := edge_point_facts H hq0 hq1
  have hsw : 4 * triAreaSwitch ≤ 4 / 10 ^ 7 := by linarith [triAreaSwitch_le]
  refine ⟨onAsinBranch_of_triple H.ha hu H.hc hD1 ?_, onAsinBranch_of_triple H.ha H.hb hu hD2 ?_⟩
  · rw [hP, tripleR_comb_mid]
    exact hsw.trans (sub_triple_lower hwa H.hV')
  · rw [hP, (dotR_tripleR_comb a b c _ _).2.1]
    exact hsw.trans (sub_triple_lower hwb H.hV')

/-- the whole triangle is on the `asin` branch (`V ≥ 1/20 ≥ 4·TRI_AREA_SWITCH`) -/
theorem TriHyp.onAsinBranch {a b c : R3} (H : TriHyp a b c) : OnAsinBranch a b c :=
  onAsinBranch_of_triple H.ha H.hb H.hc H.hD (by linarith [triAreaSwitch_le, H.hV'])

/-! ## 7. no vertex snap away from the corners

The forward map stores `(1 - h, h/Ω·Ω₂, h/Ω·Ω₃)` with `h = sin(s·γ'/2)/sin(γ'/2)`, `γ' = ∠(a, P)`, `Ω = area(a,b,c)`,
`Ω₂ = area(a,P,c)`, `Ω₃ = area(a,b,P)`; `polyhedralInverse` returns a vertex when one of them exceeds
`1 - POLY_SNAP_EPS`.  The first does as soon as `h < snapEps ≈ 1e-14`, and `h ≈ s` for tiny `s`: the bound `2·10⁻¹⁴`
on `s` below is within a factor of about `2` of where the apex snap really happens. -/

/-- Jordan's inequality and `sin x ≤ x` -/
theorem sin_half_ratio_bounds {s γ : ℝ} (hs0 : 0 < s) (hs1 : s ≤ 1) (hγ0 : 0 < γ) (hγπ : γ < Real.pi) :
    3 / 5 * s ≤ Real.sin (s * γ / 2) / Real.sin (γ / 2) ∧ Real.sin (s * γ / 2) / Real.sin (γ / 2) ≤ 1 := by
  have hpi := Real.pi_pos
  have hsγ0 : 0 < s * γ := mul_pos hs0 hγ0
  have hsγ1 : s * γ ≤ γ := mul_le_of_le_one_left hγ0.le hs1
  have hden : 0 < Real.sin (γ / 2) :=
    Real.sin_pos_of_pos_of_lt_pi (by linarith only [hγ0]) (by linarith only [hγπ, hpi])
  constructor
  · rw [le_div_iff₀ hden]
    have h1 := sin_ge_mul (x := s * γ / 2) (by linarith only [hsγ0]) (by linarith only [hsγ1, hγπ])
    have h2 := Real.sin_le (x := γ / 2) (by linarith only [hγ0])
    have h4 : 3 / 5 * s * Real.sin (γ / 2) ≤ 3 / 5 * s * (γ / 2) :=
      mul_le_mul_of_nonneg_left h2 (by linarith only [hs0])
    linarith only [h1, h4, hsγ0]
  · rw [div_le_one hden]
    exact Real.sin_le_sin_of_le_of_le_pi_div_two (by linarith only [hsγ0, hpi]) (by linarith only [hγπ])
      (by linarith only [hsγ1])

/-- **radial coordinate.**  `h = vector_difference(a, slerp a p s) / vector_difference(a, p) = sin(sγ/2)/sin(γ/2)` lies in
`[3/5·s, 1]` for `0 < s ≤ 1`, whatever the angle `γ ∈ [SLERP_SWITCH, π)`. -/
theorem radial_h_bounds {a p : R3} {s : ℝ} (ha : dotR a a = 1) (hp : dotR p p = 1)
    (hγ : slerpSwitch ≤ angleR a p) (hπ : angleR a p < Real.pi) (hs0 : 0 < s) (hs1 : s ≤ 1) :
    3 / 5 * s ≤ vectorDifferenceR a (slerpR a p s) / vectorDifferenceR a p ∧
    vectorDifferenceR a (slerpR a p s) / vectorDifferenceR a p ≤ 1 := by
  obtain ⟨e1, e2, hpos, _, _⟩ := vectorDifferenceR_slerp hs0.le hs1 ha hp hγ hπ
  rw [e1, e2]
  exact sin_half_ratio_bounds hs0 hs1 hpos hπ

/-- i.e. `tan (m/2) ≤ m` -/
theorem half_le_arctan {m : ℝ} (h0 : 0 ≤ m) (h1 : m ≤ 1) : m / 2 ≤ Real.arctan m := by
  have hpi := Real.pi_gt_three
  have hc := Real.one_sub_sq_div_two_le_cos (x := m / 2)
  have hs := Real.sin_le (x := m / 2) (by linarith)
  have hm : m * m ≤ 1 * 1 := mul_le_mul h1 h1 h0 (by norm_num)
  have hc' : 1 / 2 ≤ Real.cos (m / 2) := by linarith
  have ht : Real.tan (m / 2) ≤ m := by
    rw [Real.tan_eq_sin_div_cos, div_le_iff₀ (by linarith)]
    linarith [mul_le_mul_of_nonneg_left hc' h0]
  have := Real.arctan_strictMono.monotone ht
  rwa [Real.arctan_tan (by linarith) (by linarith)] at this

theorem area_lower {x y z : R3} (hx : dotR x x = 1) (hy : dotR y y = 1) (hz : dotR z z = 1)
    (hD : 0 < 1 + dotR x y + dotR y z + dotR z x) (hV : 4 / 10 ^ 7 ≤ tripleR x y z) :
    1 / 10 ^ 7 ≤ triAreaR x y z := by
  rw [triAreaR_eq_arctan hx hy hz hD]
  have u1 := (dotR_unit_mem hx hy).2
  have u2 := (dotR_unit_mem hy hz).2
  have u3 := (dotR_unit_mem hz hx).2
  have hm : (1 / 10 ^ 7 : ℝ) ≤ tripleR x y z / (1 + dotR x y + dotR y z + dotR z x) := by
    rw [le_div_iff₀ hD]; linarith
  have h1 := Real.arctan_strictMono.monotone hm
  have h2 := half_le_arctan (m := 1 / 10 ^ 7) (by norm_num) (by norm_num)
  linarith

/-- the three stored coordinates stay below `1 - ε`: `1 - h` because `h ≥ 3/5·s > ε`, the other two because
`h·Ωᵢ ≤ Ωᵢ = Ω - Ωⱼ ≤ Ω - 1e-7 ≤ (1 - ε)·Ω` -/
theorem no_snap_core {h s Ω Ω2 Ω3 ε : ℝ} (hs : 2 / 10 ^ 14 ≤ s) (hh0 : 3 / 5 * s ≤ h) (hh1 : h ≤ 1)
    (hΩ0 : 0 < Ω) (hΩ1 : Ω < 4) (hA2 : 1 / 10 ^ 7 ≤ Ω2) (hA3 : 1 / 10 ^ 7 ≤ Ω3) (hadd : Ω2 + Ω3 = Ω)
    (hε : ε ≤ 12 / 10 ^ 15) :
    1 - h ≤ 1 - ε ∧ h / Ω * Ω2 ≤ 1 - ε ∧ h / Ω * Ω3 ≤ 1 - ε := by
  have hεΩ : ε * Ω ≤ 12 / 10 ^ 15 * 4 := by
    rcases le_or_gt ε 0 with h0 | h0
    · exact (mul_nonpos_of_nonpos_of_nonneg h0 hΩ0.le).trans (by norm_num)
    · exact mul_le_mul hε hΩ1.le hΩ0.le (by norm_num)
  have h2 : h * Ω2 ≤ 1 * Ω2 := mul_le_mul_of_nonneg_right hh1 (le_trans (by norm_num) hA2)
  have h3 : h * Ω3 ≤ 1 * Ω3 := mul_le_mul_of_nonneg_right hh1 (le_trans (by norm_num) hA3)
  refine ⟨by linarith, ?_, ?_⟩ <;> rw [div_mul_eq_mul_div, div_le_iff₀ hΩ0] <;> linarith

/-- **no vertex snap** (real transcriptions).  For a triangle satisfying `TriHyp`, `10⁻⁴ ≤ q ≤ 1 - 10⁻⁴` and
`2·10⁻¹⁴ ≤ s ≤ 1`, none of the three barycentric coordinates the forward map computes for
`v = slerp(a, slerp(b, c, q), s)` exceeds `1 - POLY_SNAP_EPS`. -/
theorem no_snap {a b c : R3} (H : TriHyp a b c) {q s : ℝ} (hq0 : 1 / 10 ^ 4 ≤ q) (hq1 : q ≤ 1 - 1 / 10 ^ 4)
    (hs0 : 2 / 10 ^ 14 ≤ s) (hs1 : s ≤ 1) :
    ¬ (forwardBaryR a b c (slerpR a (slerpR b c q) s)).1 > 1 - snapEps ∧
    ¬ (forwardBaryR a b c (slerpR a (slerpR b c q) s)).2.1 > 1 - snapEps ∧
    ¬ (forwardBaryR a b c (slerpR a (slerpR b c q) s)).2.2 > 1 - snapEps := by
  have hq0' : 0 ≤ q := by linarith
  have hq1' : q ≤ 1 := by linarith
  have hs0' : 0 < s := lt_of_lt_of_le (by norm_num) hs0
  have hγ' := H.hγ' q hq0' hq1'
  have hπ' := H.unitTri.apex_lt_pi hq0' hq1'
  rw [forwardBaryR_eq H.ha H.hb H.hc H.hV H.hγ hγ' hπ' hs0' hs1]
  obtain ⟨wa, wb, hP, hwa, hwb, hu, hD2, hD3⟩ := edge_point_facts H hq0 hq1
  obtain ⟨hh0, hh1⟩ := radial_h_bounds H.ha hu hγ' hπ' hs0' hs1
  obtain ⟨hΩ0, hΩ1⟩ := triAreaR_mem H.ha H.hb H.hc H.hV H.hD
  have hA2 : 1 / 10 ^ 7 ≤ triAreaR a (slerpR b c q) c :=
    area_lower H.ha hu H.hc hD2 (by rw [hP, tripleR_comb_mid]; exact sub_triple_lower hwa H.hV')
  have hA3 : 1 / 10 ^ 7 ≤ triAreaR a b (slerpR b c q) :=
    area_lower H.ha H.hb hu hD3 (by rw [hP, (dotR_tripleR_comb a b c _ _).2.1]; exact sub_triple_lower hwb H.hV')
  have hadd : triAreaR a (slerpR b c q) c + triAreaR a b (slerpR b c q) = triAreaR a b c := by
    rw [hP] at hu hD2 hD3 ⊢
    exact area_additive H.ha H.hb H.hc hu H.hV H.hD (lt_of_lt_of_le (by norm_num) hwa)
      (lt_of_lt_of_le (by norm_num) hwb) hD2 hD3
  obtain ⟨n1, n2, n3⟩ := no_snap_core hs0 hh0 hh1 hΩ0 (hΩ1.trans Real.pi_lt_four) hA2 hA3 hadd snapEps_le
  exact ⟨not_lt.mpr n1, not_lt.mpr n2, not_lt.mpr n3⟩

/-! ## 8. the round trip on the twins (`C15.polyhedral_roundtrip_twin`) for a triangle satisfying `TriHyp` -/

theorem TriHyp.sub_triangles_twin {a b c : R3} (H : TriHyp a b c) {q : ℝ} (hq0 : 1 / 10 ^ 4 ≤ q)
    (hq1 : q ≤ 1 - 1 / 10 ^ 4) :
    AreaAgreesG (toTR a) (slerpG realKit (toTR b) (toTR c) q) (toTR c) ∧
    AreaAgreesG (toTR a) (toTR b) (slerpG realKit (toTR b) (toTR c) q) := by
  obtain ⟨h1, h2⟩ := sub_triangles_on_asin H hq0 hq1
  rw [← slerpR_tie]
  exact ⟨(areaAgrees_tie _ _ _).mp h1.agrees, (areaAgrees_tie _ _ _).mp h2.agrees⟩

/-- `C15.polyhedral_roundtrip_twin` with the hypotheses on the triangle discharged: unit vectors, orientation, `hD`, both `slerp` switch conditions
(every `q ∈ [0,1]`) and the branch condition of `area(a, b, c)`.  The conditions that depend on the point remain: the
two sub-triangles `(a, P, c)`, `(a, b, P)` are on the `asin` branch or degenerate, and no barycentric coordinate
exceeds `1 - POLY_SNAP_EPS`. -/
theorem TriHyp.roundtrip_twin {a b c : R3} (H : TriHyp a b c) {q s : ℝ} (hq0 : 0 ≤ q) (hq1 : q ≤ 1) (hs0 : 0 < s)
    (hs1 : s ≤ 1)
    (hE2 : AreaAgreesG (toTR a) (slerpG realKit (toTR b) (toTR c) q) (toTR c))
    (hE3 : AreaAgreesG (toTR a) (toTR b) (slerpG realKit (toTR b) (toTR c) q))
    (hn1 : ¬ (forwardBaryG realKit (toTR a) (toTR b) (toTR c)
      (slerpG realKit (toTR a) (slerpG realKit (toTR b) (toTR c) q) s)).1 > realKit.one - realKit.snapEps)
    (hn2 : ¬ (forwardBaryG realKit (toTR a) (toTR b) (toTR c)
      (slerpG realKit (toTR a) (slerpG realKit (toTR b) (toTR c) q) s)).2.1 > realKit.one - realKit.snapEps)
    (hn3 : ¬ (forwardBaryG realKit (toTR a) (toTR b) (toTR c)
      (slerpG realKit (toTR a) (slerpG realKit (toTR b) (toTR c) q) s)).2.2 > realKit.one - realKit.snapEps) :
    let v := slerpG realKit (toTR a) (slerpG realKit (toTR b) (toTR c) q) s
    let r := inverseBaryG realKit (toTR a) (toTR b) (toTR c) (forwardBaryG realKit (toTR a) (toTR b) (toTR c) v)
    dotG r r = 1 ∧ lengthG realKit (subG r v) ≤ 5e-16 :=
  polyhedral_roundtrip_full_twin (a := toTR a) (b := toTR b) (c := toTR c) H.ha H.hb H.hc H.hV H.hD H.hγ
    (by rw [← slerpR_tie]; exact H.hγ' q hq0 hq1) hq0 hq1 hs0 hs1
    ((areaAgrees_tie _ _ _).mp H.onAsinBranch.agrees) hE2 hE3 hn1 hn2 hn3

theorem TriHyp.no_snap_twin {a b c : R3} (H : TriHyp a b c) {q s : ℝ} (hq0 : 1 / 10 ^ 4 ≤ q)
    (hq1 : q ≤ 1 - 1 / 10 ^ 4) (hs0 : 2 / 10 ^ 14 ≤ s) (hs1 : s ≤ 1) :
    ¬ (forwardBaryG realKit (toTR a) (toTR b) (toTR c)
      (slerpG realKit (toTR a) (slerpG realKit (toTR b) (toTR c) q) s)).1 > realKit.one - realKit.snapEps ∧
    ¬ (forwardBaryG realKit (toTR a) (toTR b) (toTR c)
      (slerpG realKit (toTR a) (slerpG realKit (toTR b) (toTR c) q) s)).2.1 > realKit.one - realKit.snapEps ∧
    ¬ (forwardBaryG realKit (toTR a) (toTR b) (toTR c)
      (slerpG realKit (toTR a) (slerpG realKit (toTR b) (toTR c) q) s)).2.2 > realKit.one - realKit.snapEps := by
  have hq0' : 0 ≤ q := by linarith
  have hq1' : q ≤ 1 := by linarith
  obtain ⟨hE2, hE3⟩ := sub_triangles_on_asin H hq0 hq1
  have R := forward_point H.ha H.hb H.hc H.hV H.hγ (H.hγ' q hq0' hq1')
    (H.unitTri.apex_lt_pi hq0' hq1') (lt_of_lt_of_le (by norm_num) hs0) hs1
  have e := forwardBaryR_tie (v := slerpR a (slerpR b c q) s) H.onAsinBranch.agrees
    (by rw [R]; exact hE2.agrees) (by rw [R]; exact hE3.agrees)
  have n := no_snap H hq0 hq1 hs0 hs1
  rwa [e, slerpR_tie, slerpR_tie] at n

/-- **the twin-level round trip on the interior**: for a triangle satisfying `TriHyp` and every point
`v = slerp(a, slerp(b, c, q), s)` with `10⁻⁴ ≤ q ≤ 1 - 10⁻⁴`, `2·10⁻¹⁴ ≤ s ≤ 1`, the generic twins of
`polyhedralForward` / `polyhedralInverse` at `ℝ` - vertex snapping and two-branch `safe_acos` included - return a unit
vector within `5e-16` of `v`.  Outside these ranges: within `10⁻⁴` of an end of the edge a sub-triangle area may be
computed on the `2·s` branch (relative difference `s²/6 < 2e-17`; the exact statements do not transfer); below
`s ≈ 10⁻¹⁴` the code snaps to the apex. -/
theorem TriHyp.roundtrip_twin_interior {a b c : R3} (H : TriHyp a b c) {q s : ℝ} (hq0 : 1 / 10 ^ 4 ≤ q)
    (hq1 : q ≤ 1 - 1 / 10 ^ 4) (hs0 : 2 / 10 ^ 14 ≤ s) (hs1 : s ≤ 1) :
    let v := slerpG realKit (toTR a) (slerpG realKit (toTR b) (toTR c) q) s
    let r := inverseBaryG realKit (toTR a) (toTR b) (toTR c) (forwardBaryG realKit (toTR a) (toTR b) (toTR c) v)
    dotG r r = 1 ∧ lengthG realKit (subG r v) ≤ 5e-16 := by
  obtain ⟨hE2, hE3⟩ := H.sub_triangles_twin hq0 hq1
  obtain ⟨n1, n2, n3⟩ := H.no_snap_twin hq0 hq1 hs0 hs1
  exact H.roundtrip_twin (by linarith) (by linarith) (lt_of_lt_of_le (by norm_num) hs0) hs1 hE2 hE3 n1 n2 n3

end A5.RuntimeTriangles
