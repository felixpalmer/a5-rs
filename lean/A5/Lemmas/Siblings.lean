import A5.Lemmas.Order
import A5.Model.Hier
import A5.Lemmas.Codec
/-! # Siblings: strides, first children, parent between its children

`child p j` is the `j`-th child in `Path.children` order; `getStride_eq`, `isFirstChild_low`, `isFirstChild_hilbert` are
closed forms of the model functions `getStride`, `isFirstChild` (`A5/Model/Hier.lean`, Rust `get_stride`, `is_first_child`). -/
namespace A5.Order
open A5 A5.Path

def child : Path → Nat → Path
  | world, j => face j
  | face f, j => deep f j []
  | deep f k ds, j => deep f k (ds ++ [j])

theorem fan_world : fan (res world) = 12 := by decide
theorem fan_face (f : Nat) : fan (res (face f)) = 5 := rfl
theorem fan_deep (f k : Nat) (ds : List Nat) : fan (res (deep f k ds)) = 4 := by
  rw [res_deep]; simp only [fan]; rw [if_neg (by omega), if_neg (by omega)]

theorem children_eq_map_child (p : Path) : children p = (List.range (fan (res p))).map (child p) := by
  cases p with
  | world => rw [fan_world]; rfl
  | face f => rw [fan_face]; rfl
  | deep f k ds => rw [fan_deep]; rfl

theorem mem_children_iff (p c : Path) : c ∈ children p ↔ ∃ j, j < fan (res p) ∧ c = child p j := by
  rw [children_eq_map_child]
  simp only [List.mem_map, List.mem_range, eq_comm]

theorem child_mem_children (p : Path) (j : Nat) (hj : j < fan (res p)) : child p j ∈ children p :=
  (mem_children_iff p _).2 ⟨j, hj, rfl⟩

theorem res_child (p : Path) (j : Nat) : res (child p j) = res p + 1 := by
  cases p with
  | world => simp [child, res]
  | face f => simp [child, res]
  | deep f k ds => simp only [child, res, List.length_append, List.length_singleton]; omega

theorem fan_le (r : Int) : 4 ≤ fan r ∧ fan r ≤ 12 := by
  unfold fan; split
  · omega
  · split <;> omega

theorem enc_child_world (j : Nat) : enc (child world j) = j * 2 ^ 58 + 2 ^ 57 := rfl

theorem enc_child_face (f j : Nat) : enc (child (face f) j) = (5 * f + j) * 2 ^ 58 + 2 ^ 56 := by
  simp only [child]
  rw [enc_deep, value_nil, List.length_nil, mark_zero]
  omega

theorem enc_quintant (f k : Nat) : enc (deep f k []) = (5 * f + k) * 2 ^ 58 + 2 ^ 56 := enc_child_face f k

theorem enc_face (f : Nat) : enc (face f) = f * 2 ^ 58 + 2 ^ 57 := rfl

theorem enc_child_deep (f k : Nat) (ds : List Nat) (j : Nat) (hl : ds.length ≤ 28) :
    enc (child (deep f k ds) j) = blockBase f k ds + j * W (ds.length + 1) + mark (ds.length + 1) := by
  simp only [child]
  rw [enc_append f k ds [j] (by simp only [List.length_singleton]; omega)]
  have : value [j] = j := by simp [value]
  rw [this, List.length_singleton]
  omega

/-- the documented sibling distance at resolution `r` -/
def stride (r : Int) : Nat := if r < 2 then 2 ^ 58 else 2 ^ (2 * (30 - r).toNat)

theorem getStride_eq (r : Int) (h30 : r ≤ 30) (hlo : -2147483617 ≤ r) : getStride r = .ok (stride r) := by
  unfold getStride stride
  by_cases h : r < 2
  · rewrite [if_pos h, if_pos h]
    simp only [Gen.HILBERT_START_BIT]
    rewrite [u64Shl_ok 1 58 (by omega) (by omega)]
    refine congrArg Outcome.ok ?_
    omega
  · rewrite [if_neg h, if_neg h]
    simp only [Gen.MAX_RESOLUTION]
    rewrite [i32Sub_ok 30 r (by omega)]
    simp only [Outcome.bind_ok]
    rewrite [if_neg (by omega)]
    have hn : 2 * (30 - r).toNat < 64 := by omega
    have hm : 2 * (30 - r).toNat % 2 ^ 32 = 2 * (30 - r).toNat := Nat.mod_eq_of_lt (by omega)
    rewrite [hm]
    have hp : 1 * 2 ^ (2 * (30 - r).toNat) < 2 ^ 64 := by
      rw [Nat.one_mul]; exact Nat.pow_lt_pow_right (by omega) hn
    rewrite [u64Shl_ok 1 _ hn hp, Nat.one_mul]
    rfl

theorem stride_low (r : Int) (h : r < 2) : stride r = 2 ^ 58 := by
  unfold stride; rw [if_pos h]

theorem stride_eq_W (n : Nat) (h29 : n ≤ 29) : stride (1 + (n : Int)) = W n := by
  unfold stride W
  by_cases h : n = 0
  · subst h; rfl
  · rw [if_neg (by omega)]
    have : 2 * (30 - (1 + (n : Int))).toNat = 58 - 2 * n := by omega
    rw [this]

theorem and_three_shift (x n : Nat) : x &&& (3 * 2 ^ n) = (x / 2 ^ n % 4) * 2 ^ n := by
  have h1 : (x &&& (3 * 2 ^ n)) % 2 ^ n = 0 := by
    rw [Nat.and_mod_two_pow, Nat.mul_mod_left, Nat.and_zero]
  have h2 : (x &&& (3 * 2 ^ n)) / 2 ^ n = x / 2 ^ n % 4 := by
    rw [← Nat.shiftRight_eq_div_pow, Nat.shiftRight_and_distrib, Nat.shiftRight_eq_div_pow,
      Nat.shiftRight_eq_div_pow, Nat.mul_div_cancel _ (Nat.pow_pos (by omega))]
    exact Nat.and_two_pow_sub_one_eq_mod _ 2
  have h3 := Nat.div_add_mod (x &&& (3 * 2 ^ n)) (2 ^ n)
  rw [h1, h2, Nat.add_zero, Nat.mul_comm] at h3
  exact h3.symm

theorem isFirstChild_low (id : Nat) (r : Int) (h : r < 2) :
    isFirstChild id r = .ok ((id / 2 ^ 58) % (if r = 0 then 12 else 5) == 0) := by
  unfold isFirstChild
  rewrite [if_pos h]
  simp only [Gen.HILBERT_START_BIT, Gen.FIRST_CHILD_COUNT_RES0, Gen.FIRST_CHILD_COUNT_RES1,
    Nat.shiftRight_eq_div_pow]

/-- `is_first_child` for a cell with `n ≥ 1` digits: the last digit (two bits above the marker) is 0 -/
theorem isFirstChild_hilbert (id n : Nat) (h1 : 1 ≤ n) (h29 : n ≤ 29) :
    isFirstChild id (1 + (n : Int)) = .ok ((id / W n % 4) * W n == 0) := by
  unfold isFirstChild
  rewrite [if_neg (by omega)]
  simp only [Gen.MAX_RESOLUTION]
  rewrite [i32Sub_ok 30 _ (by omega)]
  simp only [Outcome.bind_ok]
  rewrite [if_neg (by omega)]
  have he : 2 * (30 - (1 + (n : Int))).toNat = 58 - 2 * n := by omega
  rewrite [he]
  have hm : (58 - 2 * n) % 2 ^ 32 = 58 - 2 * n := Nat.mod_eq_of_lt (by omega)
  rewrite [hm]
  have hp : 3 * 2 ^ (58 - 2 * n) < 2 ^ 64 := by
    have : 2 ^ (58 - 2 * n) ≤ 2 ^ 56 := Nat.pow_le_pow_right (by omega) (by omega)
    omega
  rewrite [u64Shl_ok 3 _ (by omega) hp]
  simp only [Outcome.bind_ok]
  have := and_three_shift id (58 - 2 * n)
  have e : (id &&& 3 * 2 ^ (58 - 2 * n)) = (id / W n % 4) * W n := this
  rewrite [e]
  rfl

theorem digit_of_block (c j S m : Nat) (hj : j < 4) (hm : m < S) : ((4 * c + j) * S + m) / S % 4 = j := by
  rewrite [Nat.mul_comm, Nat.mul_add_div (by omega), Nat.div_eq_of_lt hm, Nat.add_zero]
  omega

theorem mul_beq_zero (j S : Nat) (hS : 0 < S) : (j * S == 0) = (j == 0) := by
  by_cases hj : j = 0
  · subst hj; simp
  · have : j * S ≠ 0 := Nat.mul_ne_zero hj (by omega)
    rw [beq_eq_false_iff_ne.2 this, beq_eq_false_iff_ne.2 hj]

theorem enc_child_stride (p : Path) (hr : res p ≤ 28) (j : Nat) :
    enc (child p j) = enc (child p 0) + j * stride (res p + 1) := by
  cases p with
  | world =>
    rw [enc_child_world, enc_child_world, stride_low _ (by simp only [res]; omega)]; omega
  | face f =>
    rw [enc_child_face, enc_child_face, stride_low _ (by simp only [res]; omega)]; omega
  | deep f k ds =>
    have hl : ds.length ≤ 28 := by rw [res_deep] at hr; omega
    have e : res (deep f k ds) + 1 = 1 + ((ds.length + 1 : Nat) : Int) := by simp only [res]; omega
    rw [e, stride_eq_W _ (by omega), enc_child_deep _ _ _ _ hl, enc_child_deep _ _ _ _ hl]
    omega

theorem isFirstChild_child (p : Path) (hr : res p ≤ 28) (j : Nat) (hj : j < fan (res p)) :
    isFirstChild (enc (child p j)) (res p + 1) = .ok (j == 0) := by
  cases p with
  | world =>
    rw [fan_world] at hj
    simp only [res]
    rewrite [isFirstChild_low _ _ (by omega), enc_child_world, if_pos (by omega)]
    have : (j * 2 ^ 58 + 2 ^ 57) / 2 ^ 58 % 12 = j := by omega
    rewrite [this]; rfl
  | face f =>
    rw [fan_face] at hj
    simp only [res]
    rewrite [isFirstChild_low _ _ (by omega), enc_child_face, if_neg (by omega)]
    have : ((5 * f + j) * 2 ^ 58 + 2 ^ 56) / 2 ^ 58 % 5 = j := by omega
    rewrite [this]; rfl
  | deep f k ds =>
    rw [fan_deep] at hj
    rw [res_deep] at hr
    have hl : ds.length ≤ 28 := by omega
    have e : res (deep f k ds) + 1 = 1 + ((ds.length + 1 : Nat) : Int) := by simp only [res]; omega
    rewrite [e, isFirstChild_hilbert _ _ (by omega) (by omega), enc_child_deep _ _ _ _ hl]
    -- id = (4·c + j)·S + m with m < S
    have hS := W_pos (ds.length + 1)
    have hW := W_succ ds.length hl
    have hm1 := two_mark_le_W (ds.length + 1) (by omega)
    have h58 := pow4_mul_W (ds.length + 1) (by omega)
    have hid : blockBase f k ds + j * W (ds.length + 1) + mark (ds.length + 1) =
        (4 * ((5 * f + k) * 4 ^ ds.length + value ds) + j) * W (ds.length + 1) + mark (ds.length + 1) := by
      rw [blockBase, hW, ← h58, Nat.pow_succ]; grind
    rewrite [hid, digit_of_block _ j _ _ hj (by omega), mul_beq_zero j _ hS]
    rfl

theorem mem_children_of_between (p : Path) (hp : WF p) (hr : res p ≤ 28) (q : Path) (hq : WF q)
    (hres : res q = res p + 1) (h1 : enc (child p 0) ≤ enc q)
    (h2 : enc q ≤ enc (child p (fan (res p) - 1))) : q ∈ children p := by
  cases p with
  | world =>
    cases q with
    | world => simp only [res] at hres; omega
    | face f' => exact List.mem_map.2 ⟨f', List.mem_range.2 hq, rfl⟩
    | deep f' k' es => simp only [res] at hres; omega
  | face f =>
    cases q with
    | world => simp only [res] at hres; omega
    | face f' => simp only [res] at hres; omega
    | deep f' k' es =>
      simp only [res] at hres
      have hes : es = [] := List.eq_nil_of_length_eq_zero (by omega)
      subst hes
      obtain ⟨_, hk', _, _⟩ := hq
      rw [fan_face] at h2
      rw [enc_child_face] at h1 h2
      rw [enc_quintant] at h1 h2
      have : f' = f := by omega
      subst this
      exact List.mem_map.2 ⟨k', List.mem_range.2 hk', rfl⟩
  | deep f k ds =>
    have hp' := hp
    obtain ⟨_, _, hd, hl⟩ := hp
    rw [fan_deep] at h2
    rw [enc_child_deep _ _ _ _ hl] at h1 h2
    have hW := W_succ ds.length hl
    have hm1 := two_mark_le_W (ds.length + 1) (by rw [res_deep] at hr; omega)
    have hm2 := two_le_mark (ds.length + 1) (by rw [res_deep] at hr; omega)
    have h1p : 1 ≤ res (deep f k ds) := by rw [res_deep]; omega
    have ha := ancestor_of_enc_bounds hp' hq h1p (by omega)
      (by simp only [lo]; omega) (by simp only [hi]; omega)
    have := mem_descend_of_ancestor (n := 1) hq (by omega) ha.2
    rwa [descend_one] at this

/-- a cell with at least one digit (resolution ≥ 2): `c₀ < c₁ < parent < c₂ < c₃`, the parent exactly in
the middle: `c₁ + mark = parent`, `parent + mark = c₂` (mark = marker of the children) -/
theorem enc_children_order_deep (f k : Nat) (ds : List Nat) (h1 : 1 ≤ ds.length) (hl : ds.length ≤ 27) :
    enc (child (deep f k ds) 0) < enc (child (deep f k ds) 1) ∧
    enc (child (deep f k ds) 1) + mark (ds.length + 1) = enc (deep f k ds) ∧
    enc (deep f k ds) + mark (ds.length + 1) = enc (child (deep f k ds) 2) ∧
    enc (child (deep f k ds) 2) < enc (child (deep f k ds) 3) := by
  rw [enc_child_deep _ _ _ _ (by omega), enc_child_deep _ _ _ _ (by omega), enc_child_deep _ _ _ _ (by omega),
    enc_child_deep _ _ _ _ (by omega), enc_eq_base_add_mark]
  have h2 := mark_pos_eq ds.length h1 (by omega)
  have h3 := two_mark_eq_W (ds.length + 1) (by omega) (by omega)
  have h4 := W_pos (ds.length + 1)
  omega

/-- a quintant (resolution 1): `c₀ < parent < c₁ < c₂ < c₃`, `c₀ + mark = parent`, `parent + mark = c₁` -/
theorem enc_children_order_quintant (f k : Nat) :
    enc (child (deep f k []) 0) + mark 1 = enc (deep f k []) ∧
    enc (deep f k []) + mark 1 = enc (child (deep f k []) 1) ∧
    enc (child (deep f k []) 1) < enc (child (deep f k []) 2) ∧
    enc (child (deep f k []) 2) < enc (child (deep f k []) 3) := by
  rw [enc_child_deep _ _ _ _ (by simp), enc_child_deep _ _ _ _ (by simp), enc_child_deep _ _ _ _ (by simp),
    enc_child_deep _ _ _ _ (by simp), enc_eq_base_add_mark]
  simp only [List.length_nil, Nat.zero_add]
  have h2 := mark_zero_W
  have h3 := two_mark_eq_W 1 (by omega) (by omega)
  have h4 := W_pos 1
  omega

theorem parent_between_children (p : Path) (hp : WF p) (h1 : 1 ≤ res p) (hr : res p ≤ 28) :
    enc (child p 0) < enc p ∧ enc p < enc (child p 3) := by
  obtain ⟨f, k, ds, rfl⟩ := exists_deep_of_res h1
  rw [res_deep] at hr
  by_cases h0 : ds.length = 0
  · have : ds = [] := List.eq_nil_of_length_eq_zero h0
    subst this
    have := enc_children_order_quintant f k
    have := two_le_mark 1 (by omega)
    omega
  · have := enc_children_order_deep f k ds (by omega) (by omega)
    have := two_le_mark (ds.length + 1) (by omega)
    omega

/-- a face: face 0 lies between its quintants 0 and 1; every other face precedes all of its quintants -/
theorem enc_children_order_face (f : Nat) :
    (f = 0 → enc (child (face f) 0) < enc (face f) ∧ enc (face f) < enc (child (face f) 1)) ∧
    (1 ≤ f → enc (face f) < enc (child (face f) 0)) := by
  rw [enc_child_face, enc_child_face, enc_face]
  constructor
  · intro h; subst h; omega
  · intro h; omega

theorem child_inj (p : Path) (j j' : Nat) (h : child p j = child p j') : j = j' := by
  cases p with
  | world => simp only [child] at h; injection h
  | face f => simp only [child] at h; injection h
  | deep f k ds =>
    simp only [child] at h
    injection h with _ _ h
    have := List.append_cancel_left h
    injection this

theorem face_interval (f : Nat) (q : Path) (hq : WF q) (hq1 : 1 ≤ res q) :
    ancestorAt q 0 = face f ↔ (lo (face f) ≤ enc q ∧ enc q ≤ hi (face f)) := by
  obtain ⟨f', k', es, rfl⟩ := exists_deep_of_res hq1
  obtain ⟨_, hk', hd', hl'⟩ := hq
  have hq58 := tail_bounds 0 es hd' (by omega)
  rw [Nat.zero_add, W_zero] at hq58
  rw [ancestorAt_deep_zero, enc_deep]
  simp only [lo, hi]
  constructor
  · intro h; injection h with h; subst h; omega
  · intro h
    have : f' = f := by omega
    rw [this]

theorem face_not_in_block (f k : Nat) (ds : List Nat) (hp : WF (deep f k ds)) (h1 : 1 ≤ ds.length) (f' : Nat) :
    ¬ (lo (deep f k ds) ≤ enc (face f') ∧ enc (face f') ≤ hi (deep f k ds)) := by
  obtain ⟨_, _, hd, hl⟩ := hp
  rintro ⟨h2, h3⟩
  simp only [lo, hi, blockBase] at h2 h3
  rw [enc_face] at h2 h3
  have hW := four_le_W ds.length hl
  have hp58 := value_mul_W_le ds hd (by omega)
  have hT : 5 * f + k = f' := by omega
  subst hT
  -- 2^57 = 2·W 1 is a multiple of W |ds|
  have hc := W_add 1 (ds.length - 1) (by omega)
  have e1 : 1 + (ds.length - 1) = ds.length := by omega
  rw [e1] at hc
  have h57 : 2 ^ 57 = (2 * 4 ^ (ds.length - 1)) * W ds.length := by
    rw [Nat.mul_assoc, ← hc]; rfl
  have := block_unique (W ds.length) (value ds) (2 * 4 ^ (ds.length - 1)) 0 (by omega) (by omega) (W_pos _)
  rw [this] at h57
  omega

theorem value_replicate_zero (m : Nat) : value (List.replicate m 0) = 0 := by
  induction m with
  | zero => rfl
  | succ m ih => rw [List.replicate_succ, value_cons, ih]; simp

theorem value_replicate_three (m : Nat) : value (List.replicate m 3) + 1 = 4 ^ m := by
  induction m with
  | zero => rfl
  | succ m ih => rw [List.replicate_succ, value_cons, List.length_replicate, Nat.pow_succ]; omega

theorem mark_28 : mark 28 = 2 := rfl
theorem W_28 : W 28 = 4 := rfl

theorem lo_attained (f k : Nat) (ds : List Nat) (hl : ds.length ≤ 28) :
    enc (deep f k (ds ++ List.replicate (28 - ds.length) 0)) = lo (deep f k ds) := by
  rw [enc_append f k ds _ (by rw [List.length_replicate]; omega), value_replicate_zero, List.length_replicate]
  have : ds.length + (28 - ds.length) = 28 := by omega
  rw [this, mark_28]
  simp only [lo]; omega

theorem hi_attained (f k : Nat) (ds : List Nat) (hl : ds.length ≤ 28) :
    enc (deep f k (ds ++ List.replicate (28 - ds.length) 3)) = hi (deep f k ds) := by
  rw [enc_append f k ds _ (by rw [List.length_replicate]; omega), List.length_replicate]
  have e : ds.length + (28 - ds.length) = 28 := by omega
  have h1 := value_replicate_three (28 - ds.length)
  have h2 := W_add ds.length (28 - ds.length) (by omega)
  rw [e] at h2 ⊢
  rw [mark_28, W_28]
  rw [W_28, ← h1, Nat.add_mul] at h2
  simp only [hi]; omega

end A5.Order
