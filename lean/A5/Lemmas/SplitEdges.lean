import A5.Model.SplitG
import A5.Lemmas.BoundarySkel
import A5.Lemmas.PlacedPentagon
import Mathlib.Algebra.BigOperators.Group.Finset.Basic
import Mathlib.Algebra.Order.Field.Basic
import Mathlib.Algebra.Order.Field.Rat
import Mathlib.Tactic.Ring
import Mathlib.Tactic.Linarith
import Mathlib.Tactic.FieldSimp
/-! # `split_edges` does not change the polygon (exact arithmetic)

`cell_to_boundary` subdivides every edge of the planar cell polygon into `n` segments (`PentagonShape::split_edges`,
model `polySplitEdges`, generic twin `splitEdgesG` in `A5/Model/SplitG.lean`) and passes the point list through
`PentagonShape::from_vertices` (`polyNew`).  Over an arbitrary field of characteristic zero, for EVERY polygon (any
length) and every `n ≥ 1`:

the split list has `length * n` points with vertex `i` at index `i * n` (any scalar type); every point lies on its edge;
the trapezoid sum `areaG` is unchanged (`area_split`: the terms of collinear sub-segments telescope), hence `from_vertices`
takes the same branch on both; and over an ordered field every `contains_point` cross product of the split ring with a
point is `1/n` times that of the edge it lies on, so a point inside with margin `μ` stays inside with margin `μ / n`.

Instantiated at `ℚ` for the cell pentagons `placedQ a s m` (`placedQ_split`) and the quintant triangle
(`triQ_split`).  `polySplitEdges_tie` is the tie to the `Float` model with `polyNewG`.

NOT proved here: nothing about the rounded `f64` evaluation - in `f64` the inserted points are only approximately
collinear, so the `Float` trapezoid sum of the split ring differs from the pentagon's by rounding; the statements are
about the exact-arithmetic twin evaluated on the same inputs. -/
namespace A5.PG
open A5

section structure_
variable {α : Type} [Add α] [Sub α] [Mul α] [Div α]

theorem corners_split_getD (ofNat : Nat → α) (zero : α) (vs : List (α × α)) (n i : Nat) (hn : 1 ≤ n)
    (hi : i < vs.length) (d : α × α) :
    (splitEdgesG ofNat zero vs n).getD (i * n) d = vs.getD i d := by
  rewrite [List.getD_eq_getElem?_getD, List.getD_eq_getElem?_getD, corners_split ofNat zero vs n i hn hi]
  rfl

theorem split_index (L n k : Nat) (hk : k < L * n) : ∃ i j, i < L ∧ j < n ∧ k = i * n + j := by
  have hn : 0 < n := by
    cases n with
    | zero => rewrite [Nat.mul_zero] at hk; omega
    | succ n => omega
  refine ⟨k / n, k % n, ?_, Nat.mod_lt _ hn, (Nat.div_add_mod' k n).symm⟩
  exact Nat.div_lt_of_lt_mul (by rewrite [Nat.mul_comm]; exact hk)

/-- after `from_vertices` (generic twin `polyNewG`) corner `i` sits at index `i·n` when the winding test passes -/
theorem corners_polyNewG_split [LE α] [DecidableLE α] (ofNat : Nat → α) (zero : α) (vs : List (α × α)) (n i : Nat)
    (hn : 1 ≤ n) (hi : i < vs.length) (hw : zero ≤ areaG zero (splitEdgesG ofNat zero vs n)) :
    (polyNewG zero (splitEdgesG ofNat zero vs n))[i * n]? = vs[i]? := by
  unfold polyNewG
  rewrite [if_pos hw]
  exact corners_split ofNat zero vs n i hn hi

end structure_

/-- **tie**: `split_edges` is the polygon itself for `n ≤ 1`, else `from_vertices` (generic twin `polyNewG`) of the
generic point list, evaluated at `Float` (structure only) -/
theorem polySplitEdges_tie (vs : Poly) (n : Nat) :
    (polySplitEdges vs n).map toPair =
      if n ≤ 1 then vs.map toPair
      else polyNewG (0.0 : Float) (splitEdgesG Float.ofNat (0.0 : Float) (vs.map toPair) n) := by
  rewrite [polySplitEdges_eq_splitPtsF]
  by_cases h : n ≤ 1
  · rewrite [if_pos h, if_pos h]; rfl
  · rewrite [if_neg h, if_neg h, polyNew_tie, splitPts_tie]; rfl

/-- for `n ≤ 1` the generic point list is the polygon, so the tie has a single form whenever `polyNewG` keeps the
polygon (which is what `placedQ_facts` proves in exact arithmetic for the cell pentagons) -/
theorem polySplitEdges_tie' (vs : Poly) (n : Nat)
    (hkeep : n ≤ 1 → polyNewG (0.0 : Float) (vs.map toPair) = vs.map toPair) :
    (polySplitEdges vs n).map toPair =
      polyNewG (0.0 : Float) (splitEdgesG Float.ofNat (0.0 : Float) (vs.map toPair) n) := by
  rewrite [polySplitEdges_tie]
  by_cases h : n ≤ 1
  · rewrite [if_pos h, splitEdgesG_le_one _ _ _ _ h, hkeep h]; rfl
  · rewrite [if_neg h]; rfl

section field
variable {K : Type} [Field K]

def trapG (p q : K × K) : K := (q.1 - p.1) * (q.2 + p.2)

theorem areaG_eq_sum (vs : List (K × K)) :
    areaG 0 vs = ∑ i ∈ Finset.range vs.length, trapG (vs.getD i (0, 0)) (vs.getD ((i + 1) % vs.length) (0, 0)) := by
  unfold areaG
  simp only []
  suffices h : ∀ m i (acc : K), areaG.go 0 vs vs.length m i acc =
      acc + ∑ k ∈ Finset.range m, trapG (vs.getD (i + k) (0, 0)) (vs.getD ((i + k + 1) % vs.length) (0, 0)) by
    rewrite [h]
    simp only [zero_add]
  intro m
  induction m with
  | zero => intro i acc; simp [areaG.go]
  | succ m ih =>
    intro i acc
    unfold areaG.go
    simp only []
    rewrite [ih, Finset.sum_range_succ']
    simp only [Nat.add_zero, trapG]
    have e : ∀ k, i + 1 + k = i + (k + 1) := by intro k; omega
    simp only [e]
    ring

theorem sum_range_mul (f : ℕ → K) (L n : ℕ) :
    ∑ k ∈ Finset.range (L * n), f k = ∑ i ∈ Finset.range L, ∑ j ∈ Finset.range n, f (i * n + j) := by
  induction L with
  | zero => simp
  | succ L ih => rewrite [Nat.succ_mul, Finset.sum_range_add, ih, Finset.sum_range_succ]; rfl

variable [CharZero K]

omit [CharZero K] in
theorem lerpG_zero (a b : K × K) : lerpG (0 : K) a b = a := by
  simp [lerpG]

omit [CharZero K] in
theorem lerpG_one (a b : K × K) : lerpG (1 : K) a b = b := by
  simp [lerpG]

omit [CharZero K] in
theorem split_getD (vs : List (K × K)) (n i j : ℕ) (hn : 1 ≤ n) (hi : i < vs.length) (hj : j < n) :
    (splitEdgesG (Nat.cast : ℕ → K) 0 vs n).getD (i * n + j) (0, 0) =
      lerpG ((j : K) / (n : K)) (vs.getD i (0, 0)) (vs.getD ((i + 1) % vs.length) (0, 0)) := by
  rewrite [List.getD_eq_getElem?_getD, splitEdgesG_getElem? _ _ vs n i j hn hi hj, splitEdgeG_interior]
  cases j with
  | zero =>
    rewrite [List.getElem?_cons_zero]
    simp [lerpG]
  | succ j =>
    rewrite [List.getElem?_cons_succ, List.getElem?_map, List.getElem?_range (by omega)]
    rfl

/-- the cyclic successor of index `i * n + j` in the split list is `v_i + ((j+1)/n) (v_{i+1} - v_i)` (for `j + 1 = n`
this is the next vertex) -/
theorem split_getD_next (vs : List (K × K)) (n i j : ℕ) (hn : 1 ≤ n) (hi : i < vs.length) (hj : j < n) :
    (splitEdgesG (Nat.cast : ℕ → K) 0 vs n).getD ((i * n + j + 1) % (vs.length * n)) (0, 0) =
      lerpG (((j + 1 : ℕ) : K) / (n : K)) (vs.getD i (0, 0)) (vs.getD ((i + 1) % vs.length) (0, 0)) := by
  have hn0 : (n : K) ≠ 0 := Nat.cast_ne_zero.2 (by omega)
  have hle : (i + 1) * n ≤ vs.length * n := Nat.mul_le_mul_right n hi
  rewrite [Nat.succ_mul] at hle
  by_cases hj1 : j + 1 < n
  · rewrite [Nat.mod_eq_of_lt (by omega), Nat.add_assoc]
    exact split_getD vs n i (j + 1) hn hi hj1
  · have hjn : j + 1 = n := by omega
    rewrite [hjn, div_self hn0, lerpG_one]
    have e : i * n + j + 1 = (i + 1) * n := by rewrite [Nat.succ_mul]; omega
    rewrite [e]
    by_cases hi1 : i + 1 < vs.length
    · have hlt : (i + 1) * n < vs.length * n := Nat.mul_lt_mul_of_pos_right hi1 (by omega)
      rewrite [Nat.mod_eq_of_lt hlt, Nat.mod_eq_of_lt hi1]
      have h := split_getD vs n (i + 1) 0 hn hi1 (by omega)
      rewrite [Nat.add_zero] at h
      rewrite [h]
      simp [lerpG]
    · have hiL : i + 1 = vs.length := by omega
      rewrite [hiL, Nat.mod_self, Nat.mod_self]
      have h := split_getD vs n 0 0 hn (by omega) (by omega)
      rewrite [Nat.zero_mul, Nat.add_zero] at h
      rewrite [h]
      simp [lerpG]

omit [CharZero K] in
theorem split_points_on_edges (vs : List (K × K)) (n k : ℕ) (hk : k < vs.length * n) :
    (splitEdgesG (Nat.cast : ℕ → K) 0 vs n).getD k (0, 0) =
      lerpG (((k % n : ℕ) : K) / (n : K)) (vs.getD (k / n) (0, 0)) (vs.getD ((k / n + 1) % vs.length) (0, 0)) ∧
    k / n < vs.length ∧ k % n < n := by
  have hn : 1 ≤ n := by
    cases n with
    | zero => rewrite [Nat.mul_zero] at hk; omega
    | succ n => omega
  have hi : k / n < vs.length := Nat.div_lt_of_lt_mul (by rewrite [Nat.mul_comm]; exact hk)
  have hj : k % n < n := Nat.mod_lt _ (by omega)
  refine ⟨?_, hi, hj⟩
  have h := split_getD vs n (k / n) (k % n) hn hi hj
  rewrite [Nat.div_add_mod'] at h
  exact h

omit [CharZero K] in
theorem trap_partial (a b : K × K) (d : K) (m : ℕ) :
    ∑ j ∈ Finset.range m, trapG (lerpG ((j : K) * d) a b) (lerpG (((j + 1 : ℕ) : K) * d) a b) =
      ((m : K) * d) * (b.1 - a.1) * (2 * a.2 + ((m : K) * d) * (b.2 - a.2)) := by
  induction m with
  | zero => simp
  | succ m ih =>
    rewrite [Finset.sum_range_succ, ih]
    simp only [trapG, lerpG]
    push_cast
    ring

/-- collinear points contribute nothing: the trapezoid terms of the `n` sub-segments of an edge add up to the term of
the edge -/
theorem trap_telescope (a b : K × K) (n : ℕ) (hn : 1 ≤ n) :
    ∑ j ∈ Finset.range n, trapG (lerpG ((j : K) / (n : K)) a b) (lerpG (((j + 1 : ℕ) : K) / (n : K)) a b) =
      trapG a b := by
  have hn0 : (n : K) ≠ 0 := Nat.cast_ne_zero.2 (by omega)
  simp only [div_eq_mul_inv]
  rewrite [trap_partial a b _ n, mul_inv_cancel₀ hn0]
  simp only [trapG]
  ring

theorem area_split (vs : List (K × K)) (n : ℕ) (hn : 1 ≤ n) :
    areaG 0 (splitEdgesG (Nat.cast : ℕ → K) 0 vs n) = areaG 0 vs := by
  rewrite [areaG_eq_sum, areaG_eq_sum, splitEdgesG_length _ _ vs n hn, sum_range_mul]
  refine Finset.sum_congr rfl ?_
  intro i hi
  have hi : i < vs.length := Finset.mem_range.1 hi
  rewrite [← trap_telescope _ _ n hn]
  refine Finset.sum_congr rfl ?_
  intro j hj
  have hj : j < n := Finset.mem_range.1 hj
  rewrite [split_getD vs n i j hn hi hj, split_getD_next vs n i j hn hi hj]
  rfl

end field

section ordered
variable {K : Type} [Field K] [LinearOrder K] [IsStrictOrderedRing K]

/-- the winding test gives the same answer on the split list, so `from_vertices` acts the same way on both -/
theorem windingCorrectG_split (vs : List (K × K)) (n : ℕ) (hn : 1 ≤ n) :
    WindingCorrectG 0 (splitEdgesG (Nat.cast : ℕ → K) 0 vs n) ↔ WindingCorrectG 0 vs := by
  unfold WindingCorrectG
  rewrite [area_split vs n hn]
  exact Iff.rfl

theorem polyNewG_split_keep (vs : List (K × K)) (n : ℕ) (hn : 1 ≤ n) (hw : 0 ≤ areaG 0 vs) :
    polyNewG 0 (splitEdgesG (Nat.cast : ℕ → K) 0 vs n) = splitEdgesG (Nat.cast : ℕ → K) 0 vs n ∧
    ∀ i, i < vs.length → (polyNewG 0 (splitEdgesG (Nat.cast : ℕ → K) 0 vs n))[i * n]? = vs[i]? := by
  have h : polyNewG 0 (splitEdgesG (Nat.cast : ℕ → K) 0 vs n) = splitEdgesG (Nat.cast : ℕ → K) 0 vs n := by
    unfold polyNewG; rewrite [area_split vs n hn, if_pos hw]; rfl
  refine ⟨h, ?_⟩
  intro i hi
  rewrite [h]
  exact corners_split _ _ vs n i hn hi

omit [LinearOrder K] [IsStrictOrderedRing K] in
theorem crossG_lerp (a b x y : K × K) (t : K) :
    crossG a b (lerpG t x y) = (1 - t) * crossG a b x + t * crossG a b y := by
  simp only [crossG, lerpG]; ring

omit [LinearOrder K] [IsStrictOrderedRing K] in
theorem crossG_self_left (a b : K × K) : crossG a b a = 0 := by simp only [crossG]; ring
omit [LinearOrder K] [IsStrictOrderedRing K] in
theorem crossG_self_right (a b : K × K) : crossG a b b = 0 := by simp only [crossG]; ring

omit [LinearOrder K] [IsStrictOrderedRing K] in
theorem crossG_subsegment (a b p : K × K) (s t : K) :
    crossG (lerpG s a b) (lerpG t a b) p = (t - s) * crossG a b p := by
  simp only [crossG, lerpG]; ring

/-- weak convexity in index form: every vertex is on the inner side (`≥ 0`) of every edge -/
def WeaklyConvex (vs : List (K × K)) : Prop :=
  ∀ e j, e < vs.length → j < vs.length →
    0 ≤ crossG (vs.getD e (0, 0)) (vs.getD ((e + 1) % vs.length) (0, 0)) (vs.getD j (0, 0))

omit [IsStrictOrderedRing K] in
theorem ConvexBy.weakly {μ : K} (hμ : 0 ≤ μ) {vs : List (K × K)} (h : ConvexBy 0 μ vs) : WeaklyConvex vs := by
  intro e j he hj
  by_cases h1 : j = e
  · rewrite [h1, crossG_self_left]; exact le_refl _
  by_cases h2 : j = (e + 1) % vs.length
  · rewrite [h2, crossG_self_right]; exact le_refl _
  exact le_of_lt (lt_of_le_of_lt hμ ((convexBy_iff 0 μ vs).1 h e j he hj h1 h2))

theorem split_cross_nonneg (vs : List (K × K)) (n k e : ℕ) (hc : WeaklyConvex vs) (hk : k < vs.length * n)
    (he : e < vs.length) :
    0 ≤ crossG (vs.getD e (0, 0)) (vs.getD ((e + 1) % vs.length) (0, 0))
      ((splitEdgesG (Nat.cast : ℕ → K) 0 vs n).getD k (0, 0)) := by
  obtain ⟨hpt, hi, hj⟩ := split_points_on_edges vs n k hk
  have hL : 0 < vs.length := by omega
  have hn : (0 : K) < (n : K) := Nat.cast_pos.2 (by omega)
  rewrite [hpt, crossG_lerp]
  have ht0 : (0 : K) ≤ ((k % n : ℕ) : K) / (n : K) := div_nonneg (Nat.cast_nonneg _) (le_of_lt hn)
  have ht1 : ((k % n : ℕ) : K) / (n : K) ≤ 1 := by
    rewrite [div_le_one hn]
    exact Nat.cast_le.2 (le_of_lt hj)
  have h1 := hc e (k / n) he hi
  have h2 := hc e ((k / n + 1) % vs.length) he (Nat.mod_lt _ hL)
  exact add_nonneg (mul_nonneg (sub_nonneg.2 ht1) h1) (mul_nonneg ht0 h2)

theorem crossesG_split_getD (vs : List (K × K)) (p : K × K) (n i j : ℕ) (hn : 1 ≤ n) (hi : i < vs.length) (hj : j < n) :
    crossG ((splitEdgesG (Nat.cast : ℕ → K) 0 vs n).getD (i * n + j) (0, 0))
        ((splitEdgesG (Nat.cast : ℕ → K) 0 vs n).getD ((i * n + j + 1) % (vs.length * n)) (0, 0)) p =
      (1 / (n : K)) * crossG (vs.getD i (0, 0)) (vs.getD ((i + 1) % vs.length) (0, 0)) p := by
  have hn0 : (n : K) ≠ 0 := Nat.cast_ne_zero.2 (by omega)
  rewrite [split_getD vs n i j hn hi hj, split_getD_next vs n i j hn hi hj, crossG_subsegment]
  refine congrArg (· * _) ?_
  push_cast
  field_simp
  ring

theorem insideBy_split {μ : K} (vs : List (K × K)) (p : K × K) (n : ℕ) (hn : 1 ≤ n) (h : InsideBy 0 μ vs p) :
    InsideBy 0 (μ / (n : K)) (splitEdgesG (Nat.cast : ℕ → K) 0 vs n) p := by
  rewrite [insideBy_iff] at h ⊢
  rewrite [splitEdgesG_length _ _ vs n hn]
  intro k hk
  obtain ⟨i, j, hi, hj, rfl⟩ := split_index vs.length n k hk
  have hn0 : (0 : K) < (n : K) := Nat.cast_pos.2 (by omega)
  rewrite [crossesG_split_getD vs p n i j hn hi hj, div_eq_mul_one_div, mul_comm μ]
  exact mul_lt_mul_of_pos_left (h i hi) (one_div_pos.2 hn0)

theorem strictlyInside_split (vs : List (K × K)) (p : K × K) (n : ℕ) (hn : 1 ≤ n) (h : StrictlyInside 0 vs p) :
    StrictlyInside 0 (splitEdgesG (Nat.cast : ℕ → K) 0 vs n) p := by
  have h' := insideBy_split vs p n hn h
  rewrite [zero_div] at h'
  exact h'

/-- everything at once, for a polygon that `from_vertices` keeps (`0 < areaG`), convex with a margin `ν ≥ 0`, and a
point `c` inside with margin `μ` -/
theorem split_facts (vs : List (K × K)) (c : K × K) {μ ν : K} (n : ℕ) (hn : 1 ≤ n) (hpos : 0 < areaG 0 vs)
    (hin : InsideBy 0 μ vs c) (hcv : ConvexBy 0 ν vs) (hν : 0 ≤ ν) :
    (splitEdgesG (Nat.cast : ℕ → K) 0 vs n).length = vs.length * n ∧
    areaG 0 (splitEdgesG (Nat.cast : ℕ → K) 0 vs n) = areaG 0 vs ∧
    polyNewG 0 (splitEdgesG (Nat.cast : ℕ → K) 0 vs n) = splitEdgesG (Nat.cast : ℕ → K) 0 vs n ∧
    (∀ i, i < vs.length → (splitEdgesG (Nat.cast : ℕ → K) 0 vs n)[i * n]? = vs[i]? ∧
      (polyNewG 0 (splitEdgesG (Nat.cast : ℕ → K) 0 vs n))[i * n]? = vs[i]?) ∧
    InsideBy 0 (μ / (n : K)) (splitEdgesG (Nat.cast : ℕ → K) 0 vs n) c ∧
    (∀ k e, k < vs.length * n → e < vs.length →
      0 ≤ crossG (vs.getD e (0, 0)) (vs.getD ((e + 1) % vs.length) (0, 0))
        ((splitEdgesG (Nat.cast : ℕ → K) 0 vs n).getD k (0, 0))) := by
  obtain ⟨hkeep, hcorn⟩ := polyNewG_split_keep vs n hn (le_of_lt hpos)
  exact ⟨splitEdgesG_length _ _ vs n hn, area_split vs n hn, hkeep,
    fun i hi => ⟨corners_split _ _ vs n i hn hi, hcorn i hi⟩, insideBy_split vs c n hn hin,
    fun k e hk he => split_cross_nonneg vs n k e (hcv.weakly hν) hk he⟩

end ordered

/-- the split ring of the placed pentagon: what `cell_to_boundary` feeds to `from_vertices` inside `split_edges`,
exact arithmetic -/
def splitQ (vs : List (Rat × Rat)) (n : ℕ) : List (Rat × Rat) := splitEdgesG (Nat.cast : ℕ → Rat) 0 vs n

/-- `split_facts` for the cell pentagons: every anchor with a `±1` flip pair, every scale `s > 0`, every matrix of
positive determinant, every `n ≥ 1`; the margin of the centre is `0.096 det m s² / n` -/
theorem placedQ_split (a : Anchor) (hF : HilbertLocate.IsFlip a.flips) (s : Rat) (hs : 0 < s)
    (m : Rat × Rat × Rat × Rat) (hd : 0 < detG m) (n : ℕ) (hn : 1 ≤ n) :
    (splitQ (placedQ a s m) n).length = 5 * n ∧
    areaG 0 (splitQ (placedQ a s m) n) = areaG 0 (placedQ a s m) ∧
    areaG 0 (splitQ (placedQ a s m) n) = detG m * (s * s) * areaG 0 seedQ ∧
    0 < areaG 0 (splitQ (placedQ a s m) n) ∧
    polyNewG 0 (splitQ (placedQ a s m) n) = splitQ (placedQ a s m) n ∧
    (∀ i, i < 5 → (splitQ (placedQ a s m) n)[i * n]? = (placedQ a s m)[i]? ∧
      (polyNewG 0 (splitQ (placedQ a s m) n))[i * n]? = (polyNewG 0 (placedQ a s m))[i]?) ∧
    InsideBy 0 (detG m * (s * s) * (96 / 1000) / (n : Rat)) (splitQ (placedQ a s m) n) (centreG 0 5 (placedQ a s m)) ∧
    (∀ k e, k < 5 * n → e < 5 →
      0 ≤ crossG ((placedQ a s m).getD e (0, 0)) ((placedQ a s m).getD ((e + 1) % 5) (0, 0))
        ((splitQ (placedQ a s m) n).getD k (0, 0))) := by
  obtain ⟨harea, hpos, hnew, _, hin, hcv⟩ := placedQ_facts a hF s hs m hd
  have hκ : 0 < detG m * (s * s) := mul_pos hd (mul_pos hs hs)
  obtain ⟨h1, hA, hkeep, hcorn, hins, hside⟩ :=
    split_facts (placedQ a s m) _ n hn hpos hin hcv (le_of_lt (mul_pos hκ (by norm_num)))
  have hlen : (placedQ a s m).length = 5 := by
    unfold placedQ transformG scaleG'
    rewrite [List.length_map, List.length_map]
    exact pentagonQ_length a
  rewrite [hlen] at h1 hcorn hside
  unfold splitQ
  rewrite [hnew, hA]
  exact ⟨h1, rfl, harea, hpos, hkeep, hcorn, hins, hside⟩

/-- the same for the quintant triangle under any matrix of positive determinant (resolution 1 cells) -/
theorem triQ_split (m : Rat × Rat × Rat × Rat) (hd : 0 < detG m) (n : ℕ) (hn : 1 ≤ n) :
    (splitQ (transformG m triQ) n).length = 3 * n ∧
    areaG 0 (splitQ (transformG m triQ) n) = areaG 0 (transformG m triQ) ∧
    0 < areaG 0 (splitQ (transformG m triQ) n) ∧
    polyNewG 0 (splitQ (transformG m triQ) n) = splitQ (transformG m triQ) n ∧
    (∀ i, i < 3 → (polyNewG 0 (splitQ (transformG m triQ) n))[i * n]? = (polyNewG 0 (transformG m triQ))[i]?) ∧
    InsideBy 0 (detG m * (18 / 100) / (n : Rat)) (splitQ (transformG m triQ) n) (centreG 0 3 (transformG m triQ)) ∧
    (∀ k e, k < 3 * n → e < 3 →
      0 ≤ crossG ((transformG m triQ).getD e (0, 0)) ((transformG m triQ).getD ((e + 1) % 3) (0, 0))
        ((splitQ (transformG m triQ) n).getD k (0, 0))) := by
  obtain ⟨hpos, hnew, hin, hcv⟩ := triQ_transform m hd
  obtain ⟨h1, hA, hkeep, hcorn, hins, hside⟩ :=
    split_facts (transformG m triQ) _ n hn hpos hin hcv (le_of_lt (mul_pos hd (by norm_num)))
  rewrite [show (transformG m triQ).length = 3 from rfl] at h1 hcorn hside
  unfold splitQ
  rewrite [hnew, hA]
  exact ⟨h1, rfl, hpos, hkeep, fun i hi => (hcorn i hi).2, hins, hside⟩

/-- the unit square cut into thirds: 12 points, corners at 0, 3, 6, 9.  (The trapezoid sum `Σ (x' - x)(y' + y)` is
MINUS twice the usual signed area: the library's "winding correct" polygons have a non-negative sum.) -/
example : splitQ [(0, 0), (1, 0), (1, 1), (0, 1)] 3 =
    [(0, 0), (1 / 3, 0), (2 / 3, 0), (1, 0), (1, 1 / 3), (1, 2 / 3), (1, 1), (2 / 3, 1), (1 / 3, 1), (0, 1),
     (0, 2 / 3), (0, 1 / 3)] := by decide +kernel
example : areaG 0 (splitQ [(0, 0), (1, 0), (1, 1), (0, 1)] 3) = -2 ∧
    areaG 0 [((0 : Rat), (0 : Rat)), (1, 0), (1, 1), (0, 1)] = -2 := by
  decide +kernel
example : areaG 0 (splitQ [(0, 0), (1, 0), (1, 1), (0, 1)] 3) = areaG 0 [((0 : Rat), (0 : Rat)), (1, 0), (1, 1), (0, 1)] :=
  area_split _ 3 (by omega)
/-- a polygon failing the winding test fails it after splitting: `from_vertices` reverses both; one passing it is kept -/
example : polyNewG 0 (splitQ [(0, 0), (1, 0), (1, 1), (0, 1)] 2) = (splitQ [(0, 0), (1, 0), (1, 1), (0, 1)] 2).reverse ∧
    polyNewG 0 (splitQ [(0, 0), (0, 1), (1, 1), (1, 0)] 2) = splitQ [(0, 0), (0, 1), (1, 1), (1, 0)] 2 := by
  decide +kernel
/-- a non-convex polygon (length, corner indices and area need no convexity): an L-shape, 5 segments per edge -/
example : areaG 0 (splitQ [(0, 0), (0, 2), (1, 2), (1, 1), (2, 1), (2, 0)] 5) = 6 ∧
    (splitQ [(0, 0), (0, 2), (1, 2), (1, 1), (2, 1), (2, 0)] 5)[15]? = some (1, 1) := by
  decide +kernel
/-- a concrete cell pentagon: resolution 3 (`s = 1/8`), a rational rotation (3-4-5), 4 segments per edge -/
example : 0 < areaG 0 (splitQ (placedQ ⟨2, (3, -7), (-1, 1)⟩ (1 / 8) (3 / 5, -(4 / 5), 4 / 5, 3 / 5)) 4) :=
  (placedQ_split _ (by simp [HilbertLocate.IsFlip]) _ (by norm_num) _ (by decide +kernel) 4 (by omega)).2.2.2.1
example : StrictlyInside 0 (splitQ (placedQ ⟨2, (3, -7), (-1, 1)⟩ (1 / 8) (3 / 5, -(4 / 5), 4 / 5, 3 / 5)) 4)
    (centreG 0 5 (placedQ ⟨2, (3, -7), (-1, 1)⟩ (1 / 8) (3 / 5, -(4 / 5), 4 / 5, 3 / 5))) := by
  have h := (placedQ_split ⟨2, (3, -7), (-1, 1)⟩ (by simp [HilbertLocate.IsFlip]) (1 / 8) (by norm_num)
    (3 / 5, -(4 / 5), 4 / 5, 3 / 5) (by decide +kernel) 4 (by omega)).2.2.2.2.2.2.1
  exact h.strictly (by decide +kernel)
/-- cross-check of `placedQ_split` by direct kernel evaluation on that pentagon -/
example :
    let P := placedQ ⟨2, (3, -7), (-1, 1)⟩ (1 / 8) (3 / 5, -(4 / 5), 4 / 5, 3 / 5)
    areaG 0 (splitQ P 4) = areaG 0 P ∧ polyNewG 0 (splitQ P 4) = splitQ P 4 ∧
      (splitQ P 4)[0]? = P[0]? ∧ (splitQ P 4)[4]? = P[1]? ∧ (splitQ P 4)[16]? = P[4]? ∧
      ∀ c ∈ crossesG 0 (splitQ P 4) (centreG 0 5 P), 0 < c := by
  decide +kernel

end A5.PG
