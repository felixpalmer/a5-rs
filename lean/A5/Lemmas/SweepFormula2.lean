import A5.Lemmas.SweepFormula
/-! # C16 — the polar area-sweep formula and the pointwise equal-area identity (part 2 of 3)

Part 1 differentiates the code's area `E(q) = area(a, b, p(q))` and the apex angle `ψ(q)` along the edge.  Here the edge is
re-parametrised by the apex angle itself: `edgeArcR a b d ψ` is the arc `q` at which the great circle meets the meridian of
apex angle `ψ`, so that (3) `sweep_formula`: `W(ψ) = area(a, b, p(edgeArcR ψ))` has `W′(ψ) = 1 − cos ∠(a, p(edgeArcR ψ))` —
the hypothesis of `jacobian_polar` (`A5.C16.equal_area_jacobian_polar`) for the code's own area function; (4)
`equal_area_pointwise` is its conclusion with that hypothesis discharged, `equal_area_pointwise_edge` the same at every
point of the far edge of a triangle whose edge `b c` is shorter than a quarter circle.

Exact real arithmetic; nothing is claimed about floating-point rounding. -/
namespace A5.SweepFormula
open A5 Real Set Filter Topology A5.RadialRoundTrip A5.AngularRoundTrip

/-- arc from `b` to the point of the great circle `(b, d)` whose apex angle (about `a`, from `a b`) is `ψ`:
`tan ψ = T sin q / ((1 − u²) cos q − u w sin q)` (`azimuthR` with `GcFrame.facts`) solved for `tan q` -/
noncomputable def edgeArcR (a b d : R3) (ψ : ℝ) : ℝ :=
  Real.arctan (Real.sin ψ * (1 - dotR a b ^ 2) /
    (Real.cos ψ * tripleR a b d + Real.sin ψ * (dotR a b * dotR a d)))

theorem arctan_div_polar {N M : ℝ} (hM : 0 < M) :
    ∃ k : ℝ, 0 < k ∧ Real.cos (Real.arctan (N / M)) = k * M ∧ Real.sin (Real.arctan (N / M)) = k * N ∧
      k ^ 2 * (M ^ 2 + N ^ 2) = 1 := by
  have hc : 0 < Real.cos (Real.arctan (N / M)) := Real.cos_arctan_pos _
  have ht : Real.tan (Real.arctan (N / M)) = N / M := Real.tan_arctan _
  rw [Real.tan_eq_sin_div_cos, div_eq_div_iff hc.ne' hM.ne'] at ht
  have hsc := Real.sin_sq_add_cos_sq (Real.arctan (N / M))
  refine ⟨Real.cos (Real.arctan (N / M)) / M, div_pos hc hM, by field_simp, ?_, ?_⟩
  · field_simp; linarith
  · field_simp
    linear_combination M ^ 2 * hsc
      - (Real.cos (Real.arctan (N / M)) * N + Real.sin (Real.arctan (N / M)) * M) * ht

/-- the polynomial identity behind the sweep formula:
`M² + N² − (M u + N w)² = (1 − u²) T²` for `M = T cos ψ + u w sin ψ`, `N = (1 − u²) sin ψ`, `T² = 1 − u² − w²` -/
theorem edge_core {u w T s c : ℝ} (hT2 : T ^ 2 = 1 - u ^ 2 - w ^ 2) (hsc : s ^ 2 + c ^ 2 = 1) :
    (c * T + s * (u * w)) ^ 2 + (s * (1 - u ^ 2)) ^ 2 - ((c * T + s * (u * w)) * u + s * (1 - u ^ 2) * w) ^ 2
      = (1 - u ^ 2) * T ^ 2 := by
  linear_combination (-(1 - u ^ 2) * s ^ 2) * hT2 + (1 - u ^ 2) * T ^ 2 * hsc

namespace GcFrame
variable {a b d : R3} (F : GcFrame a b d)
include F

/-- the apex never lies on the great circle `(b, d)` when `T ≠ 0`: `(a·p)² ≤ u² + w² = 1 − T² < 1` -/
theorem dot_sq_lt_one (hT : tripleR a b d ≠ 0) (q : ℝ) : dotR a (gcPoint b d q) ^ 2 < 1 := by
  have h := F.triple_sq
  have h1 : 0 < tripleR a b d ^ 2 := by positivity
  have h2 := sq_nonneg (Real.cos q * dotR a d - Real.sin q * dotR a b)
  have e : (Real.cos q * dotR a b + Real.sin q * dotR a d) ^ 2
      = (dotR a b ^ 2 + dotR a d ^ 2) - (Real.cos q * dotR a d - Real.sin q * dotR a b) ^ 2 := by
    linear_combination (dotR a b ^ 2 + dotR a d ^ 2) * Real.sin_sq_add_cos_sq q
  rw [(F.facts q).2.1, e]
  linarith

theorem one_sub_u_sq_pos (hT : tripleR a b d ≠ 0) : 0 < 1 - dotR a b ^ 2 := by
  have h := F.dot_sq_lt_one hT 0
  rw [(F.facts 0).2.1, Real.cos_zero, Real.sin_zero, one_mul, zero_mul, add_zero] at h
  exact sub_pos.mpr h

/-- **the apex angle of `p (edgeArcR ψ)` is `ψ`** (counter-clockwise frame `T > 0`, `−π < ψ ≤ π`, and the
meridian `ψ` meets the great circle within a quarter circle of `b`: `T cos ψ + u w sin ψ > 0`). -/
theorem azimuth_gcPoint_edgeArc (hT : 0 < tripleR a b d) {ψ : ℝ} (hψ1 : -π < ψ) (hψ2 : ψ ≤ π)
    (hMq : 0 < Real.cos ψ * tripleR a b d + Real.sin ψ * (dotR a b * dotR a d)) :
    azimuthR a b (gcPoint b d (edgeArcR a b d ψ)) = ψ := by
  obtain ⟨_, hap, hbp, htr⟩ := F.facts (edgeArcR a b d ψ)
  have hu2 := F.one_sub_u_sq_pos hT.ne'
  obtain ⟨k, hk, hc, hs, _⟩ := arctan_div_polar (N := Real.sin ψ * (1 - dotR a b ^ 2)) hMq
  unfold azimuthR
  rw [hbp, hap, htr]
  unfold edgeArcR
  rw [hc, hs]
  convert atan2R_polar (r := k * (1 - dotR a b ^ 2) * tripleR a b d) (by positivity) hψ1 hψ2 using 2 <;> ring

theorem sin_half_angle_ne_zero (hT : tripleR a b d ≠ 0) (q : ℝ) : Real.sin (angleR a (gcPoint b d q) / 2) ≠ 0 := by
  obtain ⟨hang, _, _, hle⟩ := angleR_unit F.ha (F.facts q).1
  have hX := (abs_lt.mp ((sq_lt_one_iff_abs_lt_one _).mp (F.dot_sq_lt_one hT q))).2
  have hpos : 0 < angleR a (gcPoint b d q) := by rw [hang]; exact Real.arccos_pos.mpr hX
  exact (Real.sin_pos_of_pos_of_lt_pi (by linarith) (by linarith [Real.pi_pos])).ne'

end GcFrame

theorem hasDerivAt_edgeArc (a b d : R3) {ψ : ℝ}
    (hMq : 0 < Real.cos ψ * tripleR a b d + Real.sin ψ * (dotR a b * dotR a d)) :
    HasDerivAt (edgeArcR a b d)
      ((1 - dotR a b ^ 2) * tripleR a b d /
        ((Real.cos ψ * tripleR a b d + Real.sin ψ * (dotR a b * dotR a d)) ^ 2
          + (Real.sin ψ * (1 - dotR a b ^ 2)) ^ 2)) ψ := by
  have hN : HasDerivAt (fun x => Real.sin x * (1 - dotR a b ^ 2)) (Real.cos ψ * (1 - dotR a b ^ 2)) ψ :=
    (Real.hasDerivAt_sin ψ).mul_const _
  have hM : HasDerivAt (fun x => Real.cos x * tripleR a b d + Real.sin x * (dotR a b * dotR a d))
      (-Real.sin ψ * tripleR a b d + Real.cos ψ * (dotR a b * dotR a d)) ψ :=
    ((Real.hasDerivAt_cos ψ).mul_const _).add ((Real.hasDerivAt_sin ψ).mul_const _)
  have h := hasDerivAt_arctan_div hN hM hMq.ne'
  have hsc := Real.sin_sq_add_cos_sq ψ
  refine h.congr_deriv ?_
  congr 1
  linear_combination (1 - dotR a b ^ 2) * tripleR a b d * hsc

/-- the value of `E′(q) · q′(ψ)`: with `cos q = k M`, `sin q = k N`, `k² (M² + N²) = 1` and `X = a·p(q)` -/
theorem sweep_value {u w T M N k X : ℝ} (hcore : M ^ 2 + N ^ 2 - (M * u + N * w) ^ 2 = (1 - u ^ 2) * T ^ 2)
    (hM : 0 < M) (hk2 : k ^ 2 * (M ^ 2 + N ^ 2) = 1) (hX : X = k * M * u + k * N * w) (hX1 : 0 < 1 + X) :
    T / (1 + X) * ((1 - u ^ 2) * T / (M ^ 2 + N ^ 2)) = 1 - X := by
  have hR : 0 < M ^ 2 + N ^ 2 := by positivity
  rw [div_mul_div_comm, div_eq_iff (mul_pos hX1 hR).ne', hX]
  linear_combination (-1 : ℝ) * hcore + (M * u + N * w) ^ 2 * hk2

/-- **(3) The polar area-sweep formula for the code's area function.**  `a b d` unit, `b ⟂ d`, `T = a·(b×d)`.
`W(ψ) = area(a, b, P(ψ))`, `P(ψ) = p(edgeArcR ψ)` the point of the edge at apex angle `ψ`.  Then
`W′(ψ) = 1 − cos ∠(a, P(ψ))`.  Positivity hypotheses: `T cos ψ + u w sin ψ > 0` (`P(ψ)` within a quarter circle
of `b`) and Eriksson's denominator of `a b P(ψ)` positive (area `< π`). -/
theorem sweep_formula {a b d : R3} (ha : dotR a a = 1) (hb : dotR b b = 1) (hd : dotR d d = 1)
    (hbd : dotR b d = 0) {ψ : ℝ}
    (hMq : 0 < Real.cos ψ * tripleR a b d + Real.sin ψ * (dotR a b * dotR a d))
    (hD : 0 < 1 + dotR a b + dotR b (gcPoint b d (edgeArcR a b d ψ)) + dotR (gcPoint b d (edgeArcR a b d ψ)) a) :
    HasDerivAt (fun x => triAreaR a b (gcPoint b d (edgeArcR a b d x)))
      (1 - Real.cos (angleR a (gcPoint b d (edgeArcR a b d ψ)))) ψ := by
  have F : GcFrame a b d := ⟨ha, hb, hd, hbd⟩
  obtain ⟨hu, hap, _, _⟩ := F.facts (edgeArcR a b d ψ)
  obtain ⟨_, _, hX⟩ := one_add_dots_pos_of_D ha hb hu hD
  rw [dotR_comm (gcPoint b d (edgeArcR a b d ψ)) a] at hX
  obtain ⟨k, _, hc, hs, hk2⟩ := arctan_div_polar (N := Real.sin ψ * (1 - dotR a b ^ 2)) hMq
  rw [show Real.arctan _ = edgeArcR a b d ψ from rfl] at hc hs
  rw [hc, hs] at hap
  rw [(angleR_unit ha hu).2.1]
  exact ((F.hasDerivAt_triArea hD).comp ψ (hasDerivAt_edgeArc a b d hMq)).congr_deriv
    (sweep_value (edge_core F.triple_sq (Real.sin_sq_add_cos_sq ψ)) hMq hk2 hap hX)

theorem one_sub_cos_eq (t : ℝ) : 1 - Real.cos t = 2 * Real.sin (t / 2) ^ 2 := by
  rw [Real.sin_sq_eq_half_sub, mul_div_cancel₀ t two_ne_zero]; ring

theorem hasDerivAt_sin_half (θ : ℝ) :
    HasDerivAt (fun t : ℝ => Real.sin (t / 2)) (Real.cos (θ / 2) * (1 / 2)) θ :=
  ((hasDerivAt_id' θ).div_const 2).sin

/-- planar density `h S` times `∂h/∂θ · β′`, for `h = sin (θ/2) / sin (ρ/2)` and `β′ = (1 − cos ρ)/Ω` -/
theorem polar_area_value (θ ρ S Ω : ℝ) (hρ : Real.sin (ρ / 2) ≠ 0) (hΩ : Ω ≠ 0) :
    Real.sin (θ / 2) / Real.sin (ρ / 2) * S *
      (Real.cos (θ / 2) * (1 / 2) / Real.sin (ρ / 2) * ((1 - Real.cos ρ) / Ω)) = S / (2 * Ω) * Real.sin θ := by
  rw [one_sub_cos_eq, sin_eq_half θ]
  field_simp

/-- the Jacobian identity in polar coordinates about the apex under the sweep hypothesis `W′(α) = 1 − cos ρ`
(`A5.C16.equal_area_jacobian_polar`) -/
theorem jacobian_polar (W : ℝ → ℝ) (ρ Ω S θ α : ℝ)
    (hsweep : HasDerivAt W (1 - Real.cos ρ) α) (hρ : Real.sin (ρ / 2) ≠ 0) (hΩ : Ω ≠ 0) :
    ∃ hθ βα : ℝ,
      HasDerivAt (fun t => Real.sin (t / 2) / Real.sin (ρ / 2)) hθ θ ∧
      HasDerivAt (fun a => W a / Ω) βα α ∧
      (Real.sin (θ / 2) / Real.sin (ρ / 2)) * S * (hθ * βα) = S / (2 * Ω) * Real.sin θ :=
  ⟨_, _, (hasDerivAt_sin_half θ).div_const _, hsweep.div_const Ω, polar_area_value θ ρ S Ω hρ hΩ⟩

/-- **(4) The face projection is area-preserving at every point — polar form, no sweep hypothesis.**
`a` apex, `b` unit, `d` unit tangent of the far edge at `b`, `T = a·(b×d) > 0`.  Polar coordinates about `a`:
`ψ` = apex angle from the side `a b`, `θ` = arc distance from `a`.  `P = P(ψ)` is the point of the far edge on
the meridian `ψ` and `ρ = ∠(a, P)`.  The code's coordinates of the point `(θ, ψ)` are
`h = sin (θ/2) / sin (ρ/2)` (radial) and `β = area(a, b, P(ψ)) / Ω` (angular); `β` does not depend on `θ`, so the
Jacobian determinant of `(θ, ψ) ↦ (h, β)` is `∂h/∂θ · β′(ψ)`; the planar area element in `(h, β)` is `h · S`
(`A5.C16.planar_wedge_area`).  Conclusion: `h S · ∂h/∂θ · β′(ψ) = S/(2Ω) · sin θ`, a constant times the area
element `sin θ dθ dψ` of the sphere, for every `θ`. -/
theorem equal_area_pointwise {a b d : R3} (ha : dotR a a = 1) (hb : dotR b b = 1) (hd : dotR d d = 1)
    (hbd : dotR b d = 0) (hT : 0 < tripleR a b d) {ψ : ℝ} (hψ1 : -π < ψ) (hψ2 : ψ ≤ π)
    (hMq : 0 < Real.cos ψ * tripleR a b d + Real.sin ψ * (dotR a b * dotR a d))
    (hD : 0 < 1 + dotR a b + dotR b (gcPoint b d (edgeArcR a b d ψ)) + dotR (gcPoint b d (edgeArcR a b d ψ)) a)
    (S Ω θ : ℝ) (hΩ : Ω ≠ 0) :
    let P := gcPoint b d (edgeArcR a b d ψ)
    let ρ := angleR a P
    dotR P P = 1 ∧ azimuthR a b P = ψ ∧ Real.sin (ρ / 2) ≠ 0 ∧
    ∃ hθ βψ : ℝ,
      HasDerivAt (fun t => Real.sin (t / 2) / Real.sin (ρ / 2)) hθ θ ∧
      HasDerivAt (fun x => triAreaR a b (gcPoint b d (edgeArcR a b d x)) / Ω) βψ ψ ∧
      (Real.sin (θ / 2) / Real.sin (ρ / 2)) * S * (hθ * βψ) = S / (2 * Ω) * Real.sin θ := by
  intro P ρ
  have F : GcFrame a b d := ⟨ha, hb, hd, hbd⟩
  have hρ : Real.sin (ρ / 2) ≠ 0 := F.sin_half_angle_ne_zero hT.ne' _
  refine ⟨(F.facts _).1, F.azimuth_gcPoint_edgeArc hT hψ1 hψ2 hMq, hρ, ?_⟩
  exact jacobian_polar
    (fun x => triAreaR a b (gcPoint b d (edgeArcR a b d x))) ρ Ω S θ ψ
    (sweep_formula ha hb hd hbd hMq hD) hρ hΩ

theorem atan2R_eq_arg {z : ℂ} (hz : z ≠ 0) : atan2R z.im z.re = z.arg := by
  have hr := norm_pos_iff.mpr hz
  have h := atan2R_polar hr (Complex.neg_pi_lt_arg z) (Complex.arg_le_pi z)
  rwa [Complex.cos_arg hz, Complex.sin_arg, mul_div_cancel₀ _ hr.ne', mul_div_cancel₀ _ hr.ne'] at h

theorem atan2R_decomp {x y : ℝ} (h : 0 < x ^ 2 + y ^ 2) :
    ∃ r : ℝ, 0 < r ∧ y = r * Real.sin (atan2R y x) ∧ x = r * Real.cos (atan2R y x) ∧
      -π < atan2R y x ∧ atan2R y x ≤ π := by
  have hz : (⟨x, y⟩ : ℂ) ≠ 0 := fun h0 => by
    rw [Complex.ext_iff] at h0
    obtain ⟨rfl, rfl⟩ := h0
    simp at h
  have hr := norm_pos_iff.mpr hz
  rw [show atan2R y x = Complex.arg ⟨x, y⟩ from atan2R_eq_arg hz, Complex.cos_arg hz, Complex.sin_arg]
  exact ⟨_, hr, (mul_div_cancel₀ _ hr.ne').symm, (mul_div_cancel₀ _ hr.ne').symm,
    Complex.neg_pi_lt_arg _, Complex.arg_le_pi _⟩

/-- `edgeArcR` inverts the apex angle along the edge, for `|q| < π/2`; the middle clauses are the hypotheses of
`azimuth_gcPoint_edgeArc` / `sweep_formula` at `ψ₀` -/
theorem GcFrame.edgeArc_azimuth_gcPoint {a b d : R3} (F : GcFrame a b d) (hT : 0 < tripleR a b d) {q : ℝ}
    (hq1 : -(π / 2) < q) (hq2 : q < π / 2) :
    let ψ0 := azimuthR a b (gcPoint b d q)
    ψ0 ≤ π ∧ -π < ψ0 ∧
    0 < Real.cos ψ0 * tripleR a b d + Real.sin ψ0 * (dotR a b * dotR a d) ∧
    edgeArcR a b d ψ0 = q := by
  dsimp only
  unfold azimuthR
  obtain ⟨hu, hap, hbp, htr⟩ := F.facts q
  have hu2 := F.one_sub_u_sq_pos hT.ne'
  have hX2 := F.dot_sq_lt_one hT.ne' q
  have hc : 0 < Real.cos q := Real.cos_pos_of_mem_Ioo ⟨hq1, hq2⟩
  have hpos : 0 < (dotR b (gcPoint b d q) - dotR a b * dotR a (gcPoint b d q)) ^ 2
      + tripleR a b (gcPoint b d q) ^ 2 := by
    rw [apex_gram F.ha F.hb hu]; exact mul_pos hu2 (by linarith)
  obtain ⟨r, hr, hN, hM, hψ1, hψ2⟩ := atan2R_decomp hpos
  generalize atan2R _ _ = ψ0 at hN hM hψ1 hψ2 ⊢
  rw [htr] at hN
  rw [hbp, hap] at hM
  have hrel : r * (Real.cos ψ0 * tripleR a b d + Real.sin ψ0 * (dotR a b * dotR a d))
      = tripleR a b d * Real.cos q * (1 - dotR a b ^ 2) := by
    linear_combination (-tripleR a b d) * hM - (dotR a b * dotR a d) * hN
  have hMq : 0 < Real.cos ψ0 * tripleR a b d + Real.sin ψ0 * (dotR a b * dotR a d) :=
    (mul_pos_iff_of_pos_left hr).mp (by rw [hrel]; positivity)
  refine ⟨hψ2, hψ1, hMq, ?_⟩
  unfold edgeArcR
  have hfrac : Real.sin ψ0 * (1 - dotR a b ^ 2) /
      (Real.cos ψ0 * tripleR a b d + Real.sin ψ0 * (dotR a b * dotR a d)) = Real.tan q := by
    rw [Real.tan_eq_sin_div_cos, div_eq_div_iff hMq.ne' hc.ne']
    have : r * (Real.sin ψ0 * (1 - dotR a b ^ 2) * Real.cos q)
        = r * (Real.sin q * (Real.cos ψ0 * tripleR a b d + Real.sin ψ0 * (dotR a b * dotR a d))) := by
      linear_combination (-(1 - dotR a b ^ 2) * Real.cos q) * hN - Real.sin q * hrel
    exact mul_left_cancel₀ hr.ne' this
  rw [hfrac, Real.arctan_tan hq1 hq2]

/-- **(4) on the far edge of a triangle.**  `a b c` unit, counter-clockwise (`V > 0`), area `< π`, the edge `b c`
not in the small-angle branch of `slerp` and shorter than a quarter circle (`b·c > 0`).  For every point
`P = slerp b c t`, `0 ≤ t ≤ 1`, of the far edge, with `ψ₀` its apex angle, `ρ = ∠(a, P)`, `Ω = area(a, b, c)` and
`d = edgeDirR b c`: the point of the edge on the meridian `ψ₀` is `P`, and in the polar coordinates `(θ, ψ)` about
`a` the code's coordinates `h = sin (θ/2)/sin (ρ/2)`, `β(ψ) = area(a, b, P(ψ))/Ω` satisfy
`h S · ∂h/∂θ · β′(ψ₀) = S/(2Ω) · sin θ` for every `θ`: along the whole meridian through `P` the planar area
element is the constant `S/(2Ω)` times the spherical one. -/
theorem equal_area_pointwise_edge {a b c : R3} (ha : dotR a a = 1) (hb : dotR b b = 1) (hc : dotR c c = 1)
    (hV : 0 < tripleR a b c) (hD : 0 < 1 + dotR a b + dotR b c + dotR c a)
    (hγ : slerpSwitch ≤ angleR b c) (hbc : 0 < dotR b c) {t : ℝ} (ht0 : 0 ≤ t) (ht1 : t ≤ 1) (S θ : ℝ) :
    let P := slerpR b c t
    let d := edgeDirR b c
    let ψ0 := azimuthR a b P
    let ρ := angleR a P
    let Ω := triAreaR a b c
    gcPoint b d (edgeArcR a b d ψ0) = P ∧ Real.sin (ρ / 2) ≠ 0 ∧ 0 < Ω ∧
    ∃ hθ βψ : ℝ,
      HasDerivAt (fun x => Real.sin (x / 2) / Real.sin (ρ / 2)) hθ θ ∧
      HasDerivAt (fun x => triAreaR a b (gcPoint b d (edgeArcR a b d x)) / Ω) βψ ψ0 ∧
      (Real.sin (θ / 2) / Real.sin (ρ / 2)) * S * (hθ * βψ) = S / (2 * Ω) * Real.sin θ := by
  intro P d ψ0 ρ Ω
  have T : UnitTri a b c := ⟨ha, hb, hc, hV, hD, hγ⟩
  have hpi := Real.pi_pos
  have hθ2 : angleR b c < π / 2 := by rw [T.angle_eq]; exact Real.arccos_lt_pi_div_two.mpr hbc
  obtain ⟨hd, hbd, htr, _⟩ := edgeDirR_facts a hb hc T.angle_pos T.angle_lt_pi
  have F : GcFrame a b d := ⟨ha, hb, hd, hbd⟩
  have hT : 0 < tripleR a b d := by rw [htr]; exact div_pos hV T.sin_pos
  have hP : P = gcPoint b d (t * angleR b c) := slerpR_eq_gcPoint t hγ T.angle_lt_pi
  obtain ⟨hq0, hq1⟩ := T.arc_mem ht0 ht1
  obtain ⟨hψ2, hψ1, hMq, hq⟩ := F.edgeArc_azimuth_gcPoint hT (q := t * angleR b c) (by linarith) (by linarith)
  rw [← hP] at hψ1 hψ2 hMq hq
  have hPP : gcPoint b d (edgeArcR a b d ψ0) = P := by rw [hq, ← hP]
  obtain ⟨_, _, hρ, hJ⟩ := equal_area_pointwise ha hb hd hbd hT hψ1 hψ2 hMq
    (by rw [hPP]; exact T.D_pos ht0 ht1) S Ω θ T.area_pos.ne'
  rw [hPP] at hρ hJ
  exact ⟨hPP, hρ, T.area_pos, hJ⟩

/-! ## non-vacuity

The octant triangle `a = e₃`, `b = e₁`, `c = e₂` does not satisfy `b·c > 0`; take instead `c = (3/5, 4/5, 0)`
(same frame `d = e₂`, `u = w = 0`, `T = 1`). -/

theorem example_triangle_hyps :
    dotR ⟨0, 0, 1⟩ ⟨0, 0, 1⟩ = 1 ∧ dotR ⟨1, 0, 0⟩ ⟨1, 0, 0⟩ = 1 ∧ dotR ⟨3 / 5, 4 / 5, 0⟩ ⟨3 / 5, 4 / 5, 0⟩ = 1 ∧
    0 < tripleR ⟨0, 0, 1⟩ ⟨1, 0, 0⟩ ⟨3 / 5, 4 / 5, 0⟩ ∧
    0 < 1 + dotR ⟨0, 0, 1⟩ ⟨1, 0, 0⟩ + dotR ⟨1, 0, 0⟩ ⟨3 / 5, 4 / 5, 0⟩ + dotR ⟨3 / 5, 4 / 5, 0⟩ ⟨0, 0, 1⟩ ∧
    0 < dotR ⟨1, 0, 0⟩ ⟨3 / 5, 4 / 5, 0⟩ := by
  norm_num [dotR, tripleR, crossR]

/-- the edge of the example triangle is far above `SLERP_SWITCH`: `∠(b,c) = arccos (3/5) ≥ arccos (√2/2)… ≥ 1/2` -/
theorem example_triangle_switch : slerpSwitch ≤ angleR ⟨1, 0, 0⟩ ⟨3 / 5, 4 / 5, 0⟩ := by
  obtain ⟨_, hb, hc, _, _, _⟩ := example_triangle_hyps
  rw [(angleR_unit hb hc).1, show dotR ⟨1, 0, 0⟩ ⟨3 / 5, 4 / 5, 0⟩ = 3 / 5 by norm_num [dotR]]
  -- `cos (1/2) ≥ 1 − (1/2)²/2 = 7/8 > 3/5`
  have hcos : (3 / 5 : ℝ) ≤ Real.cos (1 / 2) := le_trans (by norm_num) Real.one_sub_sq_div_two_le_cos
  have h2 := Real.arccos_le_arccos hcos
  rw [Real.arccos_cos (by norm_num) (by linarith [Real.pi_gt_three])] at h2
  exact (slerpSwitch_le.trans (by norm_num)).trans h2

example (S θ : ℝ) :
    let a : R3 := ⟨0, 0, 1⟩
    let b : R3 := ⟨1, 0, 0⟩
    let c : R3 := ⟨3 / 5, 4 / 5, 0⟩
    let P := slerpR b c (1 / 3)
    let d := edgeDirR b c
    ∃ hθ βψ : ℝ,
      HasDerivAt (fun x => Real.sin (x / 2) / Real.sin (angleR a P / 2)) hθ θ ∧
      HasDerivAt (fun x => triAreaR a b (gcPoint b d (edgeArcR a b d x)) / triAreaR a b c) βψ (azimuthR a b P) ∧
      (Real.sin (θ / 2) / Real.sin (angleR a P / 2)) * S * (hθ * βψ) = S / (2 * triAreaR a b c) * Real.sin θ := by
  obtain ⟨ha, hb, hc, hV, hD, hbc⟩ := example_triangle_hyps
  exact (equal_area_pointwise_edge ha hb hc hV hD example_triangle_switch hbc
    (by norm_num) (by norm_num) S θ).2.2.2

/-- the two positivity hypotheses of `sweep_formula` on the octant frame at `ψ = π/3` -/
theorem octant_sweep_hyps :
    0 < Real.cos (π / 3) * tripleR ⟨0, 0, 1⟩ ⟨1, 0, 0⟩ ⟨0, 1, 0⟩
      + Real.sin (π / 3) * (dotR ⟨0, 0, 1⟩ ⟨1, 0, 0⟩ * dotR ⟨0, 0, 1⟩ ⟨0, 1, 0⟩) ∧
    0 < 1 + dotR ⟨0, 0, 1⟩ ⟨1, 0, 0⟩
      + dotR ⟨1, 0, 0⟩ (gcPoint ⟨1, 0, 0⟩ ⟨0, 1, 0⟩ (edgeArcR ⟨0, 0, 1⟩ ⟨1, 0, 0⟩ ⟨0, 1, 0⟩ (π / 3)))
      + dotR (gcPoint ⟨1, 0, 0⟩ ⟨0, 1, 0⟩ (edgeArcR ⟨0, 0, 1⟩ ⟨1, 0, 0⟩ ⟨0, 1, 0⟩ (π / 3))) ⟨0, 0, 1⟩ := by
  obtain ⟨ha, hb, hd, hbd, hab, had, hT⟩ := octant_gc_hyps
  refine ⟨by rw [hT, hab, Real.cos_pi_div_three]; norm_num, ?_⟩
  rw [GcFrame.denominator ⟨ha, hb, hd, hbd⟩, hab, had]
  simp only [mul_zero, add_zero]
  exact add_pos one_pos (Real.cos_arctan_pos _)

/-- the sweep formula on the octant frame at `ψ = π/3`: `W′ = 1 − cos (π/2) = 1` -/
example : HasDerivAt (fun x => triAreaR ⟨0, 0, 1⟩ ⟨1, 0, 0⟩
    (gcPoint ⟨1, 0, 0⟩ ⟨0, 1, 0⟩ (edgeArcR ⟨0, 0, 1⟩ ⟨1, 0, 0⟩ ⟨0, 1, 0⟩ x)))
    (1 - Real.cos (angleR ⟨0, 0, 1⟩
      (gcPoint ⟨1, 0, 0⟩ ⟨0, 1, 0⟩ (edgeArcR ⟨0, 0, 1⟩ ⟨1, 0, 0⟩ ⟨0, 1, 0⟩ (π / 3))))) (π / 3) := by
  obtain ⟨ha, hb, hd, hbd, _⟩ := octant_gc_hyps
  exact sweep_formula ha hb hd hbd octant_sweep_hyps.1 octant_sweep_hyps.2

end A5.SweepFormula
