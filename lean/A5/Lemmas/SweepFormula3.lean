import A5.Lemmas.SweepFormula2
import Mathlib.Analysis.Calculus.FDeriv.Prod
import Mathlib.Analysis.Calculus.FDeriv.Mul
import Mathlib.Analysis.SpecialFunctions.Trigonometric.InverseDeriv
/-! # C16 — the pointwise equal-area identity as a genuine two-variable Jacobian (part 3 of 3)

`equal_area_pointwise` states the Jacobian identity with the two partial derivatives `∂h/∂θ`, `β′(ψ)`.  Here
(`equal_area_pointwise_fderiv`) it is stated for the Fréchet derivative of the map of two variables
`F (θ, ψ) = (h, β) = (sin (θ/2) / sin (ρ(ψ)/2), area(a, b, P(ψ)) / Ω)`, `ρ(ψ) = ∠(a, P(ψ))`, including the dependence of `h`
on `ψ` through `ρ(ψ)`; `forward_coords_polar` says that `(1 − h, ·, h β)` are the weights the real twin of
`polyhedralForward` computes.  What is and is not proved about C16 as a whole: `A5/Props/C16.lean`.

Exact real arithmetic; nothing is claimed about floating-point rounding. -/
namespace A5.SweepFormula
open A5 Real Set Filter Topology A5.RadialRoundTrip A5.AngularRoundTrip

theorem GcFrame.hasDerivAt_sin_half_rho {a b d : R3} (F : GcFrame a b d) (hT : tripleR a b d ≠ 0) {ψ : ℝ}
    (hMq : 0 < Real.cos ψ * tripleR a b d + Real.sin ψ * (dotR a b * dotR a d)) :
    ∃ k' : ℝ, HasDerivAt (fun x => Real.sin (angleR a (gcPoint b d (edgeArcR a b d x)) / 2)) k' ψ := by
  have hfun : ∀ x, Real.sin (angleR a (gcPoint b d (edgeArcR a b d x)) / 2)
      = Real.sin (Real.arccos (Real.cos (edgeArcR a b d x) * dotR a b
          + Real.sin (edgeArcR a b d x) * dotR a d) / 2) := fun x => by
    rw [(angleR_unit F.ha (F.facts (edgeArcR a b d x)).1).1, (F.facts (edgeArcR a b d x)).2.1]
  simp only [hfun]
  have he := hasDerivAt_edgeArc a b d hMq
  have hX2 := F.dot_sq_lt_one hT (edgeArcR a b d ψ)
  rw [(F.facts (edgeArcR a b d ψ)).2.1] at hX2
  obtain ⟨h1, h2⟩ := abs_lt.mp ((sq_lt_one_iff_abs_lt_one _).mp hX2)
  have hX := (he.cos.mul_const (dotR a b)).add (he.sin.mul_const (dotR a d))
  have hac := (Real.hasDerivAt_arccos h1.ne' h2.ne).comp ψ hX
  exact ⟨_, (hac.div_const 2).sin⟩

/-- **(4) as a two-variable Jacobian.**  Hypotheses of `equal_area_pointwise` without the range of `ψ`.  The map
`F (θ, ψ) = (sin (θ/2) / sin (ρ(ψ)/2), area(a, b, P(ψ)) / Ω)` from polar coordinates about the apex to the code's
coordinates `(h, β)` is Fréchet-differentiable at `(θ, ψ)`, its second component does not depend on `θ`, and the
planar area element `h S dh dβ` pulled back by `F` is `S/(2Ω) · sin θ dθ dψ`. -/
theorem equal_area_pointwise_fderiv {a b d : R3} (G : GcFrame a b d) (hT : 0 < tripleR a b d) {ψ : ℝ}
    (hMq : 0 < Real.cos ψ * tripleR a b d + Real.sin ψ * (dotR a b * dotR a d))
    (hD : 0 < 1 + dotR a b + dotR b (gcPoint b d (edgeArcR a b d ψ)) + dotR (gcPoint b d (edgeArcR a b d ψ)) a)
    (S Ω θ : ℝ) (hΩ : Ω ≠ 0) :
    let F : ℝ × ℝ → ℝ × ℝ := fun z =>
      (Real.sin (z.1 / 2) / Real.sin (angleR a (gcPoint b d (edgeArcR a b d z.2)) / 2),
        triAreaR a b (gcPoint b d (edgeArcR a b d z.2)) / Ω)
    ∃ F' : ℝ × ℝ →L[ℝ] ℝ × ℝ, HasFDerivAt F F' (θ, ψ) ∧ (F' (1, 0)).2 = 0 ∧
      (F (θ, ψ)).1 * S * ((F' (1, 0)).1 * (F' (0, 1)).2 - (F' (0, 1)).1 * (F' (1, 0)).2)
        = S / (2 * Ω) * Real.sin θ := by
  intro F
  have hρ := G.sin_half_angle_ne_zero hT.ne' (edgeArcR a b d ψ)
  obtain ⟨k', hk⟩ := G.hasDerivAt_sin_half_rho hT.ne' hMq
  have hA := (hasDerivAt_sin_half θ).comp_hasFDerivAt (θ, ψ)
    (hasFDerivAt_fst (𝕜 := ℝ) (E := ℝ) (F := ℝ) (p := (θ, ψ)))
  have hg := (hk.inv hρ).comp_hasFDerivAt (θ, ψ) (hasFDerivAt_snd (𝕜 := ℝ) (E := ℝ) (F := ℝ) (p := (θ, ψ)))
  have hβ := ((sweep_formula G.ha G.hb G.hd G.hbd hMq hD).div_const Ω).comp_hasFDerivAt (θ, ψ)
    (hasFDerivAt_snd (𝕜 := ℝ) (E := ℝ) (F := ℝ) (p := (θ, ψ)))
  refine ⟨_, ((hA.mul hg).prodMk hβ).congr_of_eventuallyEq (Filter.Eventually.of_forall fun z => ?_), ?_, ?_⟩
  · simp only [F, Function.comp, Pi.mul_apply, Pi.inv_apply, div_eq_mul_inv]
  · simp
  · simp only [F, Function.comp, ContinuousLinearMap.prod_apply, add_apply,
      smul_apply, ContinuousLinearMap.coe_fst', ContinuousLinearMap.coe_snd',
      smul_eq_mul, mul_zero, mul_one, add_zero, zero_add, sub_zero]
    linear_combination polar_area_value θ _ S Ω hρ hΩ

/-- **The real twin of `polyhedralForward` computes exactly these coordinates.**  Triangle hypotheses of
`polyhedral_roundtrip_exact`.  For `P = slerp b c q` on the far edge, `ρ = ∠(a, P)`, and the point
`v = slerp a P s` at arc `θ = s ρ` from the apex (`0 < s ≤ 1`): the barycentric triple of `forwardBaryR` is
`(1 − h, h · area(a, P, c)/Ω, h · area(a, b, P)/Ω)` with `h = sin (θ/2) / sin (ρ/2)` — radial coordinate `h`,
angular coordinate `β = area(a, b, P)/Ω`, as in `equal_area_pointwise`. -/
theorem forward_coords_polar {a b c : R3} {q s : ℝ} (ha : dotR a a = 1) (hb : dotR b b = 1)
    (hc : dotR c c = 1) (hV : 0 < tripleR a b c) (hD : 0 < 1 + dotR a b + dotR b c + dotR c a)
    (hγ : slerpSwitch ≤ angleR b c) (hγ' : slerpSwitch ≤ angleR a (slerpR b c q))
    (hq0 : 0 ≤ q) (hq1 : q ≤ 1) (hs0 : 0 < s) (hs1 : s ≤ 1) :
    let P := slerpR b c q
    let ρ := angleR a P
    let h := Real.sin (s * ρ / 2) / Real.sin (ρ / 2)
    forwardBaryR a b c (slerpR a P s)
      = (1 - h, h * (triAreaR a P c / triAreaR a b c), h * (triAreaR a b P / triAreaR a b c)) := by
  intro P ρ h
  have T : UnitTri a b c := ⟨ha, hb, hc, hV, hD, hγ⟩
  have hπ' := T.apex_lt_pi hq0 hq1
  obtain ⟨e1, e2, _⟩ := vectorDifferenceR_slerp hs0.le hs1 ha (T.edge_unit q) hγ' hπ'
  rw [forwardBaryR_eq ha hb hc hV hγ hγ' hπ' hs0 hs1, e1, e2]
  refine Prod.ext rfl (Prod.ext ?_ ?_) <;> simp only <;> ring

/-! ## non-vacuity: the octant frame at `ψ = π/3` -/

example (S Ω θ : ℝ) (hΩ : Ω ≠ 0) :
    let a : R3 := ⟨0, 0, 1⟩
    let b : R3 := ⟨1, 0, 0⟩
    let d : R3 := ⟨0, 1, 0⟩
    let F : ℝ × ℝ → ℝ × ℝ := fun z =>
      (Real.sin (z.1 / 2) / Real.sin (angleR a (gcPoint b d (edgeArcR a b d z.2)) / 2),
        triAreaR a b (gcPoint b d (edgeArcR a b d z.2)) / Ω)
    ∃ F' : ℝ × ℝ →L[ℝ] ℝ × ℝ, HasFDerivAt F F' (θ, π / 3) ∧ (F' (1, 0)).2 = 0 ∧
      (F (θ, π / 3)).1 * S * ((F' (1, 0)).1 * (F' (0, 1)).2 - (F' (0, 1)).1 * (F' (1, 0)).2)
        = S / (2 * Ω) * Real.sin θ := by
  obtain ⟨ha, hb, hd, hbd, _, _, hT⟩ := octant_gc_hyps
  exact equal_area_pointwise_fderiv ⟨ha, hb, hd, hbd⟩ (by rw [hT]; norm_num) octant_sweep_hyps.1 octant_sweep_hyps.2
    S Ω θ hΩ

end A5.SweepFormula
