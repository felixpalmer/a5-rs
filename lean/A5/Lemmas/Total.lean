import A5.Lemmas.NumChildren
import A5.Model.Compact
/-! Totality and validity of the integer API on *every* id and every integer resolution.  An id that decodes is, for the
hierarchy calls, the id of a cell of the tree (`exists_path_of_deserialize`), so `cellToParent` / `cellToChildren` are read
off the refinement theorems `Path.cellToParent_enc` / `Path.cellToChildren_enc`; then `uncompact` (under the explicit
"result is small" scope condition) and `get_num_cells`.  The last section (`namespace C09`) is `uncompact` on lists of
paths: its two loops as the functions `countSpec` and `expand` of the tree. -/
namespace A5
open Path

theorem Cell.Valid.origin_lt {c : Cell} (h : c.Valid) : c.origin < 12 := by
  rcases h with ⟨_, h, _, _⟩ | ⟨_, h, _, _⟩ | ⟨_, h, _, _⟩ | ⟨_, _, h, _, _⟩ <;> omega

theorem cellToParent_err (id : Nat) (e : ErrKind) (r : Option Int) (hd : deserialize id = .err e) :
    cellToParent id r = .err e := by
  unfold cellToParent; rewrite [hd]; rfl

theorem cellToChildren_err (id : Nat) (e : ErrKind) (r : Option Int) (hd : deserialize id = .err e) :
    cellToChildren id r = .err e := by
  unfold cellToChildren; rewrite [hd]; rfl

theorem cellToParent_alias (id : Nat) (c : Cell) (r : Option Int) (hd : deserialize id = .ok c) :
    cellToParent id r = cellToParent (encNat c) r := by
  have hd' := deserialize_enc c (deserialize_ok_valid' id c hd)
  unfold cellToParent; rewrite [hd, hd']; rfl

theorem cellToChildren_alias (id : Nat) (c : Cell) (r : Option Int) (hd : deserialize id = .ok c) :
    cellToChildren id r = cellToChildren (encNat c) r := by
  have hd' := deserialize_enc c (deserialize_ok_valid' id c hd)
  unfold cellToChildren; rewrite [hd, hd']; rfl

theorem getResolution_alias (id : Nat) (c : Cell) (hd : deserialize id = .ok c) :
    getResolution (encNat c) = getResolution id := by
  rewrite [getResolution_enc c (deserialize_ok_valid' id c hd)]; exact deserialize_res id c hd

theorem exists_path_of_deserialize (id : Nat) (c : Cell) (hd : deserialize id = .ok c) :
    ∃ p, WF p ∧ res p = getResolution id ∧ (∀ r, cellToParent id r = cellToParent (enc p) r) ∧
      (∀ r, cellToChildren id r = cellToChildren (enc p) r) := by
  obtain ⟨p, hp, e⟩ := exists_path_of_layout _ (layout_enc c (deserialize_ok_valid' id c hd))
  refine ⟨p, hp, ?_, fun r => ?_, fun r => ?_⟩
  · rewrite [← getResolution_enc_path hp, e]; exact getResolution_alias id c hd
  · rewrite [e]; exact cellToParent_alias id c r hd
  · rewrite [e]; exact cellToChildren_alias id c r hd

theorem cellToParent_none (id : Nat) (c : Cell) (hd : deserialize id = .ok c) :
    cellToParent id none = cellToParent id (some (c.res - 1)) := by
  obtain ⟨p, hp, hres, e, _⟩ := exists_path_of_deserialize id c hd
  rewrite [e, e, Path.cellToParent_default hp, hres, deserialize_res id c hd]; rfl

theorem cellToParent_some_valid (id : Nat) (r : Int) (x : Nat) (h : cellToParent id (some r) = .ok x) :
    Layout x ∧ getResolution x = r ∧ -1 ≤ r ∧ r ≤ getResolution id := by
  rcases deserialize_cases id with ⟨c, hd⟩ | hd
  · obtain ⟨p, hp, hres, e, _⟩ := exists_path_of_deserialize id c hd
    have := res_ge p
    rewrite [e, cellToParent_enc hp] at h
    -- only two branches of the closed form are `ok`
    repeat' split at h
    all_goals cases h
    · exact ⟨Or.inl rfl, by rewrite [getResolution_zero]; omega, by omega, by omega⟩
    · have hw := wf_ancestorAt hp r
      exact ⟨layout_enc_path hw, (getResolution_enc_path hw).trans (res_ancestorAt p r (by omega) (by omega)),
        by omega, by omega⟩
  · rewrite [cellToParent_err id _ _ hd] at h; cases h

theorem cellToParent_none_valid (id : Nat) (x : Nat) (h : cellToParent id none = .ok x) :
    Layout x ∧ getResolution x = getResolution id - 1 ∧ 0 ≤ getResolution id := by
  rcases deserialize_cases id with ⟨c, hd⟩ | hd
  · rewrite [cellToParent_none id c hd, deserialize_res id c hd] at h
    obtain ⟨a, b, c', _⟩ := cellToParent_some_valid id _ x h
    exact ⟨a, b, by omega⟩
  · rewrite [cellToParent_err id _ _ hd] at h; cases h

theorem cellToParent_never_panics (id : Nat) (r : Option Int) : (cellToParent id r).isPanic = false := by
  rcases deserialize_cases id with ⟨c, hd⟩ | hd
  · have key : ∀ r : Int, (cellToParent id (some r)).isPanic = false := by
      intro r
      obtain ⟨p, hp, _, e, _⟩ := exists_path_of_deserialize id c hd
      rewrite [e, cellToParent_enc hp]
      repeat' split
      all_goals rfl
    cases r with
    | some r => exact key r
    | none => rewrite [cellToParent_none id c hd]; exact key _
  · rewrite [cellToParent_err id _ _ hd]; rfl

theorem cellToChildren_none (id : Nat) (c : Cell) (hd : deserialize id = .ok c) :
    cellToChildren id none = cellToChildren id (some (c.res + 1)) := by
  obtain ⟨p, hp, hres, _, e⟩ := exists_path_of_deserialize id c hd
  rewrite [e, e, Path.cellToChildren_default hp, hres, deserialize_res id c hd]; rfl

theorem cellToChildren_some_valid (id : Nat) (r : Int) (xs : List Nat) (h : cellToChildren id (some r) = .ok xs) :
    (∀ x ∈ xs, Layout x ∧ getResolution x = r) ∧ getResolution id ≤ r ∧ r ≤ 29 := by
  rcases deserialize_cases id with ⟨c, hd⟩ | hd
  · obtain ⟨p, hp, hres, -, e⟩ := exists_path_of_deserialize id c hd
    have h29 := res_le hp
    rewrite [e, cellToChildren_enc hp] at h
    -- only two branches of the closed form are `ok`
    repeat' split at h
    all_goals cases h
    · refine ⟨fun x hx => ?_, by omega, by omega⟩
      rewrite [List.mem_singleton] at hx; subst hx
      exact ⟨layout_enc_path hp, by rewrite [getResolution_enc_path hp]; omega⟩
    · refine ⟨fun x hx => ?_, by omega, by omega⟩
      obtain ⟨d, hd', rfl⟩ := List.mem_map.1 hx
      have hw := wf_of_mem_ordered hp (by omega) hd'
      exact ⟨layout_enc_path hw, (getResolution_enc_path hw).trans (res_of_mem_ordered hp hd')⟩
  · rewrite [cellToChildren_err id _ _ hd] at h; cases h

theorem cellToChildren_none_valid (id : Nat) (xs : List Nat) (h : cellToChildren id none = .ok xs) :
    (∀ x ∈ xs, Layout x ∧ getResolution x = getResolution id + 1) ∧ getResolution id ≤ 28 := by
  rcases deserialize_cases id with ⟨c, hd⟩ | hd
  · rewrite [cellToChildren_none id c hd, deserialize_res id c hd] at h
    obtain ⟨a, _, b⟩ := cellToChildren_some_valid id _ xs h
    exact ⟨a, by omega⟩
  · rewrite [cellToChildren_err id _ _ hd] at h; cases h

theorem cellToChildren_never_panics (id : Nat) (r : Option Int) : (cellToChildren id r).isPanic = false := by
  rcases deserialize_cases id with ⟨c, hd⟩ | hd
  · have key : ∀ r : Int, (cellToChildren id (some r)).isPanic = false := by
      intro r
      obtain ⟨p, hp, _, _, e⟩ := exists_path_of_deserialize id c hd
      rewrite [e, cellToChildren_enc hp]
      repeat' split
      all_goals rfl
    cases r with
    | some r => exact key r
    | none => rewrite [cellToChildren_none id c hd]; exact key _
  · rewrite [cellToChildren_err id _ _ hd]; rfl

/-- number of cells one input contributes to `uncompact … R` (0 where `get_num_children` is not `ok`) -/
def fanoutTo (R : Int) (c : Nat) : Nat :=
  match getNumChildren (getResolution c) R with
  | .ok k => k
  | _ => 0

/-- size of the honest result of `uncompact cells R` -/
def uncompactSize (cells : List Nat) (R : Int) : Nat := (cells.map (fanoutTo R)).sum

theorem fanoutTo_eq_kids (R : Int) (c : Nat) : fanoutTo R c = C09.kids (getResolution c) R := rfl

theorem uncompact_count_cons (t : Int) (c : Nat) (cs : List Nat) (n : Nat) :
    uncompact.count t (c :: cs) n =
      (if getResolution c > t then .err .targetCoarser
       else getNumChildren (getResolution c) t >>= fun k => u64Add n k >>= fun n' => uncompact.count t cs n') := rfl

theorem uncompact_count (R : Int) (hR : R ≤ 29) : ∀ (cells : List Nat) (n : Nat),
    n + uncompactSize cells R < 2 ^ 64 →
    uncompact.count R cells n = .err .targetCoarser ∨
    uncompact.count R cells n = .ok (n + uncompactSize cells R) := by
  intro cells
  induction cells with
  | nil => intro n _; exact Or.inr rfl
  | cons c cs ih =>
    intro n hn
    rewrite [uncompact_count_cons]
    by_cases hgt : getResolution c > R
    · rewrite [if_pos hgt]; exact Or.inl rfl
    · rewrite [if_neg hgt]
      have hk := (C09.numChildren_spec _ R (getResolution_range c).1 (by omega) hR).1
      have hsz : uncompactSize (c :: cs) R = fanoutTo R c + uncompactSize cs R := rfl
      rewrite [hsz, fanoutTo_eq_kids] at hn ⊢
      rewrite [hk, Outcome.bind_ok, u64Add_ok _ _ (by omega), Outcome.bind_ok, ← Nat.add_assoc]
      exact ih _ (by omega)

/-- the per-cell step of the second loop -/
def uncompactStep (R : Int) (c : Nat) : Outcome (List Nat) :=
  getNumChildren (getResolution c) R >>= fun k =>
    if k = 1 then cellToParent c (some (getResolution c)) >>= fun x => .ok [x]
    else cellToChildren c (some R)

theorem uncompact_unfold (cells : List Nat) (R : Int) (hR : R ≤ 29) :
    uncompact cells R =
      (uncompact.count R cells 0 >>= fun n =>
        if n * 8 ≥ 2 ^ 63 then .panic .capacity else flatMapOutcome (uncompactStep R) cells) := by
  unfold uncompact
  rewrite [if_neg (by simp only [Gen.MAX_RESOLUTION]; omega)]
  rfl

theorem uncompactStep_never_panics (R : Int) (hR : R ≤ 29) (c : Nat) : (uncompactStep R c).isPanic = false := by
  refine Outcome.bind_noPanic _ _ (getNumChildren_never_panics _ R hR) (fun k _ => ?_)
  split
  · exact Outcome.bind_noPanic _ _ (cellToParent_never_panics _ _) (fun _ _ => rfl)
  · exact cellToChildren_never_panics _ _

theorem uncompactStep_valid (R : Int) (hR : R ≤ 29) (c : Nat) (ys : List Nat) (h : uncompactStep R c = .ok ys) :
    ∀ y ∈ ys, Layout y ∧ getResolution y = R := by
  obtain ⟨k, hk, h⟩ := Outcome.bind_eq_ok _ _ _ h
  by_cases h1 : k = 1
  · rewrite [if_pos h1] at h
    obtain ⟨x, hx, h⟩ := Outcome.bind_eq_ok _ _ _ h
    cases Outcome.ok.inj h
    subst h1
    -- the shortcut is taken only at equal resolutions (a coarser target gives the count 0)
    have e : getResolution c = R := by
      by_cases hlt : R < getResolution c
      · rewrite [getNumChildren_of_lt hlt] at hk; cases hk
      · exact (C09.precount_harmless' _ R (getResolution_range c).1 (by omega) hR).1 hk
    obtain ⟨a, b, _⟩ := cellToParent_some_valid c _ x hx
    intro y hy
    rewrite [List.mem_singleton] at hy; subst hy
    exact ⟨a, b.trans e⟩
  · rewrite [if_neg h1] at h
    exact (cellToChildren_some_valid c R ys h).1

theorem uncompact_exceeds (cells : List Nat) (R : Int) (hR : 30 ≤ R) : uncompact cells R = .err .exceedsMax := if_pos hR

/-- **`uncompact` never panics** provided the honest result has fewer than `2^60` cells (the
allocation `Vec::with_capacity(n)` of `u64`s needs `8·n < 2^63`). -/
theorem uncompact_never_panics (cells : List Nat) (R : Int) (hsmall : uncompactSize cells R < 2 ^ 60) :
    (uncompact cells R).isPanic = false := by
  by_cases hR : R ≥ 30
  · rewrite [uncompact_exceeds cells R hR]; rfl
  have hR : R ≤ 29 := by omega
  rewrite [uncompact_unfold cells R hR]
  rcases uncompact_count R hR cells 0 (by omega) with h | h
  · rewrite [h]; rfl
  · rewrite [h, Outcome.bind_ok, if_neg (by omega)]
    exact flatMapOutcome_noPanic _ _ (fun c _ => uncompactStep_never_panics R hR c)

theorem uncompact_valid (cells : List Nat) (R : Int) (ys : List Nat) (h : uncompact cells R = .ok ys) :
    (∀ y ∈ ys, Layout y ∧ getResolution y = R) ∧ R ≤ 29 := by
  by_cases hR : R ≥ 30
  · rewrite [uncompact_exceeds cells R hR] at h; cases h
  have hR : R ≤ 29 := by omega
  refine ⟨?_, hR⟩
  rewrite [uncompact_unfold cells R hR] at h
  obtain ⟨n, _, h⟩ := Outcome.bind_eq_ok _ _ _ h
  split at h
  · cases h
  · intro y hy
    obtain ⟨c, _, b, hb, hyb⟩ := (flatMapOutcome_eq_ok _ _ _ h).1 y hy
    exact uncompactStep_valid R hR c b hb y hyb

theorem uncompact_coarser (c : Nat) (cs : List Nat) (R : Int) (hR : R < getResolution c) :
    uncompact (c :: cs) R = .err .targetCoarser := by
  have := getResolution_range c
  rewrite [uncompact_unfold _ R (by omega), uncompact_count_cons, if_pos hR]
  rfl

/-- `uncompact` looks at an id only through `get_resolution`, `cell_to_parent`, `cell_to_children` -/
theorem uncompact_alias (id : Nat) (c : Cell) (l : List Nat) (R : Int) (hd : deserialize id = .ok c) :
    uncompact (id :: l) R = uncompact (encNat c :: l) R := by
  by_cases hR : R ≥ 30
  · rewrite [uncompact_exceeds _ R hR, uncompact_exceeds _ R hR]; rfl
  have hR : R ≤ 29 := by omega
  have hstep : uncompactStep R id = uncompactStep R (encNat c) := by
    unfold uncompactStep
    rewrite [getResolution_alias id c hd, ← cellToParent_alias id c _ hd, ← cellToChildren_alias id c _ hd]
    rfl
  rewrite [uncompact_unfold _ R hR, uncompact_unfold _ R hR, uncompact_count_cons, uncompact_count_cons,
    flatMapOutcome_cons, flatMapOutcome_cons, getResolution_alias id c hd, hstep]
  rfl

theorem uncompact_ok_decodes (cells : List Nat) (R : Int) (ys : List Nat) (h : uncompact cells R = .ok ys) :
    ∀ c ∈ cells, (∃ cell, deserialize c = .ok cell) ∧ getResolution c ≤ R := by
  intro c hc
  have hR := (uncompact_valid cells R ys h).2
  rewrite [uncompact_unfold cells R hR] at h
  obtain ⟨n, _, h⟩ := Outcome.bind_eq_ok _ _ _ h
  split at h
  · cases h
  · obtain ⟨b, hb⟩ := (flatMapOutcome_eq_ok _ _ _ h).2 c hc
    obtain ⟨k, hk, hb⟩ := Outcome.bind_eq_ok _ _ _ hb
    rcases deserialize_cases c with ⟨cell, hd⟩ | hd
    · refine ⟨⟨cell, hd⟩, ?_⟩
      apply Classical.byContradiction
      intro hgt
      rewrite [getNumChildren_of_lt (by omega)] at hk
      cases Outcome.ok.inj hk
      have hv := cellToChildren_some_valid c R b (by rewrite [if_neg (by omega)] at hb; exact hb)
      omega
    · rewrite [cellToParent_err c _ _ hd, cellToChildren_err c _ _ hd] at hb
      split at hb <;> cases hb

/-- `get_num_cells` is a total function into `u64` for every integer argument (saturating) -/
theorem getNumCells_lt (r : Int) : getNumCells r < 2 ^ 64 := by
  unfold getNumCells
  split
  · omega
  · split
    · rename_i n hn
      obtain ⟨l₁, l₂, e, -⟩ := List.lookup_eq_some_iff.mp hn
      have hm : (r, n) ∈ Gen.NUM_CELLS_SPECIAL := e ▸ List.mem_append_right l₁ List.mem_cons_self
      simp only [Gen.NUM_CELLS_SPECIAL, List.mem_cons, List.mem_nil_iff, or_false, Prod.mk.injEq] at hm
      omega
    · simp only
      split
      · rename_i h; exact h.2
      · omega

namespace C09

/-- the first loop (`n += get_num_children(..)`, overflow-checked) on paths -/
def countSpec (R : Int) : List Path → Nat → Outcome Nat
  | [], n => .ok n
  | p :: ps, n =>
    if res p > R then .err .targetCoarser
    else if n + kids (res p) R < 2 ^ 64 then countSpec R ps (n + kids (res p) R) else .panic .addOverflow

/-- what the second loop appends for one input cell -/
def expand (R : Int) (p : Path) : Outcome (List Nat) :=
  if R - max (res p) 1 > 20 then .err .diffTooLarge else .ok ((descendantsOrdered p R).map enc)

def sumKids (R : Int) (ps : List Path) : Nat := (ps.map (fun p => kids (res p) R)).sum

theorem uncompact_count_enc (R : Int) (hR : R ≤ 29) (ps : List Path) (hps : ∀ p ∈ ps, WF p) (n : Nat) :
    uncompact.count R (ps.map enc) n = countSpec R ps n := by
  induction ps generalizing n with
  | nil => rfl
  | cons p ps ih =>
    have hp := hps p (List.mem_cons_self ..)
    simp only [List.map_cons, countSpec]
    rewrite [uncompact_count_cons, getResolution_enc_path hp]
    by_cases h : res p > R
    · rewrite [if_pos h, if_pos h]; rfl
    · rewrite [if_neg h, if_neg h, (numChildren_spec _ _ (res_ge p) (by omega) hR).1]
      simp only [Outcome.bind_ok]
      by_cases hb : n + kids (res p) R < 2 ^ 64
      · rewrite [u64Add_ok _ _ hb, if_pos hb]
        simp only [Outcome.bind_ok]
        exact ih (fun q hq => hps q (List.mem_cons_of_mem _ hq)) _
      · rewrite [if_neg hb]
        simp only [u64Add]
        rewrite [if_neg hb]
        simp only [Outcome.bind_panic]

theorem countSpec_cases (R : Int) (ps : List Path) (n : Nat) :
    (countSpec R ps n = .ok (n + sumKids R ps) ∧ ∀ p ∈ ps, res p ≤ R) ∨
    (countSpec R ps n = .err .targetCoarser ∧ ∃ p ∈ ps, res p > R) ∨
    (countSpec R ps n = .panic .addOverflow ∧ 2 ^ 64 ≤ n + sumKids R ps) := by
  induction ps generalizing n with
  | nil => exact Or.inl ⟨rfl, fun _ hp => nomatch hp⟩
  | cons p ps ih =>
    have hs : sumKids R (p :: ps) = kids (res p) R + sumKids R ps := rfl
    rewrite [hs, ← Nat.add_assoc]
    simp only [countSpec]
    by_cases h1 : res p > R
    · rewrite [if_pos h1]; exact Or.inr (Or.inl ⟨rfl, p, List.mem_cons_self .., h1⟩)
    rewrite [if_neg h1]
    by_cases h2 : n + kids (res p) R < 2 ^ 64
    · rewrite [if_pos h2]
      rcases ih (n + kids (res p) R) with ⟨e, ha⟩ | ⟨e, q, hq, hr⟩ | h
      · refine Or.inl ⟨e, fun q hq => ?_⟩
        rcases List.mem_cons.1 hq with rfl | hq
        · omega
        · exact ha q hq
      · exact Or.inr (Or.inl ⟨e, q, List.mem_cons_of_mem _ hq, hr⟩)
      · exact Or.inr (Or.inr h)
    · rewrite [if_neg h2]; exact Or.inr (Or.inr ⟨rfl, by omega⟩)

theorem countSpec_ok (R : Int) (ps : List Path) (n : Nat) (hps : ∀ p ∈ ps, res p ≤ R)
    (hn : n + sumKids R ps < 2 ^ 64) : countSpec R ps n = .ok (n + sumKids R ps) := by
  rcases countSpec_cases R ps n with ⟨h, _⟩ | ⟨_, p, hp, hr⟩ | ⟨_, h⟩
  · exact h
  · exact absurd (hps p hp) (by omega)
  · omega

theorem countSpec_of_ok (R : Int) (ps : List Path) (n m : Nat) (h : countSpec R ps n = .ok m) :
    (∀ p ∈ ps, res p ≤ R) ∧ m = n + sumKids R ps := by
  rcases countSpec_cases R ps n with ⟨e, ha⟩ | ⟨e, _⟩ | ⟨e, _⟩ <;> rewrite [e] at h
  · exact ⟨ha, (Outcome.ok.inj h).symm⟩
  · cases h
  · cases h

theorem countSpec_err (R : Int) (ps : List Path) (n : Nat) (e : ErrKind) (h : countSpec R ps n = .err e) :
    e = .targetCoarser ∧ ∃ p ∈ ps, res p > R := by
  rcases countSpec_cases R ps n with ⟨e', _⟩ | ⟨e', hp⟩ | ⟨e', _⟩ <;> rewrite [e'] at h
  · cases h
  · cases h; exact ⟨rfl, hp⟩
  · cases h

theorem countSpec_coarser (R : Int) (ps : List Path) (n : Nat) (h : ∃ p ∈ ps, res p > R) :
    (n + sumKids R ps < 2 ^ 64 → countSpec R ps n = .err .targetCoarser) ∧
    (countSpec R ps n = .err .targetCoarser ∨ countSpec R ps n = .panic .addOverflow) := by
  rcases countSpec_cases R ps n with ⟨_, ha⟩ | ⟨e, _⟩ | ⟨e, hov⟩
  · obtain ⟨p, hp, hr⟩ := h; exact absurd (ha p hp) (by omega)
  · exact ⟨fun _ => e, Or.inl e⟩
  · exact ⟨fun hn => absurd hov (by omega), Or.inr e⟩

theorem uncompactStep_enc {p : Path} (hp : WF p) (R : Int) (h : res p ≤ R) (hR : R ≤ 29) :
    uncompactStep R (enc p) = expand R p := by
  obtain ⟨e, _, h1, _⟩ := numChildren_spec (res p) R (res_ge p) h hR
  unfold uncompactStep
  rewrite [getResolution_enc_path hp, e]
  simp only [Outcome.bind_ok, expand]
  by_cases heq : res p = R
  · rewrite [if_pos (h1.2 heq), cellToParent_anc hp (res p) (res_ge p) (Int.le_refl _),
      ancestorAt_self p _ (Int.le_refl _), if_neg (by omega), ← heq, descendantsOrdered_self]
    rfl
  · rewrite [if_neg (fun hk => heq (h1.1 hk)), cellToChildren_enc hp, if_neg (by omega), if_neg (by omega),
      if_neg (by omega)]
    by_cases hg : R - max (res p) 1 > 20
    · rewrite [if_pos hg, if_pos hg]; rfl
    · rewrite [if_neg hg, if_neg hg, if_neg (by omega)]; rfl

/-- the number of output cells the tree dictates -/
def total (R : Int) (ps : List Path) : Nat := (ps.map (fun p => fanout (R - res p).toNat (res p))).sum

theorem sumKids_eq_total (R : Int) (hR : R ≤ 29) (ps : List Path)
    (hps : ∀ p ∈ ps, res p ≤ R ∧ R - max (res p) 1 ≤ 20) : sumKids R ps = total R ps := by
  simp only [sumKids, total]
  refine congrArg List.sum (List.map_congr_left (fun p hp => ?_))
  exact (numChildren_spec (res p) R (res_ge p) (hps p hp).1 hR).2.2.2 (hps p hp).2

theorem expand_err (R : Int) (ps : List Path) (e : ErrKind) (h : flatMapOutcome (expand R) ps = .err e) :
    e = .diffTooLarge := by
  induction ps with
  | nil => simp only [flatMapOutcome] at h; cases h
  | cons p ps ih =>
    simp only [flatMapOutcome, expand] at h
    by_cases hg : R - max (res p) 1 > 20
    · rewrite [if_pos hg] at h; simp only [Outcome.bind_err] at h; cases h; rfl
    · rewrite [if_neg hg] at h; simp only [Outcome.bind_ok] at h
      cases hl : flatMapOutcome (expand R) ps with
      | ok w => rewrite [hl] at h; simp only [Outcome.bind_ok] at h; cases h
      | err e' => rewrite [hl] at h; simp only [Outcome.bind_err] at h; cases h; exact ih hl
      | panic k => rewrite [hl] at h; simp only [Outcome.bind_panic] at h; cases h

theorem kids_lt (r R : Int) (h1 : -1 ≤ r) (hR : R ≤ 29) : kids r R < 2 ^ 62 := by
  by_cases h : r ≤ R
  · exact (numChildren_spec r R h1 h hR).2.1
  · simp only [kids, getNumChildren_of_lt (Int.not_le.mp h)]; omega

end C09

end A5
