import A5.Lemmas.Total
import A5.Lemmas.CompactLoop
/-! Totality of `compact`, unconditionally: the sibling test on canonical ids never panics, one scan never lengthens the list and
shortens it when it reports a change, so the `while changed` loop ends before its fuel does. -/
namespace A5
open Path CompactMax CompactC08

theorem groupAt_ok (c : Nat) (rest : List Nat) (hl : Layout c) :
    ∃ g k, groupAt c rest = .ok (g, k) ∧ (g = true → 4 ≤ k ∧ k ≤ rest.length + 1 ∧ 0 ≤ getResolution c) := by
  obtain ⟨p, hp, rfl⟩ := exists_path_of_layout c hl
  obtain ⟨g, k, h1, h2, h3⟩ := groupAt_enc hp rest
  refine ⟨g, k, h1, fun hg => ?_⟩
  obtain ⟨hw, hpre⟩ := h3.1 hg
  have hlen := hpre.length_le
  rw [List.length_map, length_children, ← h2 hw, List.length_cons] at hlen
  rw [h2 hw, getResolution_enc_path hp]
  exact ⟨(Order.fan_le _).1, h2 hw ▸ hlen, by cases p <;> first | exact absurd rfl hw | (simp only [res]; omega)⟩

theorem compactScan_ok (xs : List Nat) (skip : Nat) (hl : ∀ x ∈ xs, Layout x) :
    ∃ out ch, compactScan xs skip = .ok (out, ch) ∧ (∀ x ∈ out, Layout x) ∧
      out.length ≤ xs.length - skip ∧ (skip = 0 → ch = true → out.length < xs.length) := by
  obtain ⟨U, rfl, hU⟩ := exists_paths xs (fun x hx => exists_path_of_layout x (hl x hx))
  obtain ⟨hm, hle, hlt⟩ := pscan_spec U skip hU
  refine ⟨_, _, compactScan_enc U skip hU, layout_map_enc (hm.wf fun p hp => hU p (List.mem_of_mem_drop hp)), ?_, ?_⟩
  · rw [List.length_map, List.length_map]; exact hle
  · rintro rfl h; rw [List.length_map, List.length_map]; exact hlt h

theorem compactLoop_ok (fuel : Nat) (xs : List Nat) (hl : ∀ x ∈ xs, Layout x) (hf : xs.length < fuel) :
    ∃ out, compactLoop fuel xs = .ok out ∧ (∀ x ∈ out, Layout x) ∧ out.length ≤ xs.length := by
  obtain ⟨U, rfl, hU⟩ := exists_paths xs (fun x hx => exists_path_of_layout x (hl x hx))
  rw [List.length_map] at hf ⊢
  obtain ⟨R, h1, hr, _⟩ := compactLoop_spec fuel U hU hf
  exact ⟨_, h1, layout_map_enc hr.wf, by rw [List.length_map]; exact hr.length_le⟩

theorem compact_unfold (c : Nat) (cs : List Nat) :
    compact (c :: cs) = (mapOutcome canonId (c :: cs) >>= fun canon =>
      compactLoop (canon.eraseDups.length + 1) (sortByKey hierarchyKey canon.eraseDups)) := rfl

theorem compact_outcome (cells : List Nat) :
    (∃ e, compact cells = .err e ∧ mapOutcome canonId cells = .err e) ∨
    (∃ out, compact cells = .ok out ∧ (∀ x ∈ out, Layout x) ∧ out.length ≤ cells.length) := by
  cases cells with
  | nil => exact Or.inr ⟨[], rfl, fun x hx => (by cases hx), Nat.le_refl _⟩
  | cons c cs =>
    have hnp := mapOutcome_noPanic canonId (c :: cs) (fun a _ => by
      rcases canonId_cases a with ⟨_, _, _, h⟩ | ⟨_, h⟩ <;> (rewrite [h]; rfl))
    cases hm : mapOutcome canonId (c :: cs) with
    | panic k => rewrite [hm] at hnp; cases hnp
    | err e => exact Or.inl ⟨e, by rewrite [compact_unfold, hm]; rfl, rfl⟩
    | ok canon =>
      have hcanon : ∀ x ∈ canon, Layout x := by
        intro x hx
        obtain ⟨a, _, ha⟩ := (mapOutcome_eq_ok canonId _ _ hm).2.1 x hx
        rcases canonId_cases a with ⟨p, hp, _, h⟩ | ⟨_, h⟩
        · rewrite [h] at ha; cases Outcome.ok.inj ha; exact layout_enc_path hp
        · rewrite [h] at ha; cases ha
      obtain ⟨U, rfl, hU⟩ := exists_paths canon (fun x hx => exists_path_of_layout x (hcanon x hx))
      obtain ⟨R, h1, hr, _⟩ := compact_enc_spec U hU
      refine Or.inr ⟨_, (compact_canon _ U hU hm).trans h1, layout_map_enc hr.wf, ?_⟩
      have := hr.length_le
      have := mapOutcome_ok_length canonId _ _ hm
      rw [List.length_map] at this ⊢
      omega

theorem compact_never_panics (cells : List Nat) : (compact cells).isPanic = false := by
  rcases compact_outcome cells with ⟨e, h, _⟩ | ⟨out, h, _⟩ <;> (rewrite [h]; rfl)

theorem compact_valid (cells out : List Nat) (h : compact cells = .ok out) :
    (∀ x ∈ out, Layout x) ∧ out.length ≤ cells.length := by
  rcases compact_outcome cells with ⟨e, h', _⟩ | ⟨out', h', a, b⟩
  · rewrite [h'] at h; cases h
  · rewrite [h'] at h; cases Outcome.ok.inj h; exact ⟨a, b⟩

theorem compact_alias (id : Nat) (c : Cell) (l : List Nat) (hd : deserialize id = .ok c) :
    compact (id :: l) = compact (encNat c :: l) := by
  have hv := deserialize_ok_valid' id c hd
  have h : canonId id = canonId (encNat c) := by
    unfold canonId; rewrite [hd, deserialize_enc c hv]; rfl
  rewrite [compact_unfold, compact_unfold, mapOutcome_cons, mapOutcome_cons, h]
  rfl

theorem compact_bad_head (id : Nat) (l : List Nat) (hd : deserialize id = .err .badOrigin) :
    compact (id :: l) = .err .badOrigin := by
  have h : canonId id = .err .badOrigin := by unfold canonId; rewrite [hd]; simp only [Outcome.bind_err]
  rewrite [compact_unfold, mapOutcome_cons, h]; simp only [Outcome.bind_err]

theorem compact_ok_decodes (cells out : List Nat) (h : compact cells = .ok out) :
    ∀ c ∈ cells, ∃ cell, deserialize c = .ok cell := by
  intro c hc
  cases cells with
  | nil => cases hc
  | cons x xs =>
    rewrite [compact_unfold] at h
    obtain ⟨canon, hm, _⟩ := Outcome.bind_eq_ok _ _ _ h
    obtain ⟨b, hb⟩ := (mapOutcome_eq_ok canonId _ _ hm).2.2 c hc
    rcases canonId_cases c with ⟨p, _, hd, _⟩ | ⟨_, he⟩
    · exact ⟨_, hd⟩
    · rewrite [he] at hb; cases hb

end A5
