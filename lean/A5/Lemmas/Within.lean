import A5.Model.CellGeo
import A5.Lemmas.OutcomeLemmas
/-! Outcomes restricted to given error / panic kinds (`Outcome.Within`) through `>>=` and the
sequential map `mapOutcome'`.  Core-only. -/
namespace A5

/-- `x.Within E K`: if `x` is an error its kind satisfies `E`, if it is a panic its kind satisfies `K` -/
def Outcome.Within {α : Type} (E : ErrKind → Prop) (K : PanicKind → Prop) : Outcome α → Prop
  | .ok _ => True
  | .err e => E e
  | .panic k => K k

namespace Outcome.Within
variable {α β : Type} {E E' : ErrKind → Prop} {K K' : PanicKind → Prop} {x : Outcome α}

theorem bind {f : α → Outcome β} (hx : x.Within E K) (hf : ∀ v, x = .ok v → (f v).Within E K) :
    (x >>= f).Within E K := by
  cases x with
  | ok v => simp only [Outcome.bind_ok]; exact hf v rfl
  | err e => simp only [Outcome.bind_err]; exact hx
  | panic k => simp only [Outcome.bind_panic]; exact hx

theorem mono (hx : x.Within E K) (hE : ∀ e, E e → E' e) (hK : ∀ k, K k → K' k) : x.Within E' K' := by
  cases x with
  | ok v => trivial
  | err e => exact hE e hx
  | panic k => exact hK k hx

theorem ok (v : α) : (Outcome.ok v).Within E K := trivial

theorem err_iff (e : ErrKind) : (Outcome.err e : Outcome α).Within E K ↔ E e := Iff.rfl

theorem panic_iff (k : PanicKind) : (Outcome.panic k : Outcome α).Within E K ↔ K k := Iff.rfl

theorem of_err {e : ErrKind} (h : x.Within E K) (hx : x = .err e) : E e := by
  subst hx; exact h

theorem of_panic {k : PanicKind} (h : x.Within E K) (hx : x = .panic k) : K k := by
  subst hx; exact h

theorem elim (h : x.Within E K) :
    (∃ v, x = .ok v) ∨ (∃ e, x = .err e ∧ E e) ∨ (∃ k, x = .panic k ∧ K k) := by
  cases x with
  | ok v => exact Or.inl ⟨v, rfl⟩
  | err e => exact Or.inr (Or.inl ⟨e, rfl, h⟩)
  | panic k => exact Or.inr (Or.inr ⟨k, rfl, h⟩)

theorem exists_ok (h : x.Within (fun _ => False) (fun _ => False)) : ∃ v, x = .ok v := by
  cases x with
  | ok v => exact ⟨v, rfl⟩
  | err e => exact False.elim h
  | panic k => exact False.elim h

theorem not_panic (h : x.Within E (fun _ => False)) : x.isPanic = false := by
  cases x with
  | ok v => rfl
  | err e => rfl
  | panic k => exact False.elim h

end Outcome.Within

/-- only `crsVertex` errors, no panic -/
abbrev OkOrCrs {α : Type} (x : Outcome α) : Prop := x.Within (· = .crsVertex) (fun _ => False)

/-- only `crsVertex` errors and `notCCW` panics -/
abbrev Benign {α : Type} (x : Outcome α) : Prop := x.Within (· = .crsVertex) (· = .notCCW)

theorem OkOrCrs.benign {α : Type} {x : Outcome α} (h : OkOrCrs x) : Benign x :=
  Outcome.Within.mono h (fun _ h => h) (fun _ h => h.elim)

theorem OkOrCrs.cases {α : Type} {x : Outcome α} (h : OkOrCrs x) : x = .err .crsVertex ∨ ∃ v, x = .ok v := by
  cases x with
  | ok v => exact Or.inr ⟨v, rfl⟩
  | err e => exact Or.inl (congrArg Outcome.err h)
  | panic k => exact False.elim h

theorem Benign.cases {α : Type} {x : Outcome α} (h : Benign x) :
    (∃ v, x = .ok v) ∨ x = .err .crsVertex ∨ x = .panic .notCCW := by
  cases x with
  | ok v => exact Or.inl ⟨v, rfl⟩
  | err e => exact Or.inr (Or.inl (congrArg Outcome.err h))
  | panic k => exact Or.inr (Or.inr (congrArg Outcome.panic h))

attribute [irreducible] Outcome.Within

theorem mapOutcome'_cons {α β : Type} (f : α → Outcome β) (a : α) (as : List α) :
    mapOutcome' f (a :: as) = (f a >>= fun b => mapOutcome' f as >>= fun bs => .ok (b :: bs)) := rfl

theorem mapOutcome'_within {α β : Type} {E : ErrKind → Prop} {K : PanicKind → Prop} (f : α → Outcome β)
    (hf : ∀ a, (f a).Within E K) : ∀ l : List α, (mapOutcome' f l).Within E K := by
  intro l
  induction l with
  | nil => exact Outcome.Within.ok _
  | cons a as ih =>
    rewrite [mapOutcome'_cons]
    refine Outcome.Within.bind (hf a) fun b _ => ?_
    refine Outcome.Within.bind ih fun bs _ => ?_
    exact Outcome.Within.ok _

/-- the boundary pipeline's sequential map is `mapOutcome` under another name -/
theorem mapOutcome'_eq {α β : Type} (f : α → Outcome β) : ∀ l : List α, mapOutcome' f l = mapOutcome f l := by
  intro l
  induction l with
  | nil => rfl
  | cons a as ih => rewrite [mapOutcome'_cons, mapOutcome_cons, ih]; rfl

theorem mapOutcome'_length {α β : Type} (f : α → Outcome β) (l : List α) (l' : List β)
    (h : mapOutcome' f l = .ok l') : l'.length = l.length :=
  mapOutcome_ok_length f l l' ((mapOutcome'_eq f l).symm.trans h)

theorem mapOutcome'_panic {α β : Type} (f : α → Outcome β) (k : PanicKind) :
    ∀ l : List α, mapOutcome' f l = .panic k → ∃ a ∈ l, f a = .panic k := by
  intro l
  induction l with
  | nil => intro h; cases h
  | cons a as ih =>
    intro h
    rewrite [mapOutcome'_cons] at h
    rcases Outcome.bind_eq_panic h with ha | ⟨b, _, h⟩
    · exact ⟨a, List.mem_cons_self, ha⟩
    · rcases Outcome.bind_eq_panic h with hr | ⟨bs, _, h⟩
      · obtain ⟨x, hx, hfx⟩ := ih hr
        exact ⟨x, List.mem_cons_of_mem _ hx, hfx⟩
      · cases h

end A5
