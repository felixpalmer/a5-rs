import A5.Model.Geo
import A5.Model.Hier
/-! Model of `src/core/cell.rs` (after the `fix:` commits) and `cell_info.rs::cell_area`. -/
namespace A5

structure Estimate where
  cell : Cell
  deriving Inhabited

/-- `lonlat_to_estimate` -/
def lonlatToEstimate (lon lat : Float) (resolution : Int) : Outcome Cell :=
  let (theta, phi) := fromLonLat lon lat
  let origin := findNearestOrigin theta phi
  dodecaForward theta phi origin.id >>= fun dp =>
  let (_, gamma) := toPolar dp
  let quintant := getQuintantPolar gamma
  let (segment, orientation) := quintantToSegment quintant origin
  if resolution < Gen.FIRST_HILBERT_RESOLUTION then
    .ok ⟨origin.id, segment, 0, resolution⟩
  else
    let dp : V2 :=
      if quintant != 0 then
        let extra := 2.0 * fc Gen.PI_OVER_5 * Float.ofNat quintant
        let c := (-extra).cos
        let s := (-extra).sin
        ⟨c * dp.x - s * dp.y, s * dp.x + c * dp.y⟩
      else dp
    let hres := 1 + resolution - Gen.FIRST_HILBERT_RESOLUTION
    let scale := Float.ofNat (2 ^ hres.toNat)
    let dp : V2 := ⟨dp.x * scale, dp.y * scale⟩
    let (i, j) := faceToIJ dp
    ijToS floatLits i j hres.toNat orientation >>= fun s =>
    .ok ⟨origin.id, segment, s, resolution⟩

/-- `get_pentagon(cell)` -/
def getPentagon (c : Cell) : Outcome Poly :=
  if c.origin ≥ origins.length then .panic .indexOOB
  else
    let (quintant, orientation) := segmentToQuintant c.segment (originAt c.origin)
    if c.res = Gen.FIRST_HILBERT_RESOLUTION - 1 then .ok (getQuintantVertices quintant)
    else if c.res = Gen.FIRST_HILBERT_RESOLUTION - 2 then .ok getFaceVertices
    else
      let hres := c.res - Gen.FIRST_HILBERT_RESOLUTION + 1
      if hres < 0 then .panic .fuel   -- `hres as usize` is astronomically large: the digit loop never ends
      else
        sToAnchor c.s hres.toNat orientation >>= fun anchor =>
        .ok (getPentagonVertices hres quintant anchor)

/-- `a5cell_contains_point(cell, point)` -/
def cellContainsPoint (c : Cell) (lon lat : Float) : Outcome Float :=
  let (theta, phi) := fromLonLat lon lat
  dodecaForward theta phi c.origin >>= fun pp =>
  if c.origin ≥ origins.length then .panic .indexOOB
  else
    let (quintant, _) := segmentToQuintant c.segment (originAt c.origin)
    if c.res = Gen.FIRST_HILBERT_RESOLUTION - 1 then polyContains (getQuintantVertices quintant) pp
    else if c.res = Gen.FIRST_HILBERT_RESOLUTION - 2 then polyContains getFaceVertices pp
    else getPentagon c >>= fun p => polyContains p pp

/-- `a5cell_distance_outside` (fix for defect F16): distance in the plane of the cell's face from the point to the cell's pentagon -/
def cellDistanceOutside (c : Cell) (lon lat : Float) : Outcome Float :=
  let (theta, phi) := fromLonLat lon lat
  dodecaForward theta phi c.origin >>= fun pp =>
  getPentagon c >>= fun p => .ok (polyDistanceOutside p pp)

/-- which branch produced the answer: k ≥ 0 = k-th distinct estimate hit, -1 = fallback, -2 = low res -/
structure LookupResult where
  id : Nat
  branch : Int
  deriving Inhabited

/-- `f64::to_radians` / `f64::to_degrees` of Rust's std: multiplication by the constant-folded `PI / 180.0` resp.
`180.0 / PI` (bit patterns of those two `f64` quotients) -/
def stdToRadians (x : Float) : Float := x * Float.ofBits 0x3f91df46a2529d39
def stdToDegrees (x : Float) : Float := x * Float.ofBits 0x404ca5dc1a63c1f8

/-- `offset_lonlat` (fix 24ee3fd): move a point by `east` / `north` degrees of arc along the local east and north directions -/
def offsetLonLat (lon lat east north : Float) : Float × Float :=
  let lo := stdToRadians lon
  let la := stdToRadians lat
  let de := stdToRadians east
  let dn := stdToRadians north
  let sinLon := lo.sin
  let cosLon := lo.cos
  let sinLat := la.sin
  let cosLat := la.cos
  let x := cosLat * cosLon - de * sinLon - dn * sinLat * cosLon
  let y := cosLat * sinLon + de * cosLon - dn * sinLat * sinLon
  let z := sinLat + dn * cosLat
  (stdToDegrees (Float.atan2 y x), stdToDegrees (Float.atan2 z (x * x + y * y).sqrt))

def probeSamples (lon lat : Float) (hres : Int) : List (Float × Float) :=
  let n := Gen.PROBE_COUNT
  let pow := if hres ≥ 0 then Float.ofNat (2 ^ hres.toNat) else 1.0 / Float.ofNat (2 ^ (-hres).toNat)
  let scale := fc Gen.PROBE_SCALE / pow
  (lon, lat) :: (List.range n).map (fun i =>
    let fi := Float.ofNat i
    let r := (fi / Float.ofNat n) * scale
    offsetLonLat lon lat (fi.cos * r) (fi.sin * r))

/-- the sample loop of `lonlat_to_cell`: `seen` = keys already tried, `cells` = (estimate, distance) misses -/
def lookupLoop (lon lat : Float) (resolution : Int) :
    List (Float × Float) → List Nat → List (Cell × Float) → Outcome LookupResult
  | [], _, cells =>
    -- fallback: first maximum of the distances (stable sort, descending)
    match cells with
    | [] => .panic .indexOOB
    | c0 :: rest =>
      let best := rest.foldl (fun (b : Cell × Float) c => if c.2 > b.2 then c else b) c0
      serialize best.1 >>= fun id => .ok ⟨id, -1⟩
  | (slon, slat) :: samples, seen, cells =>
    lonlatToEstimate slon slat resolution >>= fun est =>
    serialize est >>= fun key =>
    if seen.contains key then lookupLoop lon lat resolution samples seen cells
    else
      cellContainsPoint est lon lat >>= fun distance =>
      if distance > 0.0 then serialize est >>= fun id => .ok ⟨id, seen.length⟩
      else
        -- a miss is ranked by its perpendicular distance to the point (negated: the fallback takes the first maximum)
        cellDistanceOutside est lon lat >>= fun outside =>
        lookupLoop lon lat resolution samples (seen ++ [key]) (cells ++ [(est, -outside)])

def lonlatToCellB (lon lat : Float) (resolution : Int) : Outcome LookupResult :=
  if resolution = -1 then .ok ⟨Gen.WORLD_CELL, -3⟩
  else if !(decide (-1 ≤ resolution) && decide (resolution < Gen.MAX_RESOLUTION)) then .err .resOutOfRange
  else if resolution < Gen.FIRST_HILBERT_RESOLUTION then
    lonlatToEstimate lon lat resolution >>= fun est => serialize est >>= fun id => .ok ⟨id, -2⟩
  else
    let hres := 1 + resolution - Gen.FIRST_HILBERT_RESOLUTION
    lookupLoop lon lat resolution (probeSamples lon lat hres) [] []

def lonlatToCell (lon lat : Float) (resolution : Int) : Outcome Nat :=
  lonlatToCellB lon lat resolution >>= fun r => .ok r.id

def cellToLonLat (id : Nat) : Outcome (Float × Float) :=
  if id = Gen.WORLD_CELL then .ok (0.0, 0.0)
  else
    deserialize id >>= fun c =>
    if c.res = -1 then .ok (0.0, 0.0)
    else
      getPentagon c >>= fun p =>
      dodecaInverse (polyCenter p) c.origin >>= fun (t, ph) => .ok (toLonLat t ph)

def mapOutcome' {α β : Type} (f : α → Outcome β) : List α → Outcome (List β)
  | [] => .ok []
  | a :: as => f a >>= fun b => mapOutcome' f as >>= fun bs => .ok (b :: bs)

/-- tail-recursive twin of `mapOutcome'` for compiled code (rings of 10^7 points and more), by the proved equation below -/
def mapOutcomeTR'.go {α β : Type} (f : α → Outcome β) : List α → List β → Outcome (List β)
  | [], acc => .ok acc.reverse
  | a :: as, acc =>
    match f a with
    | .ok b => mapOutcomeTR'.go f as (b :: acc)
    | .err e => .err e
    | .panic k => .panic k

def mapOutcomeTR' {α β : Type} (f : α → Outcome β) (l : List α) : Outcome (List β) := mapOutcomeTR'.go f l []

theorem mapOutcomeTR'_go_eq {α β : Type} (f : α → Outcome β) : ∀ (l : List α) (acc : List β),
    mapOutcomeTR'.go f l acc = (mapOutcome' f l >>= fun bs => .ok (acc.reverse ++ bs)) := by
  intro l
  induction l with
  | nil => intro acc; simp [mapOutcomeTR'.go, mapOutcome']
  | cons a as ih =>
    intro acc
    unfold mapOutcomeTR'.go mapOutcome'
    cases f a with
    | ok b => simp only [Outcome.bind_ok, ih]; cases mapOutcome' f as <;> simp
    | err e => rfl
    | panic k => rfl

@[csimp] theorem mapOutcome'_eq_TR : @mapOutcome' = @mapOutcomeTR' := by
  funext α β f l
  unfold mapOutcomeTR'
  rw [mapOutcomeTR'_go_eq]
  cases mapOutcome' f l <;> simp

theorem normalizeLongitudes_mapOutcomeF_eq {α β : Type} (f : α → Outcome β) :
    ∀ l : List α, normalizeLongitudes.mapOutcomeF f l = mapOutcome' f l := by
  intro l
  induction l with
  | nil => rfl
  | cons a as ih => unfold normalizeLongitudes.mapOutcomeF mapOutcome'; rw [ih]

/-- `normalizeLongitudes` with its local sequential map replaced by `mapOutcome'` (hence, in compiled code, by the tail-recursive twin) -/
def normalizeLongitudesFast (contour : List (Float × Float)) : Outcome (List (Float × Float)) :=
  match contour with
  | [] => .ok []
  | first :: _ =>
    let pts := contour.map (fun (lon, lat) => let (t, p) := fromLonLat lon lat; toCartesian t p)
    let c := pts.foldl (fun (acc : V3) p => ⟨acc.x + p.x, acc.y + p.y, acc.z + p.z⟩) ⟨0.0, 0.0, 0.0⟩
    let length := (c.x * c.x + c.y * c.y + c.z * c.z).sqrt
    let c : V3 := if length > 0.0 then ⟨c.x / length, c.y / length, c.z / length⟩ else c
    let (ct, cp) := toSpherical c
    let (centerLon0, centerLat) := toLonLat ct cp
    let centerLon := if !(fc Gen.POLE_LAT_LO ≤ centerLat && centerLat ≤ fc Gen.POLE_LAT_HI) then first.1 else centerLon0
    let centerLon := fmod360 (fmod360 (centerLon + 180.0) + 360.0) - 180.0
    mapOutcome' (fun (lon, lat) => unwrapLon 64 lon centerLon >>= fun l => .ok (l, lat)) contour

@[csimp] theorem normalizeLongitudes_eq_fast : @normalizeLongitudes = @normalizeLongitudesFast := by
  funext contour
  unfold normalizeLongitudes normalizeLongitudesFast
  cases contour with
  | nil => rfl
  | cons first rest => simp only [normalizeLongitudes_mapOutcomeF_eq]

/-- `cell_to_boundary(cell, Some(options))`; `segments = none` is the resolution-dependent default -/
def cellToBoundary (id : Nat) (closedRing : Bool) (segments : Option Nat) : Outcome (List (Float × Float)) :=
  if id = Gen.WORLD_CELL then .ok []
  else
    deserialize id >>= fun c =>
    if c.res = -1 then .ok []
    else
      let segs : Nat := match segments with
        | some n => n
        | none => max 1 (2 ^ (max (Gen.DEFAULT_SEGMENTS_BASE - c.res) 0).toNat)
      getPentagon c >>= fun p =>
      let split := polySplitEdges p segs
      mapOutcome' (fun v => dodecaInverse v c.origin) split >>= fun sph =>
      let boundary := sph.map (fun (t, ph) => toLonLat t ph)
      normalizeLongitudes boundary >>= fun nb =>
      match nb with
      | [] => .panic .indexOOB
      | first :: _ =>
        let nb := if closedRing then nb ++ [first] else nb
        .ok nb.reverse

/-- `cell_area(resolution)` -/
def cellArea (res : Int) : Float :=
  if res < 0 then fc Gen.AUTHALIC_AREA
  else match Gen.CELL_AREA_TABLE[res.toNat]? with
    | some c => fc c
    | none => fc Gen.AUTHALIC_AREA / Float.ofNat (getNumCells res)

end A5
