import A5.Model.Geo
/-! # Generic twins of `PentagonShape::contains_point` and `PentagonShape::distance_outside`

The point lookup (`lonlat_to_cell`) tests candidate cells with `contains_point` and, when no tried cell contains the
point, falls back to the tried cell with the smallest `distance_outside`.  Both functions walk the edges `v1 → v2` of the
polygon (in the vertex order the winding assertion `is_winding_correct` accepts, which the Rust code calls
counter-clockwise; the inner side of an edge is `cross ≥ 0`) and look at the same number

  `cross = (v1.x - v2.x) * (p.y - v1.y) - (v1.y - v2.y) * (p.x - v1.x)`:

* `contains_point`: `1.0` when no `cross` is negative, otherwise the minimum of `cross / |p - v1|` over the violated edges;
* `distance_outside`: `0.0` when no `cross` is negative, otherwise the maximum of `-cross / |v1 - v2|` over them.

This file states the two loops of the `Float` model (`polyContains`, `polyDistanceOutside` in `A5/Model/Geo.lean`) over an
arbitrary scalar type: `+ - * / neg <` are instance arguments, the remaining operations (`0`, `1`, `sqrt`, `f64::max`,
`f64::min`) are passed explicitly in a small record `Ops α` (`floatOps` lists what the model uses).  The twins are left
folds over the list of edges (`edgesG`); `crossesG` is the list of the `cross` values in loop order.

The model functions are the twins at `Float` by induction on the loop counter, the arithmetic by `rfl`: nothing about
float arithmetic is used.

`A5/Lemmas/DistanceOutside.lean` instantiates the twins at `ℝ` and proves what they mean.

Core only (no Mathlib): this file is part of the model layer. -/
namespace A5.DG
variable {α : Type}

/-- the operations of the two loops besides `+ - * / neg <`: the literals `0.0` and `1.0`, `f64::sqrt`, `f64::max`,
`f64::min` -/
structure Ops (α : Type) where
  zero : α
  one : α
  sqrt : α → α
  max : α → α → α
  min : α → α → α

/-- a directed edge `(v1, v2)` -/
abbrev Edge (α : Type) := (α × α) × (α × α)

/-- edge number `i` of the closed polygon: `(v_i, v_{(i+1) % n})` (`zero` pads out-of-range indices like the model's
`getD … default`; never used for `i < n`) -/
def edgeG (zero : α) (vs : List (α × α)) (i : Nat) : Edge α :=
  (vs.getD i (zero, zero), vs.getD ((i + 1) % vs.length) (zero, zero))

/-- the edges in loop order, `i = 0 … n-1` -/
def edgesG (zero : α) (vs : List (α × α)) : List (Edge α) := (List.range vs.length).map (edgeG zero vs)

/-- the number both loops compute for the edge `v1 → v2` and the point `p`:
`dx * py - dy * px` with `dx = v1.x - v2.x`, `dy = v1.y - v2.y`, `px = p.x - v1.x`, `py = p.y - v1.y` -/
def crossG [Sub α] [Mul α] (v1 v2 p : α × α) : α :=
  (v1.1 - v2.1) * (p.2 - v1.2) - (v1.2 - v2.2) * (p.1 - v1.1)

/-- the `cross` values, edge by edge, cyclic, in loop order -/
def crossesG [Sub α] [Mul α] (zero : α) (vs : List (α × α)) (p : α × α) : List α :=
  (edgesG zero vs).map fun e => crossG e.1 e.2 p

/-- `|v1 - v2|` as `distance_outside` computes it -/
def edgeLenG [Add α] [Sub α] [Mul α] (K : Ops α) (e : Edge α) : α :=
  K.sqrt ((e.1.1 - e.2.1) * (e.1.1 - e.2.1) + (e.1.2 - e.2.2) * (e.1.2 - e.2.2))

/-- `|p - v1|` as `contains_point` computes it -/
def pointLenG [Add α] [Sub α] [Mul α] (K : Ops α) (p : α × α) (e : Edge α) : α :=
  K.sqrt ((p.1 - e.1.1) * (p.1 - e.1.1) + (p.2 - e.1.2) * (p.2 - e.1.2))

/-- one iteration of the loop of `distance_outside` -/
def distStepG [Add α] [Sub α] [Mul α] [Div α] [Neg α] [LT α] [DecidableLT α] (K : Ops α) (p : α × α)
    (dMax : α) (e : Edge α) : α :=
  if crossG e.1 e.2 p < K.zero then K.max dMax (-crossG e.1 e.2 p / edgeLenG K e) else dMax

/-- one iteration of the loop of `contains_point` -/
def containsStepG [Add α] [Sub α] [Mul α] [Div α] [LT α] [DecidableLT α] (K : Ops α) (p : α × α)
    (dMax : α) (e : Edge α) : α :=
  if crossG e.1 e.2 p < K.zero then K.min dMax (crossG e.1 e.2 p / pointLenG K p e) else dMax

/-- generic twin of `polyDistanceOutside` (`PentagonShape::distance_outside`) -/
def distanceOutsideG [Add α] [Sub α] [Mul α] [Div α] [Neg α] [LT α] [DecidableLT α] (K : Ops α)
    (vs : List (α × α)) (p : α × α) : α :=
  (edgesG K.zero vs).foldl (distStepG K p) K.zero

/-- generic twin of the loop of `polyContains` (`PentagonShape::contains_point` after its winding assertion) -/
def containsG [Add α] [Sub α] [Mul α] [Div α] [LT α] [DecidableLT α] (K : Ops α)
    (vs : List (α × α)) (p : α × α) : α :=
  (edgesG K.zero vs).foldl (containsStepG K p) K.one

/-- some edge has `cross < 0` (the branch both loops test), as a `Bool` -/
def violatedG [Sub α] [Mul α] [LT α] [DecidableLT α] (zero : α) (vs : List (α × α)) (p : α × α) : Bool :=
  (crossesG zero vs p).any fun c => decide (c < zero)

theorem edgesG_length (zero : α) (vs : List (α × α)) : (edgesG zero vs).length = vs.length := by
  unfold edgesG
  rewrite [List.length_map, List.length_range]
  rfl

theorem crossesG_length [Sub α] [Mul α] (zero : α) (vs : List (α × α)) (p : α × α) :
    (crossesG zero vs p).length = vs.length := by
  unfold crossesG
  rewrite [List.length_map]
  exact edgesG_length zero vs

theorem forall_crossesG_iff [Sub α] [Mul α] (zero : α) (vs : List (α × α)) (p : α × α) (P : α → Prop) :
    (∀ c ∈ crossesG zero vs p, P c) ↔
      ∀ i, i < vs.length → P (crossG (vs.getD i (zero, zero)) (vs.getD ((i + 1) % vs.length) (zero, zero)) p) := by
  unfold crossesG edgesG edgeG
  simp only [List.mem_map, List.mem_range]
  constructor
  · intro h i hi; exact h _ ⟨_, ⟨i, hi, rfl⟩, rfl⟩
  · rintro h c ⟨e, ⟨i, hi, rfl⟩, rfl⟩; exact h i hi

theorem violatedG_eq_false_iff [Sub α] [Mul α] [LT α] [DecidableLT α] (zero : α) (vs : List (α × α)) (p : α × α) :
    violatedG zero vs p = false ↔ ∀ c ∈ crossesG zero vs p, ¬ c < zero := by
  unfold violatedG
  simp only [List.any_eq_false, decide_eq_true_eq]

theorem foldl_fixed {β γ : Type} (f : β → γ → β) (l : List γ) (b : β) (h : ∀ e ∈ l, ∀ b, f b e = b) :
    l.foldl f b = b := by
  induction l generalizing b with
  | nil => rfl
  | cons e l ih =>
    rewrite [List.foldl_cons, h e List.mem_cons_self b]
    exact ih b fun e' he' => h e' (List.mem_cons_of_mem _ he')

theorem distanceOutsideG_of_no_violation [Add α] [Sub α] [Mul α] [Div α] [Neg α] [LT α] [DecidableLT α] (K : Ops α)
    (vs : List (α × α)) (p : α × α) (h : ∀ c ∈ crossesG K.zero vs p, ¬ c < K.zero) :
    distanceOutsideG K vs p = K.zero := by
  unfold distanceOutsideG
  refine foldl_fixed _ _ _ ?_
  intro e he b
  unfold distStepG
  exact if_neg (h _ (List.mem_map.2 ⟨e, he, rfl⟩))

theorem containsG_of_no_violation [Add α] [Sub α] [Mul α] [Div α] [LT α] [DecidableLT α] (K : Ops α)
    (vs : List (α × α)) (p : α × α) (h : ∀ c ∈ crossesG K.zero vs p, ¬ c < K.zero) :
    containsG K vs p = K.one := by
  unfold containsG
  refine foldl_fixed _ _ _ ?_
  intro e he b
  unfold containsStepG
  exact if_neg (h _ (List.mem_map.2 ⟨e, he, rfl⟩))

/-- what the model uses for each field -/
def floatOps : Ops Float where
  zero := 0.0
  one := 1.0
  sqrt := Float.sqrt
  max := fmax
  min := fmin

/-- the model's `V2` as a pair (the same function as `A5.PG.toPair`) -/
def toPair (v : V2) : Float × Float := (v.x, v.y)

theorem getD_map_toPair (vs : Poly) (j : Nat) :
    (vs.map toPair).getD j ((0.0 : Float), (0.0 : Float)) = toPair (vs.getD j default) := by
  simp only [List.getD_eq_getElem?_getD, List.getElem?_map]
  cases vs[j]? <;> rfl

theorem edgeG_float (vs : Poly) (i : Nat) :
    edgeG (0.0 : Float) (vs.map toPair) i =
      (toPair (vs.getD i default), toPair (vs.getD ((i + 1) % vs.length) default)) := by
  unfold edgeG
  rewrite [getD_map_toPair, getD_map_toPair, List.length_map]
  rfl

/-- the model's loop from counter `i` for `m` more iterations is the fold over the edges `i … i+m-1` -/
theorem polyDistanceOutside_go_eq (vs : Poly) (p : V2) (m i : Nat) (d : Float) :
    polyDistanceOutside.go vs p vs.length m i d =
      ((List.range' i m).map (edgeG (0.0 : Float) (vs.map toPair))).foldl (distStepG floatOps (toPair p)) d := by
  induction m generalizing i d with
  | zero => rfl
  | succ m ih =>
    unfold polyDistanceOutside.go
    rewrite [List.range'_succ, List.map_cons, List.foldl_cons, edgeG_float]
    simp only []
    rewrite [ih, ih]
    exact (apply_ite (fun x => List.foldl (distStepG floatOps (toPair p)) x _) _ _ _).symm

theorem polyContains_go_eq (vs : Poly) (p : V2) (m i : Nat) (d : Float) :
    polyContains.go vs p vs.length m i d =
      ((List.range' i m).map (edgeG (0.0 : Float) (vs.map toPair))).foldl (containsStepG floatOps (toPair p)) d := by
  induction m generalizing i d with
  | zero => rfl
  | succ m ih =>
    unfold polyContains.go
    rewrite [List.range'_succ, List.map_cons, List.foldl_cons, edgeG_float]
    simp only []
    rewrite [ih, ih]
    exact (apply_ite (fun x => List.foldl (containsStepG floatOps (toPair p)) x _) _ _ _).symm

theorem edgesG_float (vs : Poly) :
    edgesG (0.0 : Float) (vs.map toPair) = (List.range' 0 vs.length).map (edgeG (0.0 : Float) (vs.map toPair)) := by
  unfold edgesG
  rewrite [List.length_map, List.range_eq_range']
  rfl

/-- **tie**: the `Float` model's `distance_outside` is the generic twin evaluated at `Float` with the model's operations -/
theorem polyDistanceOutside_tie (vs : Poly) (p : V2) :
    polyDistanceOutside vs p = distanceOutsideG floatOps (vs.map toPair) (toPair p) := by
  unfold polyDistanceOutside distanceOutsideG
  simp only []
  rewrite [polyDistanceOutside_go_eq]
  exact congrArg (fun l => List.foldl _ _ l) (edgesG_float vs).symm

/-- **tie**: the `Float` model's `contains_point` is the winding assertion followed by the generic twin evaluated at
`Float` with the model's operations -/
theorem polyContains_tie (vs : Poly) (p : V2) :
    polyContains vs p =
      if !windingCorrect vs then .panic .notCCW else .ok (containsG floatOps (vs.map toPair) (toPair p)) := by
  unfold polyContains containsG
  simp only []
  rewrite [polyContains_go_eq]
  refine congrArg _ ?_
  refine congrArg _ ?_
  exact congrArg (fun l => List.foldl _ _ l) (edgesG_float vs).symm

/-- the list of `cross` values of the model (`Float` arithmetic, in loop order) -/
def polyCrosses (vs : Poly) (p : V2) : List Float := crossesG (0.0 : Float) (vs.map toPair) (toPair p)

/-- the model's own `cross` values, written out as in `polyContains` / `polyDistanceOutside` -/
theorem polyCrosses_eq (vs : Poly) (p : V2) :
    polyCrosses vs p = (List.range vs.length).map fun i =>
      let v1 := vs.getD i default
      let v2 := vs.getD ((i + 1) % vs.length) default
      let dx := v1.x - v2.x
      let dy := v1.y - v2.y
      let px := p.x - v1.x
      let py := p.y - v1.y
      dx * py - dy * px := by
  unfold polyCrosses crossesG edgesG
  rewrite [List.map_map, List.length_map]
  refine List.map_congr_left ?_
  intro i _
  show crossG (edgeG (0.0 : Float) (vs.map toPair) i).1 (edgeG (0.0 : Float) (vs.map toPair) i).2 (toPair p) = _
  rewrite [edgeG_float]
  rfl

/-- the `Bool` test "some edge has `cross < 0.0`" on the model's own cross values -/
def polyViolated (vs : Poly) (p : V2) : Bool := (polyCrosses vs p).any fun c => decide (c < 0.0)

theorem polyViolated_eq (vs : Poly) (p : V2) : polyViolated vs p = violatedG (0.0 : Float) (vs.map toPair) (toPair p) := rfl

/-- **inside value of `distance_outside`**: when no edge has `cross < 0.0` the `Float` model returns exactly `0.0`
(purely structural: `sqrt`, `/`, `f64::max` are never reached) -/
theorem polyDistanceOutside_eq_zero_of_no_violation (vs : Poly) (p : V2) (h : polyViolated vs p = false) :
    polyDistanceOutside vs p = 0.0 := by
  rewrite [polyDistanceOutside_tie]
  exact distanceOutsideG_of_no_violation floatOps _ _ ((violatedG_eq_false_iff _ _ _).1 h)

/-- **inside value of `contains_point`**: when the winding test passes and no edge has `cross < 0.0` the `Float` model
returns exactly `1.0` (purely structural: `sqrt`, `/`, `f64::min` are never reached) -/
theorem polyContains_eq_one_of_no_violation (vs : Poly) (p : V2) (hw : windingCorrect vs = true)
    (h : polyViolated vs p = false) : polyContains vs p = .ok 1.0 := by
  rewrite [polyContains_tie, hw]
  refine congrArg Outcome.ok ?_
  exact containsG_of_no_violation floatOps _ _ ((violatedG_eq_false_iff _ _ _).1 h)

/-- the two functions agree about "inside" on the `Float` model, in the direction that needs no float arithmetic:
whenever the lookup's fallback would see a nonzero distance, some edge test `cross < 0.0` fired -/
theorem polyViolated_of_distance_ne_zero (vs : Poly) (p : V2) (h : polyDistanceOutside vs p ≠ 0.0) :
    polyViolated vs p = true := by
  cases hv : polyViolated vs p
  · exact absurd (polyDistanceOutside_eq_zero_of_no_violation vs p hv) h
  · rfl

/-! ### non-vacuity: the unit square (kernel-evaluated `Float` arithmetic; `Float` has no decidable equality, so values
are compared through `toBits`)

Orientation: the model's winding test `windingCorrect` (`is_winding_correct`: trapezoid sum `Σ (x_j - x_i)(y_j + y_i) ≥ 0`)
accepts the square in the order `(0,0), (0,1), (1,1), (1,0)`; with that order the inner side of every edge is `cross ≥ 0`. -/

/-- the unit square in the vertex order the library's winding test accepts -/
def unitSquare : Poly := [⟨0.0, 0.0⟩, ⟨0.0, 1.0⟩, ⟨1.0, 1.0⟩, ⟨1.0, 0.0⟩]

example : windingCorrect unitSquare = true := by decide +kernel
/-- the centre: hypotheses of the two "no violation" theorems hold, so the results are `1.0` and `0.0` -/
example : polyViolated unitSquare ⟨0.5, 0.5⟩ = false := by decide +kernel
example : polyContains unitSquare ⟨0.5, 0.5⟩ = .ok 1.0 :=
  polyContains_eq_one_of_no_violation _ _ (by decide +kernel) (by decide +kernel)
example : polyDistanceOutside unitSquare ⟨0.5, 0.5⟩ = 0.0 :=
  polyDistanceOutside_eq_zero_of_no_violation _ _ (by decide +kernel)
/-- a boundary point (a vertex) counts as inside: `cross = 0` is not a violation -/
example : polyViolated unitSquare ⟨1.0, 1.0⟩ = false := by decide +kernel
/-- a point below the bottom edge at distance `0.5`: the edge test fires and the `Float` result is exactly `0.5` -/
example : polyViolated unitSquare ⟨0.5, -0.5⟩ = true := by decide +kernel
example : (polyDistanceOutside unitSquare ⟨0.5, -0.5⟩).toBits = (0.5 : Float).toBits := by decide +kernel
/-- beyond a corner the result is the larger of the two line distances (`1.0`), below the true distance `√1.25` -/
example : (polyDistanceOutside unitSquare ⟨2.0, -0.5⟩).toBits = (1.0 : Float).toBits := by decide +kernel

/-- the loop runs once per vertex -/
example (vs : Poly) (p : V2) : (polyCrosses vs p).length = vs.length := by
  unfold polyCrosses
  rewrite [crossesG_length, List.length_map]
  rfl

/-- the empty polygon has no edge, hence no violation, hence distance `0.0` -/
example (p : V2) : polyDistanceOutside [] p = 0.0 := polyDistanceOutside_eq_zero_of_no_violation [] p rfl

end A5.DG
