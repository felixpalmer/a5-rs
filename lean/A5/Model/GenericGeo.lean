import A5.Model.CellGeo
/-! # Generic twins of the float formulas

The float pipeline (`A5/Model/Geo.lean`) is written at `Float`, where no algebra is provable.  For every
formula that a property theorem talks about, this file defines a *generic twin*: the same expression tree,
with the scalar type `α` abstract (plain `[Add α] [Sub α] [Mul α] [Div α] [Neg α]` instance arguments), the
libm functions passed as explicit parameters (`sin cos : α → α`) and the float literals passed as explicit
arguments (`two`, `one`).  Each twin comes with a *tie lemma*
`model_function … = twin (α := Float) Float.sin Float.cos 2.0 …`, proved by `rfl` (definitional unfolding:
the two sides are the same expression).  The mathematical theorems (`A5/Lemmas/RealGeo.lean`,
`A5/Props/C04|C15|C16|C19.lean`) are proved about the twin at `ℝ` or at an arbitrary field; the tie lemma
links them to the executable model that is compared bit-for-bit with the Rust code.

Core only (no Mathlib): this file is part of the model layer. -/
namespace A5


/-- `|x|` on `Rat` (core has no `abs`); equals Mathlib's `|x|`, see `A5.RealGeo.ratAbs_eq_abs`. -/
def ratAbs (x : Rat) : Rat := if x < 0 then -x else x

namespace G
variable {α : Type}

/-! ### authalic.rs -/

/-- twin of `applyCoefficients` (`AuthalicProjection::apply_coefficients`) -/
def applyCoefficientsG [Add α] [Sub α] [Mul α] (sin cos : α → α) (two : α)
    (phi c0 c1 c2 c3 c4 c5 : α) : α :=
  let sinPhi := sin phi
  let cosPhi := cos phi
  let x := two * (cosPhi - sinPhi) * (cosPhi + sinPhi)
  let u0 := x * c5 + c4
  let u1 := x * u0 + c3
  let u0 := x * u1 - u0 + c2
  let u1 := x * u0 - u1 + c1
  let u0 := x * u1 - u0 + c0
  phi + two * sinPhi * cosPhi * u0

/-- the `i`-th coefficient of a generated table as a float (exactly the `g i` of the model) -/
def coeffF (c : List FConst) (i : Nat) : Float := fc (c.getD i ⟨0, 0, 0⟩)

theorem applyCoefficients_tie (phi : Float) (c : List FConst) :
    applyCoefficients phi c =
      applyCoefficientsG Float.sin Float.cos (2.0 : Float) phi
        (coeffF c 0) (coeffF c 1) (coeffF c 2) (coeffF c 3) (coeffF c 4) (coeffF c 5) := rfl

theorem authalicForward_tie (phi : Float) :
    authalicForward phi =
      applyCoefficientsG Float.sin Float.cos (2.0 : Float) phi
        (coeffF Gen.GEODETIC_TO_AUTHALIC 0) (coeffF Gen.GEODETIC_TO_AUTHALIC 1)
        (coeffF Gen.GEODETIC_TO_AUTHALIC 2) (coeffF Gen.GEODETIC_TO_AUTHALIC 3)
        (coeffF Gen.GEODETIC_TO_AUTHALIC 4) (coeffF Gen.GEODETIC_TO_AUTHALIC 5) := rfl

theorem authalicInverse_tie (phi : Float) :
    authalicInverse phi =
      applyCoefficientsG Float.sin Float.cos (2.0 : Float) phi
        (coeffF Gen.AUTHALIC_TO_GEODETIC 0) (coeffF Gen.AUTHALIC_TO_GEODETIC 1)
        (coeffF Gen.AUTHALIC_TO_GEODETIC 2) (coeffF Gen.AUTHALIC_TO_GEODETIC 3)
        (coeffF Gen.AUTHALIC_TO_GEODETIC 4) (coeffF Gen.AUTHALIC_TO_GEODETIC 5) := rfl

/-! ### coordinate_transforms.rs -/

/-- twin of `degToRad` / `radToDeg` (multiplication by a constant) -/
def scaleG [Mul α] (k x : α) : α := x * k

theorem degToRad_tie (d : Float) : degToRad d = scaleG (fc Gen.PI_OVER_180) d := rfl
theorem radToDeg_tie (r : Float) : radToDeg r = scaleG (fc Gen.DEG_PER_RAD) r := rfl

/-- twin of `fromLonLat`; `fwd` is the geodetic → authalic latitude conversion -/
def fromLonLatG [Add α] [Sub α] [Mul α] (fwd : α → α) (k1 off halfPi : α) (lon lat : α) : α × α :=
  let theta := scaleG k1 (lon + off)
  let geodetic := scaleG k1 lat
  let authalic := fwd geodetic
  (theta, halfPi - authalic)

/-- twin of `toLonLat`; `inv` is the authalic → geodetic latitude conversion -/
def toLonLatG [Add α] [Sub α] [Mul α] (inv : α → α) (k2 off halfPi : α) (theta phi : α) : α × α :=
  let lon := scaleG k2 theta - off
  let authalic := halfPi - phi
  let geodetic := inv authalic
  (lon, scaleG k2 geodetic)

theorem fromLonLat_tie (lon lat : Float) :
    fromLonLat lon lat =
      fromLonLatG authalicForward (fc Gen.PI_OVER_180) (fc Gen.LONGITUDE_OFFSET) (fc Gen.FRAC_PI_2) lon lat := rfl

theorem toLonLat_tie (theta phi : Float) :
    toLonLat theta phi =
      toLonLatG authalicInverse (fc Gen.DEG_PER_RAD) (fc Gen.LONGITUDE_OFFSET) (fc Gen.FRAC_PI_2) theta phi := rfl

/-! ### barycentric coordinates (`coordinate_transforms.rs`) -/

/-- twin of `faceToBarycentric`: point `(px,py)`, triangle `(ax,ay) (bx,by) (cx,cy)` -/
def faceToBarycentricG [Add α] [Sub α] [Mul α] [Div α] (one : α)
    (px py ax ay bx «by» cx cy : α) : α × α × α :=
  let d31x := ax - cx; let d31y := ay - cy
  let d23x := cx - bx; let d23y := cy - «by»
  let d3px := px - cx; let d3py := py - cy
  let det := d23x * d31y - d23y * d31x
  let b0 := (d23x * d3py - d23y * d3px) / det
  let b1 := (d31x * d3py - d31y * d3px) / det
  let b2 := one - (b0 + b1)
  (b0, b1, b2)

/-- the denominator of `faceToBarycentricG` (twice the signed area of the triangle) -/
def triDetG [Sub α] [Mul α] (ax ay bx «by» cx cy : α) : α :=
  (cx - bx) * (ay - cy) - (cy - «by») * (ax - cx)

/-- twin of `barycentricToFace` -/
def barycentricToFaceG [Add α] [Mul α] (u v w ax ay bx «by» cx cy : α) : α × α :=
  (u * ax + v * bx + w * cx, u * ay + v * «by» + w * cy)

theorem faceToBarycentric_tie (p : V2) (t : FaceTriangle) :
    faceToBarycentric p t =
      faceToBarycentricG (1.0 : Float) p.x p.y t.a.x t.a.y t.b.x t.b.y t.c.x t.c.y := rfl

theorem barycentricToFace_tie (b : Float × Float × Float) (t : FaceTriangle) :
    barycentricToFace b t =
      ⟨(barycentricToFaceG b.1 b.2.1 b.2.2 t.a.x t.a.y t.b.x t.b.y t.c.x t.c.y).1,
       (barycentricToFaceG b.1 b.2.1 b.2.2 t.a.x t.a.y t.b.x t.b.y t.c.x t.c.y).2⟩ := rfl

/-! ### dodecahedron.rs: face triangles -/

/-- twin of the edge-midpoint computation in `baseFaceTriangle` -/
def midpointG [Add α] [Div α] (two : α) (x1 y1 x2 y2 : α) : α × α :=
  ((x1 + x2) / two, (y1 + y2) / two)

/-- twin of the apex computation in `reflectedFaceTriangle`: `a' = -a + mid * scale` -/
def reflectApexG [Add α] [Mul α] [Neg α] (scale ax ay mx my : α) : α × α :=
  (-ax + mx * scale, -ay + my * scale)

/-- the three vertices the base triangle is built from -/
def quintantCorner (idx i : Nat) : V2 :=
  (polyFirst5 (getQuintantVertices (((idx + 1) / 2) % 5))).getD i default

theorem baseFaceTriangle_tie (idx : Nat) :
    baseFaceTriangle idx =
      (let c0 := quintantCorner idx 0
       let c1 := quintantCorner idx 1
       let c2 := quintantCorner idx 2
       let m := midpointG (2.0 : Float) c1.x c1.y c2.x c2.y
       if idx % 2 == 0 then ⟨c0, ⟨m.1, m.2⟩, c1⟩ else ⟨c0, c2, ⟨m.1, m.2⟩⟩) := rfl

/-- the scale factor used by `reflectedFaceTriangle` -/
def reflectScale (squashed : Bool) : Float :=
  if squashed then 1.0 + 1.0 / (fc Gen.INTERHEDRAL_ANGLE).cos else 2.0

theorem reflectedFaceTriangle_tie (idx : Nat) (squashed : Bool) :
    reflectedFaceTriangle idx squashed =
      (let base := baseFaceTriangle idx
       let m := if idx % 2 == 0 then base.b else base.c
       let a' := reflectApexG (reflectScale squashed) base.a.x base.a.y m.x m.y
       ⟨⟨a'.1, a'.2⟩, base.c, base.b⟩) := rfl

end G
end A5
