import A5.Model.GenericGeo
/-! # Generic twins of `vector.rs`, `get_triangle_area` and `polyhedral.rs`

Continuation of `A5/Model/GenericGeo.lean` for the polyhedral projection.  Every function of the float model
(`A5/Model/Geo.lean`) that the real-arithmetic round-trip theorems (`A5/Lemmas/RadialRoundTrip.lean`,
`AngularRoundTrip.lean`, `PolyhedralRoundTrip.lean`) talk about gets a *generic twin*: the same expression tree over an
abstract scalar type `α` (plain `[Add α] [Sub α] [Mul α] [Div α] [Neg α] [LT α] [DecidableLT α]` instance arguments).
The libm functions, the float literals and the generated switch constants are passed explicitly, bundled in one record
`Kit α` (the projection needs sixteen of them; a record keeps the statements readable and is still nothing but explicit
parameters: `floatKit` below lists, field by field, what the model uses).  Vectors are triples `α × α × α`; `toT`
maps the model's `V3` to a triple.

Tie lemmas (`*_tie`): `model_function … = twin floatKit …`.  They are proved by `rfl` where the two sides are the same
term, and otherwise by rewriting with the earlier tie lemmas and `apply_ite` (pushing `toT` through an `if`, which
is not a definitional unfolding because `V3` and `Float × Float × Float` are different types); no step reasons about
float arithmetic.

The zero test of `normalize` (`len == 0.0`, a `Bool` test at `Float`) is the field `isZero : α → Prop` with its
decision procedure: Lean elaborates `if len == 0.0 then …` to `ite ((len == 0.0) = true) …`, which is exactly
`ite (floatKit.isZero len) …`.

`A5/Lemmas/PolyTies.lean` instantiates the same twins at `ℝ` and compares them with the hand-written real
transcriptions used by the theorems.

Core only (no Mathlib): this file is part of the model layer. -/
namespace A5.GP
variable {α : Type}

/-- the scalar functions and constants the polyhedral projection uses besides `+ - * / neg <` -/
structure Kit (α : Type) where
  sqrt : α → α
  sin : α → α
  acos : α → α
  asin : α → α
  atan2 : α → α → α
  abs : α → α
  /-- the test `len == 0.0` of `normalize` -/
  isZero : α → Prop
  isZeroDec : DecidablePred isZero
  /-- the literals `0.5`, `1.0`, `2.0`, `3.0` -/
  half : α
  one : α
  two : α
  three : α
  /-- `vector_difference`: below this `|a × mid|` the chord formula is used (`1e-8`) -/
  vecdiffSwitch : α
  /-- `slerp`: below this angle `lerp` is used (`1e-12`) -/
  slerpSwitch : α
  /-- `get_triangle_area`: below this `|s|` the area is `2 s` (`1e-8`) -/
  triAreaSwitch : α
  /-- `safe_acos`: below this argument the series is used (`1e-3`) -/
  safeAcosSwitch : α
  /-- `polyhedral inverse`: vertex snapping when a barycentric coordinate exceeds `1 - snapEps` (`1e-14`) -/
  snapEps : α

instance (K : Kit α) : DecidablePred K.isZero := K.isZeroDec

/-- vectors as triples -/
abbrev T3 (α : Type) := α × α × α

/-! ### `vector.rs` -/

def dotG [Add α] [Mul α] (a b : T3 α) : α := a.1 * b.1 + a.2.1 * b.2.1 + a.2.2 * b.2.2

def crossG [Sub α] [Mul α] (a b : T3 α) : T3 α :=
  (a.2.1 * b.2.2 - a.2.2 * b.2.1, a.2.2 * b.1 - a.1 * b.2.2, a.1 * b.2.1 - a.2.1 * b.1)

def lengthG [Add α] [Mul α] (K : Kit α) (v : T3 α) : α := K.sqrt (v.1 * v.1 + v.2.1 * v.2.1 + v.2.2 * v.2.2)

def normalizeG [Add α] [Mul α] [Div α] (K : Kit α) (v : T3 α) : T3 α :=
  let len := lengthG K v
  if K.isZero len then v else (v.1 / len, v.2.1 / len, v.2.2 / len)

def lerpG [Add α] [Sub α] [Mul α] (a b : T3 α) (t : α) : T3 α :=
  (a.1 + t * (b.1 - a.1), a.2.1 + t * (b.2.1 - a.2.1), a.2.2 + t * (b.2.2 - a.2.2))

def subG [Sub α] (a b : T3 α) : T3 α := (a.1 - b.1, a.2.1 - b.2.1, a.2.2 - b.2.2)
def addG [Add α] (a b : T3 α) : T3 α := (a.1 + b.1, a.2.1 + b.2.1, a.2.2 + b.2.2)
def vscaleG [Mul α] (v : T3 α) (s : α) : T3 α := (v.1 * s, v.2.1 * s, v.2.2 * s)

/-- twin of `fclamp1` (`x.clamp(-1.0, 1.0)`) -/
def clamp1G [Neg α] [LT α] [DecidableLT α] (one : α) (x : α) : α :=
  if x < -one then -one else if x > one then one else x

/-- twin of `vectorDifference` (`vector_difference`), both branches -/
def vectorDifferenceG [Add α] [Sub α] [Mul α] [Div α] [LT α] [DecidableLT α] (K : Kit α) (a b : T3 α) : α :=
  let mid := normalizeG K (lerpG a b K.half)
  let d := lengthG K (crossG a mid)
  if d < K.vecdiffSwitch then K.half * lengthG K (subG a b) else d

/-- twin of `quadrupleProduct` -/
def quadrupleProductG [Add α] [Sub α] [Mul α] (a b c d : T3 α) : T3 α :=
  let ccd := crossG c d
  let tacd := dotG a ccd
  let tbcd := dotG b ccd
  subG (vscaleG b tacd) (vscaleG a tbcd)

/-- scalar triple product `a · (b × c)` (inline in the code: `dot(a, cross(b, c))`) -/
def tripleG [Add α] [Sub α] [Mul α] (a b c : T3 α) : α := dotG a (crossG b c)

/-- twin of `v3angle` (`Vector::angle`, the `gamma` of `slerp`): `acos (clamp (a·b / (|a| |b|)))` -/
def angleG [Add α] [Mul α] [Div α] [Neg α] [LT α] [DecidableLT α] (K : Kit α) (a b : T3 α) : α :=
  let cosA := dotG a b / (lengthG K a * lengthG K b)
  K.acos (clamp1G K.one cosA)

/-- twin of `slerp`, with its small-angle (`lerp`) branch -/
def slerpG [Add α] [Sub α] [Mul α] [Div α] [Neg α] [LT α] [DecidableLT α] (K : Kit α) (a b : T3 α) (t : α) : T3 α :=
  let gamma := angleG K a b
  if gamma < K.slerpSwitch then lerpG a b t
  else
    let wa := K.sin ((K.one - t) * gamma) / K.sin gamma
    let wb := K.sin (t * gamma) / K.sin gamma
    addG (vscaleG a wa) (vscaleG b wb)

/-! ### `spherical_polygon.rs::get_triangle_area` -/

/-- the `s` of `get_triangle_area`: triple product of the three normalised edge midpoints -/
def midTripleG [Add α] [Sub α] [Mul α] [Div α] (K : Kit α) (v1 v2 v3 : T3 α) : α :=
  let midA := normalizeG K (lerpG v2 v3 K.half)
  let midB := normalizeG K (lerpG v3 v1 K.half)
  let midC := normalizeG K (lerpG v1 v2 K.half)
  dotG midA (crossG midB midC)

/-- twin of `sphTriangleArea` (`get_triangle_area`): midpoints, clamp, both branches -/
def triAreaG [Add α] [Sub α] [Mul α] [Div α] [Neg α] [LT α] [DecidableLT α] (K : Kit α) (v1 v2 v3 : T3 α) : α :=
  let s := midTripleG K v1 v2 v3
  let clamped := clamp1G K.one s
  if K.abs clamped < K.triAreaSwitch then K.two * clamped else K.asin clamped * K.two

/-! ### `polyhedral.rs` -/

/-- twin of `safeAcos` (`safe_acos`); the same tree as `A5.RadialRoundTrip.safeAcosG` (which lives in a Mathlib
file and cannot be imported here; `A5/Lemmas/PolyTies.lean` proves the two equal by `rfl`) -/
def safeAcosG [Add α] [Sub α] [Mul α] [Div α] [LT α] [DecidableLT α] (K : Kit α) (x : α) : α :=
  if x < K.safeAcosSwitch then K.two * x + x * x * x / K.three else K.acos (K.one - K.two * x * x)

/-- the point `p` of `polyhedralForward`: intersection of the great circle `a v` with the edge `b c` -/
def forwardPointG [Add α] [Sub α] [Mul α] [Div α] (K : Kit α) (a b c v : T3 α) : T3 α :=
  let z := normalizeG K (subG v a)
  normalizeG K (quadrupleProductG a z b c)

/-- twin of `polyhedralForward` up to the barycentric triple (the argument of `barycentricToFace`) -/
def forwardBaryG [Add α] [Sub α] [Mul α] [Div α] [Neg α] [LT α] [DecidableLT α] (K : Kit α) (a b c v : T3 α) : T3 α :=
  let z := normalizeG K (subG v a)
  let p := normalizeG K (quadrupleProductG a z b c)
  let h := vectorDifferenceG K a v / vectorDifferenceG K a p
  let areaABC := triAreaG K a b c
  let scaledArea := h / areaABC
  (K.one - h, scaledArea * triAreaG K a p c, scaledArea * triAreaG K a b p)

/-- twin of the general branch of `polyhedralInverse` (after `faceToBarycentric` and after the vertex snapping).
`sacos` is the function applied to `h * k` and `k` (`safe_acos` in the code: see `inverseBaryG`); it is a parameter
because `A5.AngularRoundTrip.inverseBaryR` idealises it to `2 arcsin`. -/
def inverseCoreG [Add α] [Sub α] [Mul α] [Div α] [Neg α] [LT α] [DecidableLT α] (K : Kit α) (sacos : α → α)
    (a b c : T3 α) (bary : T3 α) : T3 α :=
  let bu := bary.1
  let bw := bary.2.2
  let c1 := crossG b c
  let areaABC := triAreaG K a b c
  let h := K.one - bu
  let r := bw / h
  let alpha := r * areaABC
  let s := K.sin alpha
  let halfC := K.sin (alpha / K.two)
  let cc := K.two * halfC * halfC
  let c01 := dotG a b
  let c12 := dotG b c
  let c20 := dotG c a
  let s12 := lengthG K c1
  let vv := dotG a c1
  let f := s * vv + cc * (c01 * c12 - c20)
  let g := cc * s12 * (K.one + c01)
  let q := (K.two / K.acos c12) * K.atan2 g f
  let p := slerpG K b c q
  let k := vectorDifferenceG K a p
  let t := sacos (h * k) / sacos k
  slerpG K a p t

/-- the `f` of `polyhedralInverse` as a function of the triangle and of `alpha` (sub-expression of `inverseCoreG`,
see `inverseCoreG_eq`) -/
def edgeFG [Add α] [Sub α] [Mul α] [Div α] (K : Kit α) (a b c : T3 α) (alpha : α) : α :=
  let c1 := crossG b c
  let s := K.sin alpha
  let halfC := K.sin (alpha / K.two)
  let cc := K.two * halfC * halfC
  let c01 := dotG a b
  let c12 := dotG b c
  let c20 := dotG c a
  let vv := dotG a c1
  s * vv + cc * (c01 * c12 - c20)

/-- the `g` of `polyhedralInverse` -/
def edgeGG [Add α] [Sub α] [Mul α] [Div α] (K : Kit α) (a b c : T3 α) (alpha : α) : α :=
  let c1 := crossG b c
  let halfC := K.sin (alpha / K.two)
  let cc := K.two * halfC * halfC
  let c01 := dotG a b
  let s12 := lengthG K c1
  cc * s12 * (K.one + c01)

/-- the `q` of `polyhedralInverse`: `(2 / acos c12) * atan2 g f` -/
def edgeParamG [Add α] [Sub α] [Mul α] [Div α] (K : Kit α) (a b c : T3 α) (alpha : α) : α :=
  (K.two / K.acos (dotG b c)) * K.atan2 (edgeGG K a b c alpha) (edgeFG K a b c alpha)

/-- `inverseCoreG` with its sub-expressions named (definitional unfolding) -/
theorem inverseCoreG_eq [Add α] [Sub α] [Mul α] [Div α] [Neg α] [LT α] [DecidableLT α] (K : Kit α) (sacos : α → α)
    (a b c bary : T3 α) :
    inverseCoreG K sacos a b c bary =
      (let h := K.one - bary.1
       let alpha := bary.2.2 / h * triAreaG K a b c
       let p := slerpG K b c (edgeParamG K a b c alpha)
       let k := vectorDifferenceG K a p
       slerpG K a p (sacos (h * k) / sacos k)) := rfl

/-- twin of `polyhedralInverse` from the barycentric triple (the value of `faceToBarycentric`) on: vertex
snapping, then the general branch with `safe_acos` -/
def inverseBaryG [Add α] [Sub α] [Mul α] [Div α] [Neg α] [LT α] [DecidableLT α] (K : Kit α)
    (a b c : T3 α) (bary : T3 α) : T3 α :=
  let threshold := K.one - K.snapEps
  if bary.1 > threshold then a
  else if bary.2.1 > threshold then b
  else if bary.2.2 > threshold then c
  else inverseCoreG K (safeAcosG K) a b c bary

/-- no vertex snapping: the full twin is its general branch (holds over any scalar type) -/
theorem inverseBaryG_of_not_snap [Add α] [Sub α] [Mul α] [Div α] [Neg α] [LT α] [DecidableLT α] (K : Kit α)
    (a b c bary : T3 α) (h1 : ¬ bary.1 > K.one - K.snapEps) (h2 : ¬ bary.2.1 > K.one - K.snapEps)
    (h3 : ¬ bary.2.2 > K.one - K.snapEps) :
    inverseBaryG K a b c bary = inverseCoreG K (safeAcosG K) a b c bary := by
  unfold inverseBaryG
  simp only [if_neg h1, if_neg h2, if_neg h3]

/-! ## tie to the `Float` model -/

/-- what the model uses for each field: the libm functions of `Float`, the literals, the generated constants -/
def floatKit : Kit Float where
  sqrt := Float.sqrt
  sin := Float.sin
  acos := Float.acos
  asin := Float.asin
  atan2 := Float.atan2
  abs := Float.abs
  isZero := fun x => (x == 0.0) = true
  isZeroDec := fun x => instDecidableEqBool (x == 0.0) true
  half := 0.5
  one := 1.0
  two := 2.0
  three := 3.0
  vecdiffSwitch := fc Gen.VECDIFF_SWITCH
  slerpSwitch := fc Gen.SLERP_SWITCH
  triAreaSwitch := fc Gen.TRI_AREA_SWITCH
  safeAcosSwitch := fc Gen.SAFE_ACOS_SWITCH
  snapEps := fc Gen.POLY_SNAP_EPS

/-- the model's `V3` as a triple -/
def toT (v : V3) : T3 Float := (v.x, v.y, v.z)
/-- and back -/
def ofT (t : T3 Float) : V3 := ⟨t.1, t.2.1, t.2.2⟩

theorem ofT_toT (v : V3) : ofT (toT v) = v := rfl
theorem toT_ofT (t : T3 Float) : toT (ofT t) = t := rfl

/-! ### `vector.rs`: by `rfl` except `normalize` (an `if` between two vectors) -/

theorem v3dot_tie (a b : V3) : v3dot a b = dotG (toT a) (toT b) := rfl
theorem v3cross_tie (a b : V3) : toT (v3cross a b) = crossG (toT a) (toT b) := rfl
theorem v3length_tie (v : V3) : v3length v = lengthG floatKit (toT v) := rfl
theorem v3lerp_tie (a b : V3) (t : Float) : toT (v3lerp a b t) = lerpG (toT a) (toT b) t := rfl
theorem v3sub_tie (a b : V3) : toT (v3sub a b) = subG (toT a) (toT b) := rfl
theorem v3add_tie (a b : V3) : toT (v3add a b) = addG (toT a) (toT b) := rfl
theorem v3scale_tie (v : V3) (s : Float) : toT (v3scale v s) = vscaleG (toT v) s := rfl
theorem fclamp1_tie (x : Float) : fclamp1 x = clamp1G (1.0 : Float) x := rfl

theorem v3normalize_tie (v : V3) : toT (v3normalize v) = normalizeG floatKit (toT v) := by
  unfold v3normalize normalizeG
  exact apply_ite toT _ _ _

theorem quadrupleProduct_tie (a b c d : V3) :
    toT (quadrupleProduct a b c d) = quadrupleProductG (toT a) (toT b) (toT c) (toT d) := rfl

theorem tripleProduct_tie (a b c : V3) : v3dot a (v3cross b c) = tripleG (toT a) (toT b) (toT c) := rfl

theorem v3angle_tie (a b : V3) : v3angle a b = angleG floatKit (toT a) (toT b) := rfl

theorem vectorDifference_tie (a b : V3) : vectorDifference a b = vectorDifferenceG floatKit (toT a) (toT b) := by
  unfold vectorDifference vectorDifferenceG
  simp only [v3length_tie, v3cross_tie, v3normalize_tie, v3lerp_tie, v3sub_tie]
  rfl

theorem slerp_tie (a b : V3) (t : Float) : toT (slerp a b t) = slerpG floatKit (toT a) (toT b) t := by
  unfold slerp slerpG
  simp only [apply_ite toT, v3lerp_tie, v3add_tie, v3scale_tie]
  rfl

/-! ### `get_triangle_area` -/

theorem midTriple_tie (v1 v2 v3 : V3) :
    v3dot (v3normalize (v3lerp v2 v3 0.5)) (v3cross (v3normalize (v3lerp v3 v1 0.5)) (v3normalize (v3lerp v1 v2 0.5)))
      = midTripleG floatKit (toT v1) (toT v2) (toT v3) := by
  unfold midTripleG
  simp only [v3dot_tie, v3cross_tie, v3normalize_tie, v3lerp_tie]
  rfl

theorem sphTriangleArea_tie (v1 v2 v3 : V3) :
    sphTriangleArea v1 v2 v3 = triAreaG floatKit (toT v1) (toT v2) (toT v3) := by
  unfold sphTriangleArea triAreaG
  simp only [midTriple_tie, fclamp1_tie]
  rfl

/-! ### `polyhedral.rs` -/

theorem safeAcos_tie (x : Float) : safeAcos x = safeAcosG floatKit x := rfl

/-- the forward's intersection point `p` -/
theorem forwardPoint_tie (v : V3) (st : SphTriangle) :
    toT (v3normalize (quadrupleProduct st.a (v3normalize (v3sub v st.a)) st.b st.c))
      = forwardPointG floatKit (toT st.a) (toT st.b) (toT st.c) (toT v) := by
  unfold forwardPointG
  simp only [v3normalize_tie, quadrupleProduct_tie, v3sub_tie]

/-- **tie**: `polyhedralForward` is `barycentricToFace` (twin: `G.barycentricToFaceG`, `G.barycentricToFace_tie`)
applied to the generic twin of the barycentric computation, at `Float` -/
theorem polyhedralForward_tie (v : V3) (st : SphTriangle) (ft : FaceTriangle) :
    polyhedralForward v st ft =
      barycentricToFace (forwardBaryG floatKit (toT st.a) (toT st.b) (toT st.c) (toT v)) ft := by
  unfold polyhedralForward forwardBaryG
  simp only [vectorDifference_tie, sphTriangleArea_tie, v3normalize_tie, quadrupleProduct_tie, v3sub_tie]
  rfl

/-- **tie**: `polyhedralInverse` is the generic twin, at `Float`, applied to the value of `faceToBarycentric`
(twin: `G.faceToBarycentricG`, `G.faceToBarycentric_tie`) -/
theorem polyhedralInverse_tie (fp : V2) (ft : FaceTriangle) (st : SphTriangle) :
    toT (polyhedralInverse fp ft st) =
      inverseBaryG floatKit (toT st.a) (toT st.b) (toT st.c) (faceToBarycentric fp ft) := by
  unfold polyhedralInverse inverseBaryG inverseCoreG
  rcases faceToBarycentric fp ft with ⟨bu, bv, bw⟩
  simp only [apply_ite toT, slerp_tie, vectorDifference_tie, sphTriangleArea_tie, v3cross_tie, v3dot_tie,
    v3length_tie, safeAcos_tie]
  rfl

end A5.GP
