import A5.Model.Hilbert
import A5.Model.Codec
/-! Float model of the geometric pipeline (`origin.rs`, `core/pentagon.rs`, `geometry/pentagon.rs`,
`tiling.rs`, `coordinate_transforms.rs`, `authalic.rs`, `gnomonic.rs`, `vector.rs`,
`spherical_polygon.rs`, `polyhedral.rs`, `crs.rs`, `dodecahedron.rs`).

Every function performs the same IEEE operations in the same order as the Rust code, and Lean's
`Float` calls the same libm, so results are compared bit-for-bit with the implementation. -/
namespace A5

structure V2 where
  x : Float
  y : Float
  deriving Inhabited

structure V3 where
  x : Float
  y : Float
  z : Float
  deriving Inhabited

@[inline] def fc (c : FConst) : Float := c.toFloat

/-! ### small helpers with Rust semantics -/

/-- `f64::min` (NaN-ignoring) -/
def fmin (a b : Float) : Float := if a.isNaN then b else if b.isNaN then a else if b < a then b else a
def fmax (a b : Float) : Float := if a.isNaN then b else if b.isNaN then a else if b > a then b else a

/-- `x.clamp(-1.0, 1.0)` -/
def fclamp1 (x : Float) : Float := if x < -1.0 then -1.0 else if x > 1.0 then 1.0 else x

/-- `x as i32` for a float (saturating, NaN ↦ 0) -/
def f64ToI32 (x : Float) : Int :=
  if x.isNaN then 0
  else if x ≥ 2147483647.0 then 2147483647
  else if x ≤ -2147483648.0 then -2147483648
  else
    let t := if x < 0.0 then -((-x).floor) else x.floor
    if t < 0.0 then -((-t).toUInt64.toNat : Int) else (t.toUInt64.toNat : Int)

/-- exact `fmod(x, 360.0)` for the magnitudes that occur (|x| < 2^40); sign follows `x` -/
def fmod360 (x : Float) : Float :=
  if x.isNaN || x.isInf then (0.0 / 0.0)
  else
    let a := x.abs
    let q := (a / 360.0).floor
    let r := a - q * 360.0
    let r := if r < 0.0 then r + 360.0 else if r ≥ 360.0 then r - 360.0 else r
    if x < 0.0 then -r else r

/-! ### origins -/

structure Origin where
  id : Nat
  theta : Float
  phi : Float
  quat : Float × Float × Float × Float
  invQuat : Float × Float × Float × Float
  angle : Float
  orientation : List Nat
  firstQuintant : Nat
  deriving Inhabited

def quatAt (i : Nat) : Float × Float × Float × Float :=
  match Gen.QUATERNIONS.getD i [] with
  | [a, b, c, d] => (fc a, fc b, fc c, fc d)
  | _ => (0.0, 0.0, 0.0, 1.0)

def quatConj (q : Float × Float × Float × Float) : Float × Float × Float × Float :=
  (-q.1, -q.2.1, -q.2.2.1, q.2.2.2)

def rawOrigins : List (Float × Float × Float × Nat) :=   -- (theta, phi, angle, quaternion index)
  let tp5 := fc Gen.TWO_PI_OVER_5
  let p5 := fc Gen.PI_OVER_5
  let ring : List (Float × Float × Float × Nat) :=
    (List.range 5).flatMap (fun i =>
      let alpha := (Float.ofNat i) * tp5
      let alpha2 := alpha + p5
      [(alpha, fc Gen.INTERHEDRAL_ANGLE, p5, i + 1),
       (alpha2, fc Gen.PI - fc Gen.INTERHEDRAL_ANGLE, p5,
          (i + Gen.RING2_QUAT_ADD) % Gen.RING2_QUAT_MOD + Gen.RING2_QUAT_BASE)])
  [(0.0, 0.0, 0.0, 0)] ++ ring ++ [(0.0, fc Gen.PI, 0.0, Gen.SOUTH_QUAT_INDEX)]

def origins : List Origin :=
  (List.range Gen.ORIGIN_ORDER.length).map (fun newId =>
    let k := Gen.ORIGIN_ORDER.getD newId 0
    let (theta, phi, angle, qi) := rawOrigins.getD k (0.0, 0.0, 0.0, 0)
    let q := quatAt qi
    { id := newId, theta := theta, phi := phi, quat := q, invQuat := quatConj q, angle := angle,
      orientation := Gen.QUINTANT_ORIENTATIONS_ARRAYS.getD k [],
      firstQuintant := Gen.QUINTANT_FIRST.getD k 0 })

def originAt (o : Nat) : Origin := origins.getD o default

def isLayoutClockwise (layout : List Nat) : Bool := Gen.CLOCKWISE_LAYOUTS.contains layout

/-- `quintant_to_segment(quintant, origin)` -/
def quintantToSegment (quintant : Nat) (o : Origin) : Nat × Nat :=
  let step : Int := if isLayoutClockwise o.orientation then -1 else 1
  let delta := (quintant + 5 - o.firstQuintant) % 5
  let faceRel := ((step * (delta : Int)) + 5).tmod 5
  let orientation := o.orientation.getD faceRel.toNat 0
  ((o.firstQuintant + faceRel.toNat) % 5, orientation)

/-- `segment_to_quintant(segment, origin)` -/
def segmentToQuintant (segment : Nat) (o : Origin) : Nat × Nat :=
  let step : Int := if isLayoutClockwise o.orientation then -1 else 1
  let faceRel := (segment + 5 - o.firstQuintant) % 5
  let orientation := o.orientation.getD faceRel 0
  let stepOffset := (step * (faceRel : Int)).tmod 5
  let quintant :=
    if stepOffset ≥ 0 then (o.firstQuintant + stepOffset.toNat) % 5
    else (o.firstQuintant + 5 - (-stepOffset).toNat) % 5
  (quintant, orientation)

def haversine (theta phi theta2 phi2 : Float) : Float :=
  let dtheta := theta2 - theta
  let dphi := phi2 - phi
  let a1 := (dphi / 2.0).sin
  let a2 := (dtheta / 2.0).sin
  a1 * a1 + a2 * a2 * phi.sin * phi2.sin

/-- `find_nearest_origin`: first origin attaining the strict minimum -/
def findNearestOrigin (theta phi : Float) : Origin :=
  let rec go : List Origin → Float → Origin → Origin
    | [], _, best => best
    | o :: os, minD, best =>
      let d := haversine theta phi o.theta o.phi
      if d < minD then go os d o else go os minD best
  go origins (1.0 / 0.0) (originAt 0)

/-! ### planar polygons (`geometry/pentagon.rs`) -/

abbrev Poly := List V2

def polyArea (vs : Poly) : Float :=
  let n := vs.length
  let rec go : Nat → Nat → Float → Float
    | 0, _, acc => acc
    | m + 1, i, acc =>
      let vi := vs.getD i default
      let vj := vs.getD ((i + 1) % n) default
      go m (i + 1) (acc + (vj.x - vi.x) * (vj.y + vi.y))
  go n 0 0.0

/-- the same loop on an array (constant-time indexing, as the `Vec` of the Rust code): what the compiled driver runs, by the
proved equation `polyArea_eq_fast` below (`@[csimp]`: the compiler may only use it because it is a theorem) -/
def polyAreaFast (vs : Poly) : Float :=
  let arr := vs.toArray
  let n := arr.size
  let rec go : Nat → Nat → Float → Float
    | 0, _, acc => acc
    | m + 1, i, acc =>
      let vi := arr.getD i default
      let vj := arr.getD ((i + 1) % n) default
      go m (i + 1) (acc + (vj.x - vi.x) * (vj.y + vi.y))
  go n 0 0.0

@[csimp] theorem polyArea_eq_fast : @polyArea = @polyAreaFast := by
  funext vs
  unfold polyArea polyAreaFast
  simp only [List.size_toArray]
  suffices h : ∀ m i acc, polyArea.go vs vs.length m i acc = polyAreaFast.go vs.toArray vs.length m i acc from h _ _ _
  intro m
  induction m with
  | zero => intro i acc; rfl
  | succ m ih =>
    intro i acc
    unfold polyArea.go polyAreaFast.go
    simp only [ih, Array.getD_eq_getD_getElem?, List.getElem?_toArray, List.getD_eq_getElem?_getD]

def windingCorrect (vs : Poly) : Bool := polyArea vs ≥ 0.0

/-- `PentagonShape::new` / `new_triangle` / `from_vertices` -/
def polyNew (vs : Poly) : Poly := if windingCorrect vs then vs else vs.reverse

def polyScale (vs : Poly) (s : Float) : Poly := vs.map (fun v => ⟨v.x * s, v.y * s⟩)
def polyRotate180 (vs : Poly) : Poly := vs.map (fun v => ⟨-v.x, -v.y⟩)
def polyReflectY (vs : Poly) : Poly := (vs.map (fun v => ⟨v.x, -v.y⟩)).reverse
def polyTranslate (vs : Poly) (t : V2) : Poly := vs.map (fun v => ⟨v.x + t.x, v.y + t.y⟩)

def polyCenter (vs : Poly) : V2 :=
  let n := Float.ofNat vs.length
  let (sx, sy) := vs.foldl (fun (acc : Float × Float) v => (acc.1 + v.x / n, acc.2 + v.y / n)) (0.0, 0.0)
  ⟨sx, sy⟩

/-- `contains_point`: panics when the polygon is not counter-clockwise -/
def polyContains (vs : Poly) (p : V2) : Outcome Float :=
  if !windingCorrect vs then .panic .notCCW
  else
    let n := vs.length
    let rec go : Nat → Nat → Float → Float
      | 0, _, dMax => dMax
      | m + 1, i, dMax =>
        let v1 := vs.getD i default
        let v2 := vs.getD ((i + 1) % n) default
        let dx := v1.x - v2.x
        let dy := v1.y - v2.y
        let px := p.x - v1.x
        let py := p.y - v1.y
        let cross := dx * py - dy * px
        if cross < 0.0 then
          let pLen := (px * px + py * py).sqrt
          go m (i + 1) (fmin dMax (cross / pLen))
        else go m (i + 1) dMax
    .ok (go n 0 1.0)

/-- `distance_outside` (fix for defect F16): 0 when the point is on the inner side of every edge, otherwise the largest
perpendicular distance to the line of an edge it is on the wrong side of (`f64::max`) -/
def polyDistanceOutside (vs : Poly) (p : V2) : Float :=
  let n := vs.length
  let rec go : Nat → Nat → Float → Float
    | 0, _, dMax => dMax
    | m + 1, i, dMax =>
      let v1 := vs.getD i default
      let v2 := vs.getD ((i + 1) % n) default
      let dx := v1.x - v2.x
      let dy := v1.y - v2.y
      let px := p.x - v1.x
      let py := p.y - v1.y
      let cross := dx * py - dy * px
      if cross < 0.0 then
        let eLen := (dx * dx + dy * dy).sqrt
        go m (i + 1) (fmax dMax (-cross / eLen))
      else go m (i + 1) dMax
  go n 0 0.0

def polySplitEdges (vs : Poly) (segments : Nat) : Poly :=
  if segments ≤ 1 then vs
  else
    let n := vs.length
    let pts := (List.range n).flatMap (fun i =>
      let v1 := vs.getD i default
      let v2 := vs.getD ((i + 1) % n) default
      v1 :: ((List.range (segments - 1)).map (fun j0 =>
        let t := Float.ofNat (j0 + 1) / Float.ofNat segments
        (⟨v1.x + t * (v2.x - v1.x), v1.y + t * (v2.y - v1.y)⟩ : V2))))
    polyNew pts

/-! ### pentagon constants (`core/pentagon.rs`) -/

structure PentagonConstants where
  a : V2
  b : V2
  c : V2
  d : V2
  e : V2
  pentagon : Poly
  u : V2
  v : V2
  w : V2
  vAngle : Float
  triangle : Poly
  basis : Float × Float × Float × Float          -- m00 m01 m10 m11
  basisInverse : Float × Float × Float × Float
  deriving Inhabited

def pentagonConstants : PentagonConstants :=
  let p10 := fc Gen.PI_OVER_10
  let p5 := fc Gen.PI_OVER_5
  let a0 : V2 := ⟨0.0, 0.0⟩
  let b0 : V2 := ⟨0.0, 1.0⟩
  let c0 : V2 := ⟨fc Gen.PENT_SEED_C_X, fc Gen.PENT_SEED_C_Y⟩
  let d0 : V2 := ⟨fc Gen.PENT_SEED_D_X, fc Gen.PENT_SEED_D_Y⟩
  let e0 : V2 := ⟨p10.cos, p10.sin⟩
  let cLength := (c0.x * c0.x + c0.y * c0.y).sqrt
  let edgeMidpointD := 2.0 * cLength * p5.cos
  let basisRotation := p5 - Float.atan2 c0.y c0.x
  let scale := 2.0 * fc Gen.DISTANCE_TO_EDGE / edgeMidpointD
  let tr (v : V2) : V2 :=
    let sx := v.x * scale
    let sy := v.y * scale
    let ca := basisRotation.cos
    let sa := basisRotation.sin
    ⟨sx * ca - sy * sa, sx * sa + sy * ca⟩
  let a := tr a0
  let b := tr b0
  let c := tr c0
  let d := tr d0
  let e := tr e0
  let pentagon := polyNew [a, b, c, d, e]
  let bisector := Float.atan2 c.y c.x - p5
  let u : V2 := ⟨0.0, 0.0⟩
  let l := fc Gen.DISTANCE_TO_EDGE / p5.cos
  let vAngle := bisector + p5
  let v : V2 := ⟨l * vAngle.cos, l * vAngle.sin⟩
  let wAngle := bisector - p5
  let w : V2 := ⟨l * wAngle.cos, l * wAngle.sin⟩
  let triangle := polyNew [u, v, w, ⟨0.0, 0.0⟩, ⟨0.0, 0.0⟩]
  let m00 := v.x
  let m01 := w.x
  let m10 := v.y
  let m11 := w.y
  let det := m00 * m11 - m01 * m10
  let invDet := 1.0 / det
  { a := a, b := b, c := c, d := d, e := e, pentagon := pentagon, u := u, v := v, w := w,
    vAngle := vAngle, triangle := triangle, basis := (m00, m01, m10, m11),
    basisInverse := (m11 * invDet, -m01 * invDet, -m10 * invDet, m00 * invDet) }

/-- `get_vertices()`: first five vertices, padded with zeros -/
def polyFirst5 (vs : Poly) : List V2 :=
  (List.range 5).map (fun i => vs.getD i ⟨0.0, 0.0⟩)

/-! ### tiling.rs -/

def quintantRotation (q : Nat) : Float × Float × Float × Float :=
  let angle := fc Gen.TWO_PI_OVER_5 * Float.ofNat q
  let c := angle.cos
  let s := angle.sin
  (c, -s, s, c)

def transformPoly (vs : Poly) (m : Float × Float × Float × Float) : Poly :=
  let (m00, m01, m10, m11) := m
  let t := vs.map (fun v => (⟨m00 * v.x + m01 * v.y, m10 * v.x + m11 * v.y⟩ : V2))
  if t.length = 5 ∨ t.length = 3 then polyNew t else vs

/-- the part of `get_pentagon_vertices` that happens in the unscaled lattice frame of the quintant: the seed
pentagon, rotated/reflected/shifted according to the anchor's flips and `k`, then translated by `BASIS * offset`;
`A5/Model/PentagonG.lean` states its generic twin -/
def getPentagonLocalOf (pc : PentagonConstants) (anchor : Anchor) : Poly :=
  let (b00, b01, b10, b11) := pc.basis
  let ox := Float.ofInt anchor.offset.1
  let oy := Float.ofInt anchor.offset.2
  let translation : V2 := ⟨b00 * ox + b01 * oy, b10 * ox + b11 * oy⟩
  let p := pc.pentagon
  let p := if anchor.flips.1 == Gen.NO && anchor.flips.2 == Gen.YES then polyRotate180 p else p
  let k := anchor.k
  let f := anchor.flips.1 + anchor.flips.2
  let p := if ((f == -2 || f == 2) && k > 1) || (f == 0 && (k == 0 || k == 3)) then polyReflectY p else p
  let p :=
    if anchor.flips.1 == Gen.YES && anchor.flips.2 == Gen.YES then polyRotate180 p
    else if anchor.flips.1 == Gen.YES then polyTranslate p ⟨-pc.w.x, -pc.w.y⟩
    else if anchor.flips.2 == Gen.YES then polyTranslate p pc.w
    else p
  polyTranslate p translation

def getPentagonLocal (anchor : Anchor) : Poly := getPentagonLocalOf pentagonConstants anchor

/-- `get_pentagon_vertices(resolution, quintant, anchor)` -/
def getPentagonVertices (resolution : Int) (quintant : Nat) (anchor : Anchor) : Poly :=
  let p := getPentagonLocal anchor
  let pow := if resolution ≥ 0 then Float.ofNat (2 ^ resolution.toNat) else 1.0 / Float.ofNat (2 ^ (-resolution).toNat)
  let p := polyScale p (1.0 / pow)
  transformPoly p (quintantRotation quintant)

def getQuintantVertices (quintant : Nat) : Poly :=
  let t := (polyFirst5 pentagonConstants.triangle).take 3
  transformPoly (polyNew t) (quintantRotation quintant)

def getFaceVertices : Poly :=
  let v := pentagonConstants.v
  let vs := (List.range 5).map (fun q =>
    let (m00, m01, m10, m11) := quintantRotation q
    (⟨m00 * v.x + m01 * v.y, m10 * v.x + m11 * v.y⟩ : V2))
  polyNew vs.reverse

/-- `get_quintant_polar` -/
def getQuintantPolar (gamma : Float) : Nat :=
  let r := f64ToI32 ((gamma / fc Gen.TWO_PI_OVER_5).round) + 5
  -- `as usize % 5`: a negative i32 would wrap to a huge usize; |gamma| ≤ π keeps r in 2..8
  (if r < 0 then (r + 18446744073709551616).toNat else r.toNat) % 5

/-! ### coordinate transforms, authalic, gnomonic -/

def degToRad (d : Float) : Float := d * fc Gen.PI_OVER_180
def radToDeg (r : Float) : Float := r * fc Gen.DEG_PER_RAD

def toPolar (f : V2) : Float × Float :=   -- (rho, gamma)
  ((f.x * f.x + f.y * f.y).sqrt, Float.atan2 f.y f.x)

def toFace (rho gamma : Float) : V2 := ⟨rho * gamma.cos, rho * gamma.sin⟩

structure FaceTriangle where
  a : V2
  b : V2
  c : V2
  deriving Inhabited

structure SphTriangle where
  a : V3
  b : V3
  c : V3
  deriving Inhabited

def faceToBarycentric (p : V2) (t : FaceTriangle) : Float × Float × Float :=
  let p1 := t.a; let p2 := t.b; let p3 := t.c
  let d31x := p1.x - p3.x; let d31y := p1.y - p3.y
  let d23x := p3.x - p2.x; let d23y := p3.y - p2.y
  let d3px := p.x - p3.x; let d3py := p.y - p3.y
  let det := d23x * d31y - d23y * d31x
  let b0 := (d23x * d3py - d23y * d3px) / det
  let b1 := (d31x * d3py - d31y * d3px) / det
  let b2 := 1.0 - (b0 + b1)
  (b0, b1, b2)

def barycentricToFace (b : Float × Float × Float) (t : FaceTriangle) : V2 :=
  let (u, v, w) := b
  ⟨u * t.a.x + v * t.b.x + w * t.c.x, u * t.a.y + v * t.b.y + w * t.c.y⟩

def toSpherical (c : V3) : Float × Float :=   -- (theta, phi)
  let theta := Float.atan2 c.y c.x
  -- fix e88aa12: `atan2(hypot, z)` instead of `acos(z / r)` (which loses half the digits near the poles)
  (theta, Float.atan2 (c.x * c.x + c.y * c.y).sqrt c.z)

def toCartesian (theta phi : Float) : V3 :=
  let sp := phi.sin
  ⟨sp * theta.cos, sp * theta.sin, phi.cos⟩

def faceToIJ (f : V2) : Float × Float :=
  let (m00, m01, m10, m11) := pentagonConstants.basisInverse
  (m00 * f.x + m01 * f.y, m10 * f.x + m11 * f.y)

def applyCoefficients (phi : Float) (c : List FConst) : Float :=
  let g (i : Nat) : Float := fc (c.getD i ⟨0, 0, 0⟩)
  let sinPhi := phi.sin
  let cosPhi := phi.cos
  let x := 2.0 * (cosPhi - sinPhi) * (cosPhi + sinPhi)
  let u0 := x * g 5 + g 4
  let u1 := x * u0 + g 3
  let u0 := x * u1 - u0 + g 2
  let u1 := x * u0 - u1 + g 1
  let u0 := x * u1 - u0 + g 0
  phi + 2.0 * sinPhi * cosPhi * u0

def authalicForward (phi : Float) : Float := applyCoefficients phi Gen.GEODETIC_TO_AUTHALIC
def authalicInverse (phi : Float) : Float := applyCoefficients phi Gen.AUTHALIC_TO_GEODETIC

def fromLonLat (lon lat : Float) : Float × Float :=   -- (theta, phi)
  let theta := degToRad (lon + fc Gen.LONGITUDE_OFFSET)
  let geodetic := degToRad lat
  let authalic := authalicForward geodetic
  (theta, fc Gen.FRAC_PI_2 - authalic)

def toLonLat (theta phi : Float) : Float × Float :=   -- (lon, lat)
  let lon := radToDeg theta - fc Gen.LONGITUDE_OFFSET
  let authalic := fc Gen.FRAC_PI_2 - phi
  let geodetic := authalicInverse authalic
  (lon, radToDeg geodetic)

/-- `while longitude - center > 180 { longitude -= 360 }` etc., with fuel -/
def unwrapLon : Nat → Float → Float → Outcome Float
  | 0, _, _ => .panic .fuel
  | fuel + 1, lon, center =>
    if lon - center > 180.0 then unwrapLon fuel (lon - 360.0) center
    else if lon - center < -180.0 then
      -- second loop (the first loop's condition is now false and stays false only if we do not
      -- overshoot; mirror the Rust order: first loop to completion, then second loop)
      unwrapLonUp fuel (lon + 360.0) center
    else .ok lon
where
  unwrapLonUp : Nat → Float → Float → Outcome Float
    | 0, _, _ => .panic .fuel
    | fuel + 1, lon, center =>
      if lon - center < -180.0 then unwrapLonUp fuel (lon + 360.0) center else .ok lon

def normalizeLongitudes (contour : List (Float × Float)) : Outcome (List (Float × Float)) :=
  match contour with
  | [] => .ok []
  | first :: _ =>
    let pts := contour.map (fun (lon, lat) => let (t, p) := fromLonLat lon lat; toCartesian t p)
    let c := pts.foldl (fun (acc : V3) p => ⟨acc.x + p.x, acc.y + p.y, acc.z + p.z⟩) ⟨0.0, 0.0, 0.0⟩
    let length := (c.x * c.x + c.y * c.y + c.z * c.z).sqrt
    let c : V3 := if length > 0.0 then ⟨c.x / length, c.y / length, c.z / length⟩ else c
    let (ct, cp) := toSpherical c
    let (centerLon0, centerLat) := toLonLat ct cp
    let centerLon := if !(fc Gen.POLE_LAT_LO ≤ centerLat && centerLat ≤ fc Gen.POLE_LAT_HI) then first.1 else centerLon0
    let centerLon := fmod360 (fmod360 (centerLon + 180.0) + 360.0) - 180.0
    mapOutcomeF (fun (lon, lat) => unwrapLon 64 lon centerLon >>= fun l => .ok (l, lat)) contour
where
  mapOutcomeF {α β : Type} (f : α → Outcome β) : List α → Outcome (List β)
    | [] => .ok []
    | a :: as => f a >>= fun b => mapOutcomeF f as >>= fun bs => .ok (b :: bs)

def gnomonicForward (theta phi : Float) : Float × Float := (phi.tan, theta)     -- (rho, gamma)
def gnomonicInverse (rho gamma : Float) : Float × Float := (gamma, rho.atan)    -- (theta, phi)

/-! ### vector.rs -/

def v3dot (a b : V3) : Float := a.x * b.x + a.y * b.y + a.z * b.z
def v3cross (a b : V3) : V3 := ⟨a.y * b.z - a.z * b.y, a.z * b.x - a.x * b.z, a.x * b.y - a.y * b.x⟩
def v3length (v : V3) : Float := (v.x * v.x + v.y * v.y + v.z * v.z).sqrt
def v3normalize (v : V3) : V3 :=
  let len := v3length v
  if len == 0.0 then v else ⟨v.x / len, v.y / len, v.z / len⟩
def v3lerp (a b : V3) (t : Float) : V3 := ⟨a.x + t * (b.x - a.x), a.y + t * (b.y - a.y), a.z + t * (b.z - a.z)⟩
def v3sub (a b : V3) : V3 := ⟨a.x - b.x, a.y - b.y, a.z - b.z⟩
def v3add (a b : V3) : V3 := ⟨a.x + b.x, a.y + b.y, a.z + b.z⟩
def v3scale (v : V3) (s : Float) : V3 := ⟨v.x * s, v.y * s, v.z * s⟩
def v3distance (a b : V3) : Float := v3length (v3sub a b)

def vectorDifference (a b : V3) : Float :=
  let mid := v3normalize (v3lerp a b 0.5)
  let d := v3length (v3cross a mid)
  if d < fc Gen.VECDIFF_SWITCH then 0.5 * v3length (v3sub a b) else d

def quadrupleProduct (a b c d : V3) : V3 :=
  let ccd := v3cross c d
  let tacd := v3dot a ccd
  let tbcd := v3dot b ccd
  v3sub (v3scale b tacd) (v3scale a tbcd)

def v3angle (a b : V3) : Float :=
  let cosA := v3dot a b / (v3length a * v3length b)
  (fclamp1 cosA).acos

def slerp (a b : V3) (t : Float) : V3 :=
  let gamma := v3angle a b
  if gamma < fc Gen.SLERP_SWITCH then v3lerp a b t
  else
    let wa := ((1.0 - t) * gamma).sin / gamma.sin
    let wb := (t * gamma).sin / gamma.sin
    v3add (v3scale a wa) (v3scale b wb)

/-- `SphericalPolygonShape::get_triangle_area` -/
def sphTriangleArea (v1 v2 v3 : V3) : Float :=
  let midA := v3normalize (v3lerp v2 v3 0.5)
  let midB := v3normalize (v3lerp v3 v1 0.5)
  let midC := v3normalize (v3lerp v1 v2 0.5)
  let s := v3dot midA (v3cross midB midC)
  let clamped := fclamp1 s
  if clamped.abs < fc Gen.TRI_AREA_SWITCH then 2.0 * clamped else clamped.asin * 2.0

/-! ### polyhedral.rs -/

def polyhedralForward (v : V3) (st : SphTriangle) (ft : FaceTriangle) : V2 :=
  let a := st.a; let b := st.b; let c := st.c
  let z := v3normalize (v3sub v a)
  let p := v3normalize (quadrupleProduct a z b c)
  let h := vectorDifference a v / vectorDifference a p
  let areaABC := sphTriangleArea a b c
  let scaledArea := h / areaABC
  barycentricToFace (1.0 - h, scaledArea * sphTriangleArea a p c, scaledArea * sphTriangleArea a b p) ft

def safeAcos (x : Float) : Float :=
  if x < fc Gen.SAFE_ACOS_SWITCH then 2.0 * x + x * x * x / 3.0 else (1.0 - 2.0 * x * x).acos

def polyhedralInverse (fp : V2) (ft : FaceTriangle) (st : SphTriangle) : V3 :=
  let a := st.a; let b := st.b; let c := st.c
  let (bu, bv, bw) := faceToBarycentric fp ft
  let threshold := 1.0 - fc Gen.POLY_SNAP_EPS
  if bu > threshold then a
  else if bv > threshold then b
  else if bw > threshold then c
  else
    let c1 := v3cross b c
    let areaABC := sphTriangleArea a b c
    let h := 1.0 - bu
    let r := bw / h
    let alpha := r * areaABC
    let s := alpha.sin
    let halfC := (alpha / 2.0).sin
    let cc := 2.0 * halfC * halfC
    let c01 := v3dot a b
    let c12 := v3dot b c
    let c20 := v3dot c a
    let s12 := v3length c1
    let vv := v3dot a c1
    let f := s * vv + cc * (c01 * c12 - c20)
    let g := cc * s12 * (1.0 + c01)
    let q := (2.0 / c12.acos) * Float.atan2 g f
    let p := slerp b c q
    let k := vectorDifference a p
    let t := safeAcos (h * k) / safeAcos k
    slerp a p t

/-! ### crs.rs -/

def transformQuat (v : V3) (q : Float × Float × Float × Float) : V3 :=
  let (qx, qy, qz, qw) := q
  let vx := v.x; let vy := v.y; let vz := v.z
  let cx := -qx; let cy := -qy; let cz := -qz; let cw := qw
  let t1x := qw * vx + qy * vz - qz * vy
  let t1y := qw * vy + qz * vx - qx * vz
  let t1z := qw * vz + qx * vy - qy * vx
  let t1w := -qx * vx - qy * vy - qz * vz
  ⟨t1w * cx + t1x * cw + t1y * cz - t1z * cy,
   t1w * cy + t1y * cw + t1z * cx - t1x * cz,
   t1w * cz + t1z * cw + t1x * cy - t1y * cx⟩

def crsAdd (vs : List V3) (nv : V3) : List V3 :=
  let n := v3normalize nv
  if vs.any (fun e => v3distance n e < fc Gen.CRS_ADD_TOL) then vs else vs ++ [n]

def crsVertices : List V3 :=
  let vs : List V3 := origins.foldl (fun acc o => crsAdd acc (toCartesian o.theta o.phi)) []
  let phiV := (fc Gen.DISTANCE_TO_VERTEX).atan
  let vs := origins.foldl (fun acc o =>
    (List.range 5).foldl (fun acc i =>
      let thetaV := Float.ofNat (2 * i + 1) * fc Gen.PI / 5.0
      crsAdd acc (transformQuat (toCartesian (thetaV + o.angle) phiV) o.quat)) acc) vs
  let phiM := (fc Gen.DISTANCE_TO_EDGE).atan
  origins.foldl (fun acc o =>
    (List.range 5).foldl (fun acc i =>
      let thetaM := Float.ofNat (2 * i) * fc Gen.PI / 5.0
      crsAdd acc (transformQuat (toCartesian (thetaM + o.angle) phiM) o.quat)) acc) vs

def crsGetVertex (p : V3) : Outcome V3 :=
  match crsVertices.find? (fun v => v3distance p v < fc Gen.CRS_TOL) with
  | some v => .ok v
  | none => .err .crsVertex

/-! ### dodecahedron.rs (the memo tables are modelled separately in `Memo.lean`; here every
triangle is recomputed, which is the value the memo holds) -/

def faceTriangleIndex (gamma : Float) : Nat :=
  let idx := (f64ToI32 ((gamma / fc Gen.PI_OVER_5).floor) + 10).tmod 10
  if idx < 0 then (idx + 10).toNat else idx.toNat

def normalizeGamma (gamma : Float) : Float :=
  let segment := gamma / fc Gen.TWO_PI_OVER_5
  let sCenter := segment.round
  let sOffset := segment - sCenter
  sOffset * fc Gen.TWO_PI_OVER_5

def shouldReflect (rho gamma : Float) : Bool :=
  let d := (toFace rho (normalizeGamma gamma)).x
  d > fc Gen.DISTANCE_TO_EDGE

def baseFaceTriangle (idx : Nat) : FaceTriangle :=
  let quintant := ((idx + 1) / 2) % 5
  let verts := polyFirst5 (getQuintantVertices quintant)
  let vCenter := verts.getD 0 default
  let vCorner1 := verts.getD 1 default
  let vCorner2 := verts.getD 2 default
  let mid : V2 := ⟨(vCorner1.x + vCorner2.x) / 2.0, (vCorner1.y + vCorner2.y) / 2.0⟩
  if idx % 2 == 0 then ⟨vCenter, mid, vCorner1⟩ else ⟨vCenter, vCorner2, mid⟩

def reflectedFaceTriangle (idx : Nat) (squashed : Bool) : FaceTriangle :=
  let base := baseFaceTriangle idx
  let even := idx % 2 == 0
  let a : V2 := ⟨-base.a.x, -base.a.y⟩
  let midpoint := if even then base.b else base.c
  let scale := if squashed then 1.0 + 1.0 / (fc Gen.INTERHEDRAL_ANGLE).cos else 2.0
  let a : V2 := ⟨a.x + midpoint.x * scale, a.y + midpoint.y * scale⟩
  ⟨a, base.c, base.b⟩

def getFaceTriangle (idx : Nat) (reflected squashed : Bool) : Outcome FaceTriangle :=
  if idx > Gen.FACE_TRIANGLE_MAX then .err .other
  else .ok (if reflected then reflectedFaceTriangle idx squashed else baseFaceTriangle idx)

def computeSphericalTriangle (idx originId : Nat) (reflected : Bool) : Outcome SphTriangle :=
  if originId ≥ origins.length then .err .invalidOrigin
  else
    let o := originAt originId
    getFaceTriangle idx reflected true >>= fun ft =>
    let vert (f : V2) : Outcome V3 :=
      let (rho, gamma) := toPolar f
      let (t, p) := gnomonicInverse rho (gamma + o.angle)
      crsGetVertex (transformQuat (toCartesian t p) o.quat)
    vert ft.a >>= fun va => vert ft.b >>= fun vb => vert ft.c >>= fun vc => .ok ⟨va, vb, vc⟩

def dodecaForward (theta phi : Float) (originId : Nat) : Outcome V2 :=
  if originId ≥ origins.length then .err .invalidOrigin
  else
    let o := originAt originId
    let unprojected := toCartesian theta phi
    let out := transformQuat unprojected o.invQuat
    let (pt, pp) := toSpherical out
    let (rho, gamma) := gnomonicForward pt pp
    let gamma := gamma - o.angle
    let idx := faceTriangleIndex gamma
    let reflect := shouldReflect rho gamma
    getFaceTriangle idx reflect false >>= fun ft =>
    computeSphericalTriangle idx originId reflect >>= fun st =>
    .ok (polyhedralForward unprojected st ft)

def dodecaInverse (f : V2) (originId : Nat) : Outcome (Float × Float) :=
  if originId ≥ origins.length then .err .invalidOrigin else
  let (rho, gamma) := toPolar f
  let idx := faceTriangleIndex gamma
  let reflect := shouldReflect rho gamma
  getFaceTriangle idx reflect false >>= fun ft =>
  computeSphericalTriangle idx originId reflect >>= fun st =>
  .ok (toSpherical (polyhedralInverse f ft st))

end A5
