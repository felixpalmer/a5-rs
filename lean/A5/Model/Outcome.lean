/-! Result type of every modelled function.

`ok v` / `err e` mirror Rust's `Result<_, String>` (error *messages* are abstracted to a small
enum; the correspondence check compares the enum, never the text).  `panic k` records that the
overflow-checked (debug-profile) build of the Rust code panics at that point; the model keeps the
panic instead of totalising it away, so "never panics" is a theorem, not an assumption. -/
namespace A5

inductive ErrKind where
  | resTooLarge      -- serialize: resolution >= 30
  | resNegative      -- serialize: resolution < -1
  | sTooLarge        -- serialize: S does not fit
  | badOrigin        -- deserialize: top 6 bits do not name a face
  | targetCoarser    -- cell_to_children / uncompact: target coarser than the cell
  | exceedsMax       -- cell_to_children / uncompact: target above maximum
  | diffTooLarge     -- cell_to_children: more than 20 levels
  | negative         -- cell_to_parent: target < -1
  | targetFiner      -- cell_to_parent: target finer than the cell
  | resOutOfRange    -- lonlat_to_cell: resolution outside -1..29
  | hexParse         -- hex_to_u64
  | invalidOrigin    -- DodecahedronProjection: origin id out of range
  | crsVertex        -- CRS::get_vertex: no vertex within tolerance
  | other
  deriving Repr, DecidableEq, Inhabited

inductive PanicKind where
  | addOverflow | subOverflow | mulOverflow | shlOverflow | shrOverflow | powOverflow
  | indexOOB | capacity | fuel | notCCW | invalidDigit | unwrapNone
  deriving Repr, DecidableEq, Inhabited

inductive Outcome (α : Type) where
  | ok (v : α)
  | err (e : ErrKind)
  | panic (k : PanicKind)
  deriving Repr, DecidableEq, Inhabited

namespace Outcome

@[inline] def bind {α β : Type} (x : Outcome α) (f : α → Outcome β) : Outcome β :=
  match x with
  | ok v => f v
  | err e => err e
  | panic k => panic k

instance : Monad Outcome where
  pure := ok
  bind := bind

-- proved by `Eq.trans rfl rfl`, not `rfl`: `simp` uses a `rfl` lemma as a `dsimp` step, which the kernel re-checks by
-- unfolding the whole term; as a rewrite step it checks only this equation
@[simp] theorem bind_ok {α β} (v : α) (f : α → Outcome β) : (ok v >>= f) = f v := Eq.trans rfl rfl
@[simp] theorem bind_err {α β} (e : ErrKind) (f : α → Outcome β) : (err e >>= f) = err e := Eq.trans rfl rfl
@[simp] theorem bind_panic {α β} (k : PanicKind) (f : α → Outcome β) : (panic k >>= f) = panic k := Eq.trans rfl rfl
@[simp] theorem pure_eq {α} (v : α) : (pure v : Outcome α) = ok v := Eq.trans rfl rfl
@[simp] theorem bind_def {α β} (x : Outcome α) (f : α → Outcome β) : x.bind f = (x >>= f) := Eq.trans rfl rfl

def isPanic {α} : Outcome α → Bool
  | panic _ => true
  | _ => false

def isOk {α} : Outcome α → Bool
  | ok _ => true
  | _ => false

instance : LawfulMonad Outcome := LawfulMonad.mk'
  (id_map := by intro α x; cases x <;> rfl)
  (pure_bind := by intros; rfl)
  (bind_assoc := by intro α β γ x f g; cases x <;> rfl)

end Outcome

/-! Checked integer primitives (overflow-checked build).  `u64`/`usize` are `Nat` below `2^64`,
`u32` is `Nat` below `2^32`, `i32` is `Int` in `[-2^31, 2^31)`. -/

def U64 : Nat := 2 ^ 64

def u64Add (a b : Nat) : Outcome Nat :=
  if a + b < 2 ^ 64 then .ok (a + b) else .panic .addOverflow

def u64Mul (a b : Nat) : Outcome Nat :=
  if a * b < 2 ^ 64 then .ok (a * b) else .panic .mulOverflow

/-- `a << n` on `u64`: panics (debug) only when the shift amount is ≥ 64; bits shifted out are
dropped silently. -/
def u64Shl (a n : Nat) : Outcome Nat :=
  if n < 64 then .ok ((a <<< n) % 2 ^ 64) else .panic .shlOverflow

def u64Shr (a n : Nat) : Outcome Nat :=
  if n < 64 then .ok (a >>> n) else .panic .shrOverflow

def u32Sub (a b : Nat) : Outcome Nat :=
  if b ≤ a then .ok (a - b) else .panic .subOverflow

def i32InRange (x : Int) : Bool := decide (-2147483648 ≤ x ∧ x ≤ 2147483647)

def i32Add (a b : Int) : Outcome Int :=
  if i32InRange (a + b) then .ok (a + b) else .panic .addOverflow

def i32Sub (a b : Int) : Outcome Int :=
  if i32InRange (a - b) then .ok (a - b) else .panic .subOverflow

def i32Mul (a b : Int) : Outcome Int :=
  if i32InRange (a * b) then .ok (a * b) else .panic .mulOverflow

end A5
