import A5.Model.PentagonG
/-! # Generic twin of `split_edges` (`geometry/pentagon.rs`, model `polySplitEdges`)

`PentagonShape::split_edges(segments)` walks the edges `(v_i, v_{(i+1) % n})` and emits, per edge, the start vertex and
the `segments - 1` interior points `v1 + t * (v2 - v1)`, `t = (j0 + 1) / segments` (both computed in `f64` from the
integer counters), then hands the list to `PentagonShape::from_vertices` (`polyNew`: reverse when the winding test
fails).  For `segments ≤ 1` it returns the polygon itself (no `from_vertices`).

`splitEdgesG` is the point list BEFORE `from_vertices`, over an arbitrary scalar type, points as pairs; the conversion
`ofNat : Nat → α` of the two counters is a parameter.  It has no `segments ≤ 1` branch: for `segments ≤ 1` the loop
emits exactly the vertices (`splitEdgesG_le_one`), which is what the model returns.

The tie lemmas are structural: no float arithmetic is reasoned about.

Core only (model layer). -/
namespace A5.PG
variable {α : Type}

/-- the point `a + t * (b - a)`, componentwise, with the operation order of `split_edges` -/
def lerpG [Add α] [Sub α] [Mul α] (t : α) (a b : α × α) : α × α :=
  (a.1 + t * (b.1 - a.1), a.2 + t * (b.2 - a.2))

/-- the points emitted for one edge `v1 → v2`: `v1` and the `segments - 1` interior points -/
def splitEdgeG [Add α] [Sub α] [Mul α] [Div α] (ofNat : Nat → α) (segments : Nat) (v1 v2 : α × α) : List (α × α) :=
  v1 :: ((List.range (segments - 1)).map (fun j0 =>
    let t := ofNat (j0 + 1) / ofNat segments
    (v1.1 + t * (v2.1 - v1.1), v1.2 + t * (v2.2 - v1.2))))

/-- generic twin of the point list of `polySplitEdges` (`split_edges` before `from_vertices`) -/
def splitEdgesG [Add α] [Sub α] [Mul α] [Div α] (ofNat : Nat → α) (zero : α) (vs : List (α × α)) (segments : Nat) :
    List (α × α) :=
  let n := vs.length
  (List.range n).flatMap (fun i =>
    let v1 := vs.getD i (zero, zero)
    let v2 := vs.getD ((i + 1) % n) (zero, zero)
    v1 :: ((List.range (segments - 1)).map (fun j0 =>
      let t := ofNat (j0 + 1) / ofNat segments
      (v1.1 + t * (v2.1 - v1.1), v1.2 + t * (v2.2 - v1.2)))))

theorem splitEdgesG_eq [Add α] [Sub α] [Mul α] [Div α] (ofNat : Nat → α) (zero : α) (vs : List (α × α)) (segments : Nat) :
    splitEdgesG ofNat zero vs segments =
      (List.range vs.length).flatMap (fun i =>
        splitEdgeG ofNat segments (vs.getD i (zero, zero)) (vs.getD ((i + 1) % vs.length) (zero, zero))) :=
  Eq.trans rfl rfl

theorem splitEdgeG_interior [Add α] [Sub α] [Mul α] [Div α] (ofNat : Nat → α) (segments : Nat) (v1 v2 : α × α) :
    splitEdgeG ofNat segments v1 v2 =
      v1 :: ((List.range (segments - 1)).map (fun j0 => lerpG (ofNat (j0 + 1) / ofNat segments) v1 v2)) :=
  Eq.trans rfl rfl

theorem length_flatMap_const {ι β : Type} (f : ι → List β) (n : Nat) (hf : ∀ i, (f i).length = n) :
    ∀ l : List ι, (l.flatMap f).length = l.length * n := by
  intro l
  induction l with
  | nil => simp only [List.flatMap_nil, List.length_nil, Nat.zero_mul]
  | cons a as ih =>
    rewrite [List.flatMap_cons, List.length_append, ih, hf, List.length_cons, Nat.succ_mul]
    exact Nat.add_comm _ _

theorem getElem?_flatMap_const {ι β : Type} (f : ι → List β) (n : Nat) (hf : ∀ i, (f i).length = n) :
    ∀ (l : List ι) (i j : Nat), j < n → (l.flatMap f)[i * n + j]? = (l[i]?).bind (fun a => (f a)[j]?) := by
  intro l
  induction l with
  | nil => intro i j _; simp only [List.flatMap_nil, List.getElem?_nil, Option.bind_none]
  | cons a as ih =>
    intro i j hj
    rewrite [List.flatMap_cons]
    cases i with
    | zero =>
      rewrite [Nat.zero_mul, Nat.zero_add, List.getElem?_append_left (by rewrite [hf]; exact hj)]
      simp only [List.getElem?_cons_zero, Option.bind_some]
    | succ i =>
      have e : (i + 1) * n + j = (f a).length + (i * n + j) := by rewrite [hf, Nat.succ_mul]; omega
      rewrite [e, List.getElem?_append_right (Nat.le_add_right _ _), Nat.add_sub_cancel_left, ih i j hj]
      simp only [List.getElem?_cons_succ]

section structure_
variable [Add α] [Sub α] [Mul α] [Div α]

theorem splitEdgeG_length (ofNat : Nat → α) (n : Nat) (hn : 1 ≤ n) (v1 v2 : α × α) :
    (splitEdgeG ofNat n v1 v2).length = n := by
  unfold splitEdgeG
  rewrite [List.length_cons, List.length_map, List.length_range]
  omega

theorem splitEdgesG_length (ofNat : Nat → α) (zero : α) (vs : List (α × α)) (n : Nat) (hn : 1 ≤ n) :
    (splitEdgesG ofNat zero vs n).length = vs.length * n := by
  rewrite [splitEdgesG_eq, length_flatMap_const _ n (fun i => splitEdgeG_length ofNat n hn _ _), List.length_range]
  rfl

theorem splitEdgesG_getElem? (ofNat : Nat → α) (zero : α) (vs : List (α × α)) (n i j : Nat) (hn : 1 ≤ n)
    (hi : i < vs.length) (hj : j < n) :
    (splitEdgesG ofNat zero vs n)[i * n + j]? =
      (splitEdgeG ofNat n (vs.getD i (zero, zero)) (vs.getD ((i + 1) % vs.length) (zero, zero)))[j]? := by
  rewrite [splitEdgesG_eq, getElem?_flatMap_const _ n (fun i => splitEdgeG_length ofNat n hn _ _) _ i j hj,
    List.getElem?_range hi]
  rfl

theorem corners_split (ofNat : Nat → α) (zero : α) (vs : List (α × α)) (n i : Nat) (hn : 1 ≤ n) (hi : i < vs.length) :
    (splitEdgesG ofNat zero vs n)[i * n]? = vs[i]? := by
  have h := splitEdgesG_getElem? ofNat zero vs n i 0 hn hi (by omega)
  rewrite [Nat.add_zero] at h
  rewrite [h]
  unfold splitEdgeG
  rewrite [List.getElem?_cons_zero, List.getD_eq_getElem?_getD, List.getElem?_eq_getElem hi]
  rfl

end structure_

theorem splitEdgesG_le_one [Add α] [Sub α] [Mul α] [Div α] (ofNat : Nat → α) (zero : α) (vs : List (α × α))
    (segments : Nat) (h : segments ≤ 1) : splitEdgesG ofNat zero vs segments = vs := by
  unfold splitEdgesG
  have e : segments - 1 = 0 := by omega
  rewrite [e]
  simp only [List.range_zero, List.map_nil]
  apply List.ext_getElem?
  intro k
  have hsing : ∀ (l : List Nat), (l.flatMap fun i => [vs.getD i (zero, zero)]) = l.map fun i => vs.getD i (zero, zero) := by
    intro l
    induction l with
    | nil => rfl
    | cons a as ih => rewrite [List.flatMap_cons, ih]; rfl
  rewrite [hsing, List.getElem?_map]
  by_cases hk : k < vs.length
  · rewrite [List.getElem?_range hk, List.getElem?_eq_getElem hk, Option.map_some, List.getD_eq_getElem?_getD,
      List.getElem?_eq_getElem hk]
    rfl
  · rewrite [List.getElem?_eq_none (by rewrite [List.length_range]; omega), List.getElem?_eq_none (by omega)]
    rfl

theorem getD_map_toPair (vs : Poly) (j : Nat) :
    (vs.map toPair).getD j ((0.0 : Float), (0.0 : Float)) = toPair (vs.getD j default) := by
  simp only [List.getD_eq_getElem?_getD, List.getElem?_map]
  cases vs[j]? <;> rfl

/-- the point list built inside `polySplitEdges`, before `polyNew` (same term as in the model) -/
def splitPtsF (vs : Poly) (segments : Nat) : Poly :=
  let n := vs.length
  (List.range n).flatMap (fun i =>
    let v1 := vs.getD i default
    let v2 := vs.getD ((i + 1) % n) default
    v1 :: ((List.range (segments - 1)).map (fun j0 =>
      let t := Float.ofNat (j0 + 1) / Float.ofNat segments
      (⟨v1.x + t * (v2.x - v1.x), v1.y + t * (v2.y - v1.y)⟩ : V2))))

theorem polySplitEdges_eq_splitPtsF (vs : Poly) (n : Nat) :
    polySplitEdges vs n = if n ≤ 1 then vs else polyNew (splitPtsF vs n) := Eq.trans rfl rfl

/-- **tie**: the point list of `split_edges` is the generic twin evaluated at `Float` -/
theorem splitPts_tie (vs : Poly) (n : Nat) :
    (splitPtsF vs n).map toPair = splitEdgesG Float.ofNat (0.0 : Float) (vs.map toPair) n := by
  unfold splitPtsF splitEdgesG
  rewrite [List.map_flatMap, List.length_map]
  refine congrArg List.flatten (List.map_congr_left ?_)
  intro i _
  simp only [List.map_cons, List.map_map]
  rewrite [getD_map_toPair, getD_map_toPair]
  rfl

/-- **tie**: `polySplitEdges` is the polygon itself for `n ≤ 1`, else `polyNew` of a list whose pairs are the twin -/
theorem polySplitEdges_tie_raw (vs : Poly) (n : Nat) :
    ∃ pts : Poly, polySplitEdges vs n = (if n ≤ 1 then vs else polyNew pts) ∧
      pts.map toPair = splitEdgesG Float.ofNat (0.0 : Float) (vs.map toPair) n :=
  ⟨splitPtsF vs n, polySplitEdges_eq_splitPtsF vs n, splitPts_tie vs n⟩

end A5.PG
