import A5.Props.C01
import A5.Props.C02
import A5.Props.C03
import A5.Props.C04
import A5.Props.C05
import A5.Props.C06
import A5.Props.C07
import A5.Props.C08
import A5.Props.C09
import A5.Props.C10
import A5.Props.C11
import A5.Props.C12
import A5.Props.C13
import A5.Props.C14
import A5.Props.C15
import A5.Props.C16
import A5.Props.C17
import A5.Props.C18
import A5.Props.C19
import A5.Props.C20
import A5.Props.StateInventory
import A5.Lemmas.C02Lookup
/-! All property modules together: building this detects name clashes between lemma files that no property imports together. -/
