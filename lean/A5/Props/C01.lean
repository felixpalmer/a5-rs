import A5.Lemmas.LookupSkel
import A5.Model.DistanceG
import A5.Lemmas.DistanceOutside
/-! # C01 — point-to-cell lookup: resolution of the answer, error behaviour, soundness of a hit

"For every point and every resolution −1..29 the point-to-cell lookup succeeds and returns a cell of
exactly that resolution …"

Model: `A5.lonlatToCell`, `A5.lonlatToCellB` (same function, with the branch tag), `A5.lonlatToEstimate`,
`A5.cellContainsPoint`, `A5.lookupLoop` (`A5/Model/CellGeo.lean`).  All coordinates are IEEE doubles
computed through libm; nothing numeric is provable about them, so the theorems about the lookup hold for
*arbitrary* float sub-results and speak about the integer skeleton: which outcomes are possible, the
layout/resolution of the returned id, and what the model itself has checked about the returned cell.
The last section is about the fallback's ranking (`distance_outside`, defect F16): ties of the Float loops to
their generic folds, and `fallback_distance_sound` over `ℝ`.

NOT proved here (float-dependent; left to the differential correspondence check and the search):
that the lookup *succeeds* — two failure modes survive at the skeleton level, see `lookup_outcomes` —
and that the returned cell geometrically contains the point. -/
namespace A5.C01
open A5

/-- Encoder lemma.  Whenever `serialize` succeeds on a cell naming a real face (`origin < 12`)
and a real quintant (`segment < 5`), the id is in the documented layout and carries the cell's
resolution, which is in −1..29.  The ignored fields (`segment`, `s` at resolution 0; `s` at resolution 1)
need not be normalised, and a curve position that does not fit is an error, never a wrapped id. -/
theorem serialize_ok_layout (c : Cell) (id : Nat) (h : serialize c = .ok id) (ho : c.origin < 12)
    (hs : c.segment < 5) : Layout id ∧ getResolution id = c.res ∧ -1 ≤ c.res ∧ c.res ≤ 29 :=
  A5.serialize_ok_layout c id h ho hs

/-- T1. For EVERY `lon lat : Float` (NaN and ±∞ included) and EVERY `r : Int`: if the lookup returns an
id, the id is in the documented layout and its resolution is exactly `r`; for `r = −1` it is the world
cell 0.  (For `r` outside −1..29 the hypothesis is never met, see `lookup_out_of_range`.) -/
theorem lookup_resolution (lon lat : Float) (r : Int) (id : Nat) (h : lonlatToCell lon lat r = .ok id) :
    getResolution id = r ∧ Layout id ∧ (r = -1 → id = 0) := by
  rewrite [lonlatToCell_eq] at h
  obtain ⟨res, hb, h⟩ := Outcome.bind_eq_ok _ _ _ h
  cases Outcome.ok.inj h
  obtain ⟨_, _, hlay, hres, hbr⟩ := lonlatToCellB_ok_post lon lat r res hb
  refine ⟨hres, hlay, fun hw => ?_⟩
  rcases hbr with ⟨_, h0, _⟩ | ⟨h0, _⟩ | ⟨h0, _⟩ | ⟨h0, _⟩
  · exact h0
  · omega
  · omega
  · omega

/-- T2a. Every resolution outside −1..29 is rejected with `resOutOfRange`: no panic, no wrapped
resolution, for every point. -/
theorem lookup_out_of_range (lon lat : Float) (r : Int) (h : r < -1 ∨ 29 < r) :
    lonlatToCell lon lat r = .err .resOutOfRange := by
  rewrite [lonlatToCell_eq, lonlatToCellB_outOfRange lon lat r h]
  rfl

/-- T2b. Resolution −1 always yields the world cell. -/
theorem lookup_world (lon lat : Float) : lonlatToCell lon lat (-1) = .ok 0 := by
  rewrite [lonlatToCell_eq, lonlatToCellB_world]
  rfl

/-- T2c. For −1 ≤ r ≤ 29 exactly three kinds of outcome are possible, for every point:
* an id;
* the error `crsVertex` (only for `r ≥ 0`; raised by `CRS::get_vertex` inside the dodecahedron projection
  when a float-computed triangle corner is not within tolerance of a stored vertex);
* the panic `notCCW` (only for `r ≥ 2`; the float winding test of `contains_point` on the candidate cell).
Ruled out for all inputs: `invalidOrigin` (the nearest-origin search returns one of the 12 faces), `other`
(the face-triangle index is always 0..9), `sTooLarge`/`resTooLarge`/`resNegative` from the encoder,
`indexOOB` (in particular the `cells[0]` of the empty fallback list: the first sample either returns
or records a miss), the shift/subtraction overflow guards of `ij_to_s` / `s_to_anchor`, and `fuel`. -/
theorem lookup_outcomes (lon lat : Float) (r : Int) (hm : -1 ≤ r) (hr : r ≤ 29) :
    (∃ id, lonlatToCell lon lat r = .ok id) ∨
    (lonlatToCell lon lat r = .err .crsVertex ∧ 0 ≤ r) ∨
    (lonlatToCell lon lat r = .panic .notCCW ∧ 2 ≤ r) := by
  rewrite [lonlatToCell_eq]
  have hpost := lonlatToCellB_post lon lat r hm hr
  cases hb : lonlatToCellB lon lat r with
  | ok res => exact Or.inl ⟨res.id, rfl⟩
  | err e =>
    rewrite [hb] at hpost
    obtain ⟨he, h0⟩ := hpost
    subst he
    exact Or.inr (Or.inl ⟨rfl, h0⟩)
  | panic k =>
    rewrite [hb] at hpost
    obtain ⟨hk, h2⟩ := hpost
    subst hk
    exact Or.inr (Or.inr ⟨rfl, h2⟩)

/-- T2d. The lookup never panics below the curve resolutions (r < 2). -/
theorem lookup_low_no_panic (lon lat : Float) (r : Int) (h2 : r < 2) : (lonlatToCell lon lat r).isPanic = false := by
  by_cases hrange : r < -1 ∨ 29 < r
  · rewrite [lookup_out_of_range lon lat r hrange]; rfl
  rcases lookup_outcomes lon lat r (by omega) (by omega) with ⟨id, h⟩ | ⟨h, _⟩ | ⟨_, h⟩
  · rewrite [h]; rfl
  · rewrite [h]; rfl
  · omega

/-- T2e (component lemmas, each for arbitrary floats). -/
theorem estimate_outcomes (lon lat : Float) (r : Int) (hr : r ≤ 29) :
    lonlatToEstimate lon lat r = .err .crsVertex ∨
    ∃ c, lonlatToEstimate lon lat r = .ok c ∧ c.res = r ∧ c.origin < 12 ∧ c.segment < 5 ∧
      (if r < 2 then c.s = 0 else c.s < 4 ^ (r - 1).toNat) :=
  lonlatToEstimate_cases lon lat r hr

theorem nearest_origin_is_a_face (theta phi : Float) : (findNearestOrigin theta phi).id < 12 :=
  findNearestOrigin_id theta phi

theorem hilbert_index_no_overflow (i j : Float) (n : Nat) (o : Orientation) (hn : n ≤ 30) :
    ∃ s, ijToS floatLits i j n o = .ok s ∧ s < 4 ^ n :=
  ijToS_ok floatLits i j n o hn

theorem anchor_no_overflow (s n : Nat) (o : Orientation) (hn : n ≤ 30) (hs : s < 4 ^ n) :
    ∃ a, sToAnchor s n o = .ok a :=
  sToAnchor_ok s n o hn hs

theorem projection_outcomes (theta phi : Float) (o : Nat) (ho : o < 12) :
    dodecaForward theta phi o = .err .crsVertex ∨ ∃ v, dodecaForward theta phi o = .ok v :=
  (dodecaForward_okOrCrs theta phi o ho).cases

/-- Intended full statement of C01's first half ("the lookup succeeds").  NOT provable at the skeleton
level: by `lookup_outcomes` it is equivalent to the absence of `crsVertex` errors and `notCCW` panics,
both of which depend on float values. -/
def lookup_succeeds_statement : Prop :=
  ∀ (lon lat : Float) (r : Int), -1 ≤ r → r ≤ 29 → ∃ id, lonlatToCell lon lat r = .ok id

/-- T3a. A hit is sound with respect to the model's own test: if the lookup (with branch tag) returns
`⟨id, k⟩` with `k ≥ 0` (k-th distinct estimate contained the point), then `id` is the encoding of the
estimate cell `c` of one of the 26 probe samples, and `cellContainsPoint c lon lat` — evaluated at the
QUERY point — returned a strictly positive value. -/
theorem lookup_hit_sound (lon lat : Float) (r : Int) (id : Nat) (k : Int)
    (h : lonlatToCellB lon lat r = .ok ⟨id, k⟩) (hk : 0 ≤ k) :
    2 ≤ r ∧ r ≤ 29 ∧
    ∃ c d, serialize c = .ok id ∧ c.res = r ∧
      (∃ smp ∈ probeSamples lon lat (r - 1), lonlatToEstimate smp.1 smp.2 r = .ok c) ∧
      cellContainsPoint c lon lat = .ok d ∧ d > 0.0 := by
  obtain ⟨_, _, _, _, hbr⟩ := lonlatToCellB_ok_post lon lat r _ h
  have e : 1 + r - 2 = r - 1 := by omega
  rcases hbr with ⟨_, _, hb⟩ | ⟨_, _, hb, _⟩ | ⟨h2, _, hhit⟩ | ⟨_, hb, _⟩
  · simp only at hb; omega
  · simp only at hb; omega
  · rewrite [e] at hhit
    obtain ⟨c, d, hest, hsmp, hser, hcp, hpos⟩ := hhit
    exact ⟨h2, by omega, c, d, hser, hest.1, hsmp, hcp, hpos⟩
  · simp only at hb; omega

/-- T3b. The fallback (`k = −1`): the answer is the encoding of the FIRST MAXIMUM (`firstMax`: left fold
keeping the earlier element on ties and on incomparable values) of the non-empty list of recorded
misses; every recorded miss is the estimate of a probe sample whose containment value at the query point
was computed and was not positive, recorded with the negated perpendicular distance from the query point
to its pentagon (`cellDistanceOutside`; repair of defect F16) - so the fallback returns the tried cell with
the smallest recorded distance (what that distance bounds is `fallback_distance_sound`). -/
theorem lookup_fallback (lon lat : Float) (r : Int) (id : Nat)
    (h : lonlatToCellB lon lat r = .ok ⟨id, -1⟩) :
    2 ≤ r ∧ r ≤ 29 ∧
    ∃ c0 rest, serialize (firstMax c0 rest).1 = .ok id ∧ firstMax c0 rest ∈ c0 :: rest ∧
      ∀ e ∈ c0 :: rest, e.1.res = r ∧
        (∃ smp ∈ probeSamples lon lat (r - 1), lonlatToEstimate smp.1 smp.2 r = .ok e.1) ∧
        (∃ d, cellContainsPoint e.1 lon lat = .ok d ∧ ¬ (d > 0.0)) ∧
        (∃ o, cellDistanceOutside e.1 lon lat = .ok o ∧ e.2 = -o) := by
  obtain ⟨_, _, _, _, hbr⟩ := lonlatToCellB_ok_post lon lat r _ h
  have e : 1 + r - 2 = r - 1 := by omega
  rcases hbr with ⟨_, _, hb⟩ | ⟨_, _, hb, _⟩ | ⟨_, hb, _⟩ | ⟨h2, _, hfb⟩
  · simp only at hb; omega
  · simp only at hb; omega
  · simp only at hb; omega
  · rewrite [e] at hfb
    obtain ⟨extra, c0, rest, hmiss, happ, _, hser⟩ := hfb
    rewrite [List.nil_append] at happ
    subst happ
    refine ⟨h2, by omega, c0, rest, hser, firstMax_mem rest c0, fun e he => ?_⟩
    obtain ⟨h1, h2', h3, h4⟩ := hmiss e he
    exact ⟨h1.1, h2', h3, h4⟩

/-- T3c. The branch tag takes no other values: −3 (world), −2 (below the curve), −1 (fallback), ≥ 0 (hit). -/
theorem lookup_branches (lon lat : Float) (r : Int) (id : Nat) (k : Int)
    (h : lonlatToCellB lon lat r = .ok ⟨id, k⟩) :
    (k = -3 ∧ r = -1) ∨ (k = -2 ∧ 0 ≤ r ∧ r < 2) ∨ (k = -1 ∧ 2 ≤ r) ∨ (0 ≤ k ∧ 2 ≤ r) := by
  obtain ⟨_, _, _, _, hbr⟩ := lonlatToCellB_ok_post lon lat r _ h
  rcases hbr with ⟨hr, _, hb⟩ | ⟨h0, h2, hb, _⟩ | ⟨h2, hb, _⟩ | ⟨h2, hb, _⟩
  · exact Or.inl ⟨hb, hr⟩
  · exact Or.inr (Or.inl ⟨hb, h0, h2⟩)
  · exact Or.inr (Or.inr (Or.inr ⟨hb, h2⟩))
  · exact Or.inr (Or.inr (Or.inl ⟨hb, h2⟩))

/-! ## skeleton for C02 (`cell_to_lonlat`) -/

/-- a successful `cell_to_lonlat` implies the id decodes -/
theorem cellToLonLat_ok_decodes (id : Nat) (p : Float × Float) (h : cellToLonLat id = .ok p) :
    (deserialize id).isOk = true :=
  cellToLonLat_ok_deserialize id p h

/-- the world cell and all its aliases (no resolution marker) give `(0, 0)` -/
theorem cellToLonLat_world_aliases (id : Nat) (h : getResolution id = -1) : cellToLonLat id = .ok (0.0, 0.0) :=
  cellToLonLat_world id h

/-- the general encoder lemma on a concrete valid cell … -/
example : Layout 0x92d8000000000000 ∧ getResolution 0x92d8000000000000 = 4 := by
  have h : serialize ⟨7, 3, 0x2d, 4⟩ = .ok 0x92d8000000000000 := by
    rewrite [serialize_valid _ (by decide)]; exact congrArg Outcome.ok (by decide)
  have := serialize_ok_layout ⟨7, 3, 0x2d, 4⟩ _ h (by decide) (by decide)
  exact ⟨this.1, this.2.1⟩

/-- … and on a cell with non-normalised ignored fields (segment 3 and s = 99 at resolution 0) -/
example : ∃ id, serialize ⟨7, 3, 99, 0⟩ = .ok id ∧ Layout id ∧ getResolution id = 0 :=
  have h := serialize_ok 7 3 99 0 (by decide) (by decide) (by decide) (by decide) (Or.inl (by decide))
  ⟨_, h, (serialize_ok_layout _ _ h (by decide) (by decide)).1, (serialize_ok_layout _ _ h (by decide) (by decide)).2.1⟩

/-- a curve position that does not fit is rejected -/
example : serialize ⟨7, 3, 64, 4⟩ = .err .sTooLarge :=
  serialize_sTooLarge 7 3 64 4 (by decide) (by decide) (by decide) (by decide) (by decide)

/-- the estimate invariant is satisfiable at a curve resolution -/
example : EstOK 4 ⟨7, 3, 0x2d, 4⟩ := ⟨rfl, by decide, by decide, by decide⟩

/-- T1's hypothesis is met for every point at resolution −1, T2a at resolution 30 and −2 -/
example (lon lat : Float) : lonlatToCell lon lat (-1) = .ok 0 := lookup_world lon lat
example (lon lat : Float) : lonlatToCell lon lat 30 = .err .resOutOfRange := lookup_out_of_range lon lat 30 (by decide)
example (lon lat : Float) : lonlatToCell lon lat (-2) = .err .resOutOfRange := lookup_out_of_range lon lat (-2) (by decide)

/-- the first probe sample is the query point itself -/
example (lon lat : Float) : ∃ tail, probeSamples lon lat 3 = (lon, lat) :: tail ∧ tail.length = 25 :=
  probeSamples_eq lon lat 3

/-- world aliases: ids 1 and 0x4000000000000004 have no resolution marker -/
example : getResolution 1 = -1 ∧ getResolution 0x4000000000000004 = -1 := by decide

/-! ## what the fallback's ranking means (repair of defect F16)

The hit test of the lookup (`polyContains`: positive) and the score the fallback ranks the misses by (`polyDistanceOutside`) are
folds over the same edge-by-edge cross products.  `Model/DistanceG.lean` states both loops over an arbitrary scalar type
(`containsG`, `distanceOutsideG`), tied to the Float model by induction on the loop counter only; `Lemmas/DistanceOutside.lean`
instantiates them at the reals. -/

open A5.DG in
/-- **Ties.** the Float model's two loops ARE the generic ones at `Float` -/
theorem fallback_loops_are_twins (vs : Poly) (p : V2) :
    polyDistanceOutside vs p = distanceOutsideG floatOps (vs.map toPair) (toPair p) ∧
    polyContains vs p =
      (if !windingCorrect vs then .panic .notCCW else .ok (containsG floatOps (vs.map toPair) (toPair p))) :=
  ⟨polyDistanceOutside_tie vs p, polyContains_tie vs p⟩

open A5.DG in
/-- **Float level, structure only.** when no edge reports the point on its wrong side, the hit test answers exactly `1.0` and
the distance exactly `0.0`: the two never disagree about a point the cross products place inside -/
theorem inside_is_hit_and_distance_zero (vs : Poly) (p : V2) (hw : windingCorrect vs = true)
    (h : polyViolated vs p = false) : polyContains vs p = .ok 1.0 ∧ polyDistanceOutside vs p = 0.0 :=
  ⟨polyContains_eq_one_of_no_violation vs p hw h, polyDistanceOutside_eq_zero_of_no_violation vs p h⟩

open A5.DG in
/-- **Real arithmetic.** for ANY polygon (list of points) and any point: the distance is non-negative; it is zero exactly
when the point is on the inner side of every edge; the hit test is positive exactly then; and the distance never overestimates
the Euclidean distance from the point to any point on the inner side of every edge - so the cell the fallback returns is, among
the tried cells, one whose pentagon the point is nearest to in this (lower-bound) sense, and a tried cell that actually
contains the point always wins with distance 0. -/
theorem fallback_distance_sound (vs : List (ℝ × ℝ)) (p : ℝ × ℝ) :
    0 ≤ distanceOutsideR vs p ∧
    (distanceOutsideR vs p = 0 ↔ InsideR vs p) ∧
    (0 < containsR vs p ↔ distanceOutsideR vs p = 0) ∧
    ∀ x, InsideR vs x → distanceOutsideR vs p ≤ eucl p x :=
  ⟨distanceOutside_nonneg vs p, distanceOutside_eq_zero_iff vs p, contains_pos_iff_distanceOutside_zero vs p,
    fun x hx => distanceOutside_le_dist vs p x hx⟩

end A5.C01
