import A5.Props.C17
import A5.Props.C05
import A5.Model.CellGeo
/-! # C02 — a cell's centre and every interior point map back to that cell (exact-arithmetic skeleton)

"A cell's centre and every interior point map back to that cell."

The public round trip is `cell_to_lonlat` (`deserialize` → `s_to_anchor` → pentagon → centre → inverse projection)
followed by `lonlat_to_cell` (projection → quintant → lattice coordinates → `ij_to_s` → `serialize`).  This file
composes the two exact halves — the codec (C05) and the curve (C17) — over an arbitrary
linearly ordered field `K`, for EVERY valid cell of a curve resolution `2 ≤ r ≤ 29` and EVERY orientation code
`o < 6` (the orientation is a table function of face and segment; we quantify over all six):

* T1 `cell_roundtrip_exact`: `id → cell → anchor → ANY point of the cell's lattice triangle → curve position → id`
  is the identity; `id_roundtrip_exact` is the same starting from an arbitrary id in the documented layout.
* `cells_disjoint_triangles`: two cells of one quintant and resolution whose lattice triangles share a point are equal.
* `segment_quintant_roundtrip`: the two table conversions segment ↔ (quintant, orientation) used by the two directions
  are mutually inverse and name the same orientation (for every origin record with `firstQuintant < 5`).

* T1 for the centre, `centre_roundtrip_exact`: the exact centre of the pentagon `get_pentagon_vertices` draws from the
  library's start-up constants (`A5.Gen.Runtime`, exact rationals) lies in the cell's open lattice triangle
  (`PG.centreIJ_in_anchorTri`), so the chain `id → pentagon centre → ij_to_s → serialize` returns the id in exact
  arithmetic.  Only membership is stated; the distance to the sides (`PG.local_margin`: each of the eight unplaced centres
  is more than 0.148 lattice units inside every side of its reference triangle) is used inside that proof.

The `Float` skeleton of the lookup (T2 `lookup_direct_hit_is_roundtrip`, `roundtrip_of_direct_hit`) is in
`A5/Lemmas/C02Lookup.lean`.

NOT proved (float residue, kept as `centre_roundtrip_statement` / `centre_in_triangle_statement`): that the `f64`
evaluation of that centre, pushed through the inverse and the forward projection, stays inside `anchorTri a` (the exact
centre has about the 0.148 of `PG.local_margin` to spare) and in the same face and quintant.  Interior points in the parts of a pentagon that stick out of its lattice triangle
are found by the probe search, not by the direct branch; they stay with the differential search. -/
set_option linter.unusedSectionVars false
namespace A5.C02
open A5 A5.HilbertLocate

theorem valid_hilbert (c : Cell) (hv : c.Valid) (h2 : 2 ≤ c.res) :
    c.res ≤ 29 ∧ c.origin < 12 ∧ c.segment < 5 ∧ c.s < 4 ^ (c.res - 1).toNat ∧ (c.res - 1).toNat ≤ 28 := by
  rcases hv with ⟨h, _⟩ | ⟨h, _⟩ | ⟨h, _⟩ | ⟨_, h29, ho, hs, hlt⟩
  · omega
  · omega
  · omega
  · exact ⟨h29, ho, hs, hlt, by omega⟩

section field
variable (K : Type) [Field K] [LinearOrder K] [IsStrictOrderedRing K]

/-- **T1 `cell_roundtrip_exact`.**  For every valid cell `c` of a curve resolution and every orientation `o < 6`, with
`id = encNat c` and `n = res − 1`:  the id decodes to `c`; `s_to_anchor c.s n o` succeeds with an anchor `a` whose lattice
triangle is non-empty; and for EVERY point `(x, y)` of that triangle `ij_to_s` (exact arithmetic) returns `c.s`, so that
re-encoding (face, segment, located position, resolution) gives back `id`. -/
theorem cell_roundtrip_exact (c : Cell) (hv : c.Valid) (h2 : 2 ≤ c.res) (o : Nat) (ho : o < 6) :
    deserialize (encNat c) = .ok c ∧
    ∃ a, sToAnchor c.s (c.res - 1).toNat o = .ok a ∧ IsFlip a.flips ∧
      anchorTri a ((a.offset.1 : K) + (interiorPt a.flips).1) ((a.offset.2 : K) + (interiorPt a.flips).2) ∧
      ∀ x y : K, anchorTri a x y →
        ijToS fieldLits x y (c.res - 1).toNat o = .ok c.s ∧
        (ijToS fieldLits x y (c.res - 1).toNat o >>= fun s' => serialize ⟨c.origin, c.segment, s', c.res⟩) =
          .ok (encNat c) := by
  obtain ⟨_, _, _, hlt, hn⟩ := valid_hilbert c hv h2
  obtain ⟨a, ha, hF, hloc⟩ := C17.locate_anchor K (c.res - 1).toNat o c.s (by omega) ho hlt
  refine ⟨deserialize_enc c hv, a, ha, hF, anchorTri_nonempty a hF, fun x y h => ⟨hloc x y h, ?_⟩⟩
  rewrite [hloc x y h]
  simp only [Outcome.bind_ok]
  exact serialize_valid c hv

/-- T1 starting from an id: every id in the documented layout whose resolution is a curve resolution decodes to a
valid cell, and the chain of T1 returns the id itself. -/
theorem id_roundtrip_exact (id : Nat) (hl : Layout id) (h2 : 2 ≤ getResolution id) (o : Nat) (ho : o < 6) :
    ∃ c, deserialize id = .ok c ∧ c.Valid ∧ c.res = getResolution id ∧
      ∃ a, sToAnchor c.s (c.res - 1).toNat o = .ok a ∧
        ∀ x y : K, anchorTri a x y →
          (ijToS fieldLits x y (c.res - 1).toNat o >>= fun s' => serialize ⟨c.origin, c.segment, s', c.res⟩) = .ok id := by
  obtain ⟨c, hv, hd, he⟩ := deserialize_layout id hl
  have hr : c.res = getResolution id := by rewrite [← he]; exact (getResolution_enc c hv).symm
  obtain ⟨_, a, ha, _, _, h⟩ := cell_roundtrip_exact K c hv (by omega) o ho
  refine ⟨c, hd, hv, hr, a, ha, fun x y hxy => ?_⟩
  rewrite [(h x y hxy).2, he]
  rfl

/-- Distinct cells of one quintant (same face, segment, resolution, hence same orientation) have disjoint lattice
triangles: if the triangles share a point, the cells are equal. -/
theorem cells_disjoint_triangles (c c' : Cell) (hv : c.Valid) (hv' : c'.Valid) (h2 : 2 ≤ c.res)
    (ho : c.origin = c'.origin) (hs : c.segment = c'.segment) (hr : c.res = c'.res) (o : Nat) (hoo : o < 6)
    (a a' : Anchor) (ha : sToAnchor c.s (c.res - 1).toNat o = .ok a) (ha' : sToAnchor c'.s (c.res - 1).toNat o = .ok a')
    (x y : K) (hx : anchorTri a x y) (hx' : anchorTri a' x y) : c = c' := by
  obtain ⟨_, _, _, hlt, hn⟩ := valid_hilbert c hv h2
  obtain ⟨_, _, _, hlt', _⟩ := valid_hilbert c' hv' (by omega)
  rewrite [← hr] at hlt'
  have := C17.triangles_disjoint K (c.res - 1).toNat o c.s c'.s (by omega) hoo hlt hlt' a a' ha ha' x y hx hx'
  obtain ⟨o1, s1, p1, r1⟩ := c
  obtain ⟨o2, s2, p2, r2⟩ := c'
  simp only at ho hs hr this
  subst ho hs hr this
  rfl

end field

/-- **T1 for the centre.**  The centre clause of the property in exact arithmetic, for the pentagon built
from the constants the library really uses (`A5.Gen.Runtime`): for every valid cell of a curve resolution and every
orientation, the exact centre of the cell's pentagon (`get_center` then `face_to_ij`, lattice frame of the quintant)
lies strictly inside the cell's lattice triangle, `ij_to_s` locates it at the cell's own position, and re-encoding
returns the cell's id.  (What remains for `centre_roundtrip_statement` is float rounding and the projection pair.) -/
theorem centre_roundtrip_exact (c : Cell) (hv : c.Valid) (h2 : 2 ≤ c.res) (o : Nat) (ho : o < 6) :
    ∃ a, sToAnchor c.s (c.res - 1).toNat o = .ok a ∧
      anchorTri a (PG.centreIJ a).1 (PG.centreIJ a).2 ∧
      (ijToS fieldLits (PG.centreIJ a).1 (PG.centreIJ a).2 (c.res - 1).toNat o >>=
        fun s' => serialize ⟨c.origin, c.segment, s', c.res⟩) = .ok (encNat c) := by
  obtain ⟨_, _, _, hlt, hn⟩ := valid_hilbert c hv h2
  obtain ⟨a, ha, hc⟩ := C17.centre_in_anchor_triangle (c.res - 1).toNat o c.s (by omega) ho hlt
  obtain ⟨_, a', ha', _, _, h⟩ := cell_roundtrip_exact ℚ c hv h2 o ho
  cases Outcome.ok.inj (ha.symm.trans ha')
  exact ⟨a, ha, hc, (h _ _ hc).2⟩

/-- `segment_to_quintant` undoes `quintant_to_segment` and reports the same orientation: the orientation used by
`get_pentagon` for the cell `(face, segment)` is the one `lonlat_to_estimate` used when it produced that segment. -/
theorem segment_quintant_roundtrip (og : Origin) (hf : og.firstQuintant < 5) (q : Nat) (hq : q < 5) :
    segmentToQuintant (quintantToSegment q og).1 og = (q, (quintantToSegment q og).2) := by
  obtain ⟨id, th, ph, qu, iq, an, ori, f⟩ := og
  simp only at hf
  unfold segmentToQuintant quintantToSegment
  simp only []
  generalize isLayoutClockwise ori = b
  have hc : f = 0 ∨ f = 1 ∨ f = 2 ∨ f = 3 ∨ f = 4 := by omega
  have hc' : q = 0 ∨ q = 1 ∨ q = 2 ∨ q = 3 ∨ q = 4 := by omega
  rcases hc with rfl | rfl | rfl | rfl | rfl <;> rcases hc' with rfl | rfl | rfl | rfl | rfl <;> cases b <;> rfl

/-- and conversely on segments -/
theorem quintant_segment_roundtrip (og : Origin) (hf : og.firstQuintant < 5) (seg : Nat) (hs : seg < 5) :
    quintantToSegment (segmentToQuintant seg og).1 og = (seg, (segmentToQuintant seg og).2) := by
  obtain ⟨id, th, ph, qu, iq, an, ori, f⟩ := og
  simp only at hf
  unfold segmentToQuintant quintantToSegment
  simp only []
  generalize isLayoutClockwise ori = b
  have hc : f = 0 ∨ f = 1 ∨ f = 2 ∨ f = 3 ∨ f = 4 := by omega
  have hc' : seg = 0 ∨ seg = 1 ∨ seg = 2 ∨ seg = 3 ∨ seg = 4 := by omega
  rcases hc with rfl | rfl | rfl | rfl | rfl <;> rcases hc' with rfl | rfl | rfl | rfl | rfl <;> cases b <;> rfl

/-- Intended full statement for the centre (NOT proved; float-dependent): `lonlat_to_cell ∘ cell_to_lonlat = id` on
every valid cell. -/
def centre_roundtrip_statement : Prop :=
  ∀ (c : Cell), c.Valid → ∀ lon lat : Float, cellToLonLat (encNat c) = .ok (lon, lat) →
    lonlatToCell lon lat c.res = .ok (encNat c)

/-- The numeric fact that would close the gap for curve resolutions (NOT proved): the estimate of the computed centre is
the cell itself — i.e. the `f64` centre of `getPentagonVertices`, after the inverse and forward projection, lies in the
cell's own face, quintant and (with the margin absorbing the rounding of `ij_to_s`) lattice triangle — and the model's
own containment test accepts it.  Together with `A5.C02L.roundtrip_of_direct_hit` (`A5/Lemmas/C02Lookup.lean`) this
implies `centre_roundtrip_statement` for `2 ≤ res`. -/
def centre_in_triangle_statement : Prop :=
  ∀ (c : Cell), c.Valid → 2 ≤ c.res → ∀ lon lat : Float, cellToLonLat (encNat c) = .ok (lon, lat) →
    lonlatToEstimate lon lat c.res = .ok c ∧ ∃ d, cellContainsPoint c lon lat = .ok d ∧ d > 0.0

/-- T1 on the concrete cell `⟨7, 3, 0x2d, 4⟩` (resolution 4, depth 3, position 45), orientation 3 -/
example : (⟨7, 3, 0x2d, 4⟩ : Cell).Valid := by decide
example : ∃ a, sToAnchor 0x2d 3 3 = .ok a ∧
    ∀ x y : ℚ, anchorTri a x y →
      (ijToS fieldLits x y 3 3 >>= fun s' => serialize ⟨7, 3, s', 4⟩) = .ok 0x92d8000000000000 := by
  obtain ⟨_, a, ha, _, _, h⟩ := cell_roundtrip_exact ℚ ⟨7, 3, 0x2d, 4⟩ (by decide) (by decide) 3 (by decide)
  have e : encNat ⟨7, 3, 0x2d, 4⟩ = 0x92d8000000000000 := by decide
  rewrite [e] at h
  exact ⟨a, ha, fun x y hxy => (h x y hxy).2⟩

/-- the anchor of that cell and a concrete interior point, evaluated independently of the theorem -/
example : sToAnchor 0x2d 3 3 = .ok ⟨2, (0, 3), (-1, 1)⟩ := by decide
example : ijToS fieldLits (1 / 3 : ℚ) (7 / 3) 3 3 = .ok 0x2d := by decide +kernel

/-- `id_roundtrip_exact`'s hypotheses on a concrete id -/
example : Layout 0x92d8000000000000 ∧ 2 ≤ getResolution 0x92d8000000000000 := by
  have e : encNat ⟨7, 3, 0x2d, 4⟩ = 0x92d8000000000000 := by decide
  have hv : (⟨7, 3, 0x2d, 4⟩ : Cell).Valid := by decide
  have h1 := layout_enc _ hv
  have h2 := getResolution_enc _ hv
  rewrite [e] at h1 h2
  exact ⟨h1, by rewrite [h2]; decide⟩

/-- `segment_quintant_roundtrip` applies to all twelve origin records of the model -/
theorem origins_firstQuintant_lt : ∀ o, o < 12 → (originAt o).firstQuintant < 5 := by decide

example (q : Nat) (hq : q < 5) :
    segmentToQuintant (quintantToSegment q (originAt 7)).1 (originAt 7) = (q, (quintantToSegment q (originAt 7)).2) :=
  segment_quintant_roundtrip _ (origins_firstQuintant_lt 7 (by decide)) q hq

end A5.C02
