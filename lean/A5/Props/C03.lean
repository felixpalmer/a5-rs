import A5.Props.C17
import A5.Spec.Layout
import A5.Model.CellGeo
import A5.Lemmas.PentagonDisjoint3
import Mathlib.MeasureTheory.Measure.Typeclasses.Finite
import Mathlib.MeasureTheory.Measure.Count
/-! # C03 — cells of one resolution partition the sphere: no overlaps, no gaps (T1 lattice, T2 abstract, T3 planar)

"Cells of one resolution partition the sphere: no overlaps, no gaps."

PROVED here:
* T1 `lattice_partition` (from C17, every depth `n ≤ 30`, every orientation `o < 6`, every linearly ordered field `K`):
  every point of the quintant triangle `{x > 0, y > 0, x + y < 2^n}` that is on no lattice line lies in the lattice
  triangle of EXACTLY ONE position `s < 4^n`; every lattice triangle is non-empty and lies inside the quintant
  triangle.  So no unit lattice triangle is claimed twice and none is left out.  `cells_partition_quintant` is the same
  statement about the valid cells `⟨face, segment, s, r⟩` of one quintant.
* T2 `disjoint_of_cover_and_equal_area` [ABSTRACT, CONDITIONAL]: in a finite measure space, finitely many measurable
  sets of equal measure `μ(univ)/N` that cover `univ` up to a null set intersect pairwise in null sets
  (`null_inter_of_cover_of_sum_le`: it is enough that the measures sum to at most `μ(univ)`).  This reduces
  "no overlap" on the sphere to "every point is in some cell" (C01) and "all cells have equal area" (C04/C16); neither
  hypothesis is proved here for the spherical cells.

* T3 `pentagons_do_not_overlap` (planar, exact rational arithmetic on the runtime constants, EVERY depth `n ≤ 30`, every
  orientation, all positions `s ≠ t`; `A5/Lemmas/PentagonDisjoint*.lean`): no point lies more than `2⁻⁵⁴` (in cross-product
  units; `< 2⁻⁵²` lattice units from an edge line) inside the pentagons of two different positions; pentagons whose anchors
  are more than 2 lattice steps apart have exactly disjoint interiors.  The plain statement "disjoint interiors" is FALSE on
  the rounded constants (`pentagons_disjoint_exact_is_false`: neighbours that ideally share an edge overlap in a sliver
  about 3·10⁻¹⁷ wide) and the margin is sharp up to a factor 4 (`overlap_margin_sharp`).  Proof: the relative
  configuration of two cells (offset difference, flips, k digits) lives in a finite set closed under subdivision
  (964 configurations of the internal anchors with `|Δ| ≤ 4` × 16 pairs of digits, kernel-checked); each of the 588
  configurations of final anchors with `|Δ| ≤ 2` carries a separating edge with slack; those with `|Δ| > 2` are separated
  by bounding hexagons.

NOT proved (`sphere_partition_statement`): coverage by the pentagons (no gaps) other than through the lattice triangles,
the seams between the five quintants of a face (rotation by 72°), across the 30 dodecahedron edges and at the 20
vertices, and the transfer through the projection and to `f64`. -/
set_option linter.unusedSectionVars false
namespace A5.C03
open A5 A5.HilbertLocate

/-! ## T1: the lattice triangles of the `4^n` positions tile the quintant triangle -/

section field
variable (K : Type) [Field K] [LinearOrder K] [IsStrictOrderedRing K]

/-- **T1 `lattice_partition`.**  No gaps and no overlaps at lattice level: every off-lattice point of the quintant
triangle lies in the lattice triangle of exactly one position. -/
theorem lattice_partition (n o : Nat) (hn : n ≤ 30) (ho : o < 6) (x y : K)
    (hq : 0 < x ∧ 0 < y ∧ x + y < 2 ^ n) (hoff : OffLattice x y) :
    ∃! s, s < 4 ^ n ∧ ∃ a, sToAnchor s n o = .ok a ∧ anchorTri a x y := by
  obtain ⟨s, ⟨hs, ha, _⟩, huniq⟩ := C17.positions_onto_lattice_triangles K n o hn ho x y hq hoff
  exact ⟨s, ⟨hs, ha⟩, fun t ⟨ht, hb⟩ => huniq t ht hb⟩

/-- T1, converse direction: every position has an anchor; its lattice triangle is non-empty, lies inside the quintant
triangle, and meets the triangle of no other position. -/
theorem lattice_triangles_proper (n o s : Nat) (hn : n ≤ 30) (ho : o < 6) (hs : s < 4 ^ n) :
    ∃ a, sToAnchor s n o = .ok a ∧ (∃ x y : K, anchorTri a x y) ∧
      (∀ x y : K, anchorTri a x y → 0 < x ∧ 0 < y ∧ x + y < 2 ^ n) ∧
      ∀ t, t < 4 ^ n → ∀ b, sToAnchor t n o = .ok b → ∀ x y : K, anchorTri a x y → anchorTri b x y → s = t := by
  obtain ⟨a, ha, hF, _⟩ := C17.locate_anchor K n o s hn ho hs
  exact ⟨a, ha, ⟨_, _, anchorTri_nonempty a hF⟩,
    fun x y h => C17.centres_in_quintant_triangle K n o s hn ho hs a ha x y h,
    fun t ht b hb x y hxa hxb => C17.triangles_disjoint K n o s t hn ho hs ht a b ha hb x y hxa hxb⟩

/-- T1 for cells: in the quintant `(face og, segment seg)` at a curve resolution `2 ≤ r ≤ 29` (depth `r − 1`), every
off-lattice point of the quintant triangle lies in the lattice triangle of exactly one valid cell. -/
theorem cells_partition_quintant (og seg : Nat) (hog : og < 12) (hseg : seg < 5) (r : Int) (h2 : 2 ≤ r) (h29 : r ≤ 29)
    (o : Nat) (ho : o < 6) (x y : K) (hq : 0 < x ∧ 0 < y ∧ x + y < 2 ^ (r - 1).toNat) (hoff : OffLattice x y) :
    ∃! c : Cell, c.Valid ∧ c.origin = og ∧ c.segment = seg ∧ c.res = r ∧
      ∃ a, sToAnchor c.s (r - 1).toNat o = .ok a ∧ anchorTri a x y := by
  obtain ⟨s, ⟨hs, ha⟩, huniq⟩ := lattice_partition K (r - 1).toNat o (by omega) ho x y hq hoff
  refine ⟨⟨og, seg, s, r⟩, ⟨Or.inr (Or.inr (Or.inr ⟨h2, h29, hog, hseg, hs⟩)), rfl, rfl, rfl, ha⟩, ?_⟩
  rintro ⟨o', g', s', r'⟩ ⟨hv, rfl, rfl, rfl, ha'⟩
  change 2 ≤ r' at h2
  have hs' : s' < 4 ^ (r' - 1).toNat := by
    rcases hv with ⟨h, _⟩ | ⟨h, _⟩ | ⟨h, _⟩ | ⟨_, _, _, _, h⟩
    · change r' = -1 at h; omega
    · change r' = 0 at h; omega
    · change r' = 1 at h; omega
    · exact h
  have := huniq s' ⟨hs', ha'⟩
  subst this
  rfl

end field

/-! ## T2: cover + equal area ⇒ pairwise null intersections (abstract) -/

open MeasureTheory

/-- General form: finitely many measurable sets that cover the space (in measure) and whose measures sum to at most the
total measure intersect pairwise in null sets. -/
theorem null_inter_of_cover_of_sum_le {α ι : Type*} [MeasurableSpace α] (μ : Measure α) [IsFiniteMeasure μ]
    (s : Finset ι) (A : ι → Set α) (hm : ∀ k ∈ s, MeasurableSet (A k))
    (hcover : μ Set.univ ≤ μ (⋃ k ∈ s, A k)) (hsum : ∑ k ∈ s, μ (A k) ≤ μ Set.univ)
    {i j : ι} (hi : i ∈ s) (hj : j ∈ s) (hij : i ≠ j) : μ (A i ∩ A j) = 0 := by
  classical
  have hj' : j ∈ s.erase i := Finset.mem_erase.2 ⟨hij.symm, hj⟩
  have hsplit : ∑ k ∈ s, μ (A k) = μ (A i) + (μ (A j) + ∑ k ∈ (s.erase i).erase j, μ (A k)) := by
    rw [← Finset.add_sum_erase s _ hi, ← Finset.add_sum_erase (s.erase i) _ hj']
  have hsub : (⋃ k ∈ s, A k) ⊆ (A i ∪ A j) ∪ ⋃ k ∈ (s.erase i).erase j, A k := by
    intro x hx
    obtain ⟨k, hk, hxk⟩ := Set.mem_iUnion₂.1 hx
    by_cases h1 : k = i
    · subst h1; exact Or.inl (Or.inl hxk)
    by_cases h2 : k = j
    · subst h2; exact Or.inl (Or.inr hxk)
    exact Or.inr (Set.mem_iUnion₂.2 ⟨k, Finset.mem_erase.2 ⟨h2, Finset.mem_erase.2 ⟨h1, hk⟩⟩, hxk⟩)
  have h1 : μ Set.univ ≤ μ (A i ∪ A j) + ∑ k ∈ (s.erase i).erase j, μ (A k) :=
    hcover.trans ((measure_mono hsub).trans ((measure_union_le _ _).trans
      (add_le_add le_rfl (measure_biUnion_finset_le _ A))))
  have h2 := measure_union_add_inter (μ := μ) (A i) (hm j hj)
  have h3 : μ Set.univ + μ (A i ∩ A j) ≤ μ Set.univ + 0 := by
    calc μ Set.univ + μ (A i ∩ A j)
        ≤ (μ (A i ∪ A j) + ∑ k ∈ (s.erase i).erase j, μ (A k)) + μ (A i ∩ A j) := add_le_add h1 le_rfl
      _ = (μ (A i ∪ A j) + μ (A i ∩ A j)) + ∑ k ∈ (s.erase i).erase j, μ (A k) := add_right_comm _ _ _
      _ = μ (A i) + (μ (A j) + ∑ k ∈ (s.erase i).erase j, μ (A k)) := by rw [h2, add_assoc]
      _ = ∑ k ∈ s, μ (A k) := hsplit.symm
      _ ≤ μ Set.univ := hsum
      _ = μ Set.univ + 0 := (add_zero _).symm
  exact le_zero_iff.1 ((ENNReal.add_le_add_iff_left (measure_ne_top μ _)).1 h3)

/-- **T2 `disjoint_of_cover_and_equal_area`** [abstract; CONDITIONAL on the two hypotheses].  In a finite measure space,
let `A k` (`k ∈ s`, `N = |s|`) be measurable sets with `μ (A k) = μ univ / N` whose union has null complement.  Then
distinct members intersect in a null set. -/
theorem disjoint_of_cover_and_equal_area {α ι : Type*} [MeasurableSpace α] (μ : Measure α) [IsFiniteMeasure μ]
    (s : Finset ι) (A : ι → Set α) (hm : ∀ k ∈ s, MeasurableSet (A k))
    (hcover : μ (⋃ k ∈ s, A k)ᶜ = 0) (harea : ∀ k ∈ s, μ (A k) = μ Set.univ / s.card)
    {i j : ι} (hi : i ∈ s) (hj : j ∈ s) (hij : i ≠ j) : μ (A i ∩ A j) = 0 := by
  have hc : (s.card : ENNReal) ≠ 0 := by
    have : 0 < s.card := Finset.card_pos.2 ⟨i, hi⟩
    exact_mod_cast this.ne'
  refine null_inter_of_cover_of_sum_le μ s A hm ?_ ?_ hi hj hij
  · have := measure_univ_le_add_compl (μ := μ) (⋃ k ∈ s, A k)
    rwa [hcover, add_zero] at this
  · rw [Finset.sum_congr rfl harea, Finset.sum_const, nsmul_eq_mul,
      ENNReal.mul_div_cancel hc (ENNReal.natCast_ne_top _)]

/-- the version with an honest cover `⋃ A k = univ` -/
theorem disjoint_of_cover_and_equal_area' {α ι : Type*} [MeasurableSpace α] (μ : Measure α) [IsFiniteMeasure μ]
    (s : Finset ι) (A : ι → Set α) (hm : ∀ k ∈ s, MeasurableSet (A k))
    (hcover : (⋃ k ∈ s, A k) = Set.univ) (harea : ∀ k ∈ s, μ (A k) = μ Set.univ / s.card)
    {i j : ι} (hi : i ∈ s) (hj : j ∈ s) (hij : i ≠ j) : μ (A i ∩ A j) = 0 :=
  disjoint_of_cover_and_equal_area μ s A hm (by rw [hcover, Set.compl_univ, measure_empty]) harea hi hj hij

/-! ## the geometric claim, not proved -/

/-- Intended full statement (NOT proved; float- and projection-dependent).  For every resolution `0 ≤ r ≤ 29` and every
finite point: (no gaps) some valid cell of resolution `r` passes the model's containment test non-strictly, and
(no overlaps) no two distinct valid cells of resolution `r` both contain the point strictly. -/
def sphere_partition_statement : Prop :=
  ∀ (r : Int), 0 ≤ r → r ≤ 29 → ∀ lon lat : Float, lon.isFinite = true → lat.isFinite = true →
    (∃ c : Cell, c.Valid ∧ c.res = r ∧ ∃ d, cellContainsPoint c lon lat = .ok d ∧ d ≥ 0.0) ∧
    (∀ c c' : Cell, c.Valid → c'.Valid → c.res = r → c'.res = r → c ≠ c' →
      ∀ d d', cellContainsPoint c lon lat = .ok d → cellContainsPoint c' lon lat = .ok d' → ¬(d > 0.0 ∧ d' > 0.0))

/-! ## non-vacuity -/

/-- T1's hypotheses on a concrete point: `(8/3, 2/3)` at depth 2 — in the quintant triangle, on no lattice line -/
theorem offLattice_example : OffLattice (8 / 3 : ℚ) (2 / 3) := by
  have key : ∀ (q : ℚ), q.den ≠ 1 → ∀ z : Int, q ≠ (z : ℚ) := by
    intro q hq z hz
    rewrite [hz] at hq
    exact hq (Rat.den_intCast z)
  intro z
  exact ⟨key _ (by decide +kernel) z, key _ (by decide +kernel) z, key _ (by decide +kernel) z⟩

example : ∃! s, s < 4 ^ 2 ∧ ∃ a, sToAnchor s 2 3 = .ok a ∧ anchorTri a (8 / 3 : ℚ) (2 / 3) :=
  lattice_partition ℚ 2 3 (by decide) (by decide) _ _ (by norm_num) offLattice_example

/-- the unique position is 6 (anchor `(3,0)`, flips `(1,-1)`), cf. C17 -/
example : sToAnchor 6 2 3 = .ok ⟨1, (3, 0), (1, -1)⟩ ∧ anchorTri ⟨1, (3, 0), (1, -1)⟩ (8 / 3 : ℚ) (2 / 3) :=
  ⟨by decide, by rw [anchorTri, inT_pm]; norm_num⟩

example : ∃! c : Cell, c.Valid ∧ c.origin = 7 ∧ c.segment = 3 ∧ c.res = 3 ∧
    ∃ a, sToAnchor c.s (3 - 1 : Int).toNat 3 = .ok a ∧ anchorTri a (8 / 3 : ℚ) (2 / 3) :=
  cells_partition_quintant ℚ 7 3 (by decide) (by decide) 3 (by decide) (by decide) 3 (by decide) _ _
    (by refine ⟨by norm_num, by norm_num, ?_⟩; show (8 / 3 : ℚ) + 2 / 3 < 2 ^ 2; norm_num) offLattice_example

/-- T2's hypotheses on a concrete family: the two singletons of `Bool` under the counting measure
(`μ univ = 2`, each member has measure `1 = 2/2`, the union is everything) -/
theorem count_bool_univ : (Measure.count : Measure Bool) Set.univ = 2 := by
  have : (Set.univ : Set Bool) = {false} ∪ {true} := by ext b; cases b <;> simp
  rw [this, measure_union (by simp) (measurableSet_singleton _), Measure.count_singleton, Measure.count_singleton]
  norm_num

example : (Measure.count : Measure Bool) (({false} : Set Bool) ∩ {true}) = 0 := by
  refine disjoint_of_cover_and_equal_area' (Measure.count : Measure Bool) Finset.univ (fun b => ({b} : Set Bool))
    (fun k _ => measurableSet_singleton k) ?_ ?_ (Finset.mem_univ false) (Finset.mem_univ true) (by decide)
  · ext b; simp
  · intro k _
    rw [Measure.count_singleton, count_bool_univ]
    simp
    exact (ENNReal.div_self (by norm_num) (by norm_num)).symm

/-! ## T3: the pentagons of different positions do not overlap (planar, exact arithmetic, every depth) -/

open A5.PG A5.CP A5.PD in
/-- T3. `pentagons_do_not_overlap`: within a quintant, for every depth, orientation and pair of different positions, no
point is more than `2⁻⁵⁴` inside both pentagons; equivalently every common interior point lies within `2⁻⁵²` lattice
units of an edge line of one of the two. -/
theorem pentagons_do_not_overlap (n o s t : Nat) (hn : n ≤ 30) (ho : o < 6) (hs : s < 4 ^ n) (ht : t < 4 ^ n)
    (hne : s ≠ t) (a b : Anchor) (ha : sToAnchor s n o = .ok a) (hb : sToAnchor t n o = .ok b) :
    (¬∃ w, DeepIn (1 / 2 ^ 54) (pentagonQ a) w ∧ DeepIn (1 / 2 ^ 54) (pentagonQ b) w) ∧
    ∀ w : ℚ × ℚ, StrictIn (pentagonQ a) w → StrictIn (pentagonQ b) w →
      ∃ e ∈ edges (pentagonQ a) ++ edges (pentagonQ b), cross e.1 e.2 w < 0 ∧
        cross e.1 e.2 w * cross e.1 e.2 w ≤ (1 / 2 ^ 52) * (1 / 2 ^ 52) * sqLen e :=
  ⟨pentagons_disjoint_margin n o s t hn ho hs ht hne a b ha hb,
   fun w hwa hwb => pentagons_overlap_within n o s t hn ho hs ht hne a b ha hb w hwa hwb⟩

open A5.PG A5.CP A5.PD in
/-- T3, far pairs: anchors more than 2 lattice steps apart have exactly disjoint pentagon interiors. -/
theorem far_pentagons_do_not_overlap (a b : Anchor) (ha : IsFlip a.flips) (hb : IsFlip b.flips)
    (hfar : ¬HexLe 2 (b.offset.1 - a.offset.1, b.offset.2 - a.offset.2)) :
    ¬∃ w, StrictIn (pentagonQ a) w ∧ StrictIn (pentagonQ b) w :=
  far_pentagons_disjoint a b ha hb hfar

/-- the exact statement is false on the rounded runtime constants (kernel-checked witness) -/
theorem pentagons_disjoint_exact_is_false : ¬A5.PD.pentagons_disjoint_statement :=
  A5.PD.pentagons_disjoint_statement_false

open A5.PG A5.PD in
/-- the margin of T3 cannot be improved by more than a factor 4: the two depth-1 pentagons of the witness have a common
point `2⁻⁵⁶` inside both -/
theorem overlap_margin_sharp : ∃ w : ℚ × ℚ, DeepIn (1 / 2 ^ 56) (pentagonQ ⟨0, (0, 0), (1, 1)⟩) w ∧
    DeepIn (1 / 2 ^ 56) (pentagonQ ⟨3, (1, 1), (-1, 1)⟩) w :=
  margin_sharp

end A5.C03
