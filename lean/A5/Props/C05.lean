import A5.Lemmas.Codec
import A5.Lemmas.HexLemmas
/-! # C05 — the cell-ID codec (bits and hex) is a bijection with the documented layout

Model: `A5.serialize`, `A5.deserialize`, `A5.getResolution` (`A5/Model/Codec.lean`),
`A5.u64ToHex`, `A5.hexToU64` (`A5/Model/Hex.lean`).  Spec: `Cell.Valid`, `Layout`, `encNat`
(`A5/Spec/Layout.lean`).  All theorems quantify over *every* cell description / every id / every byte
string; there is no bound on the resolution (0..29 and the world cell are all covered by `Cell.Valid`). -/
namespace A5.C05
open A5

/-- T1. On every valid cell description the encoder succeeds and produces exactly the documented
arithmetic layout `top6·2^58 + s·2^(60-2r) + marker` (no panic in the overflow-checked profile). -/
theorem serialize_closed_form (c : Cell) (h : c.Valid) : serialize c = .ok (encNat c) :=
  serialize_valid c h

/-- T2. decode ∘ encode = id on valid cells. -/
theorem decode_encode (c : Cell) (h : c.Valid) : (serialize c >>= deserialize) = .ok c := by
  rewrite [serialize_valid c h]
  simp only [Outcome.bind_ok]
  exact deserialize_enc c h

/-- T3. encode ∘ decode = id on every id in the documented layout. -/
theorem encode_decode (id : Nat) (h : Layout id) :
    ∃ c, c.Valid ∧ deserialize id = .ok c ∧ serialize c = .ok id := by
  obtain ⟨c, hv, hd, he⟩ := deserialize_layout id h
  refine ⟨c, hv, hd, ?_⟩
  rewrite [serialize_valid c hv, he]; rfl

/-- T4. The documented layout is exactly the image of the encoder on valid cells. -/
theorem layout_iff_image (id : Nat) : Layout id ↔ ∃ c, c.Valid ∧ serialize c = .ok id := by
  constructor
  · intro h
    obtain ⟨c, hv, _, hs⟩ := encode_decode id h
    exact ⟨c, hv, hs⟩
  · rintro ⟨c, hv, hs⟩
    rewrite [serialize_valid c hv] at hs
    cases Outcome.ok.inj hs
    exact layout_enc c hv

/-- T5. The resolution read from an id equals the encoded resolution. -/
theorem resolution_of_encode (c : Cell) (h : c.Valid) (id : Nat) (hs : serialize c = .ok id) :
    getResolution id = c.res := by
  rewrite [serialize_valid c h] at hs
  cases Outcome.ok.inj hs
  exact getResolution_enc c h

/-- T6. Different cells never share an id. -/
theorem encode_injective (c c' : Cell) (h : c.Valid) (h' : c'.Valid) (id : Nat)
    (hs : serialize c = .ok id) (hs' : serialize c' = .ok id) : c = c' := by
  rewrite [serialize_valid c h] at hs
  rewrite [serialize_valid c' h'] at hs'
  exact encNat_injective c c' h h' ((Outcome.ok.inj hs).trans (Outcome.ok.inj hs').symm)

/-- T7. The per-face rotation of the quintant code and its inverse are mutually inverse on 0..4, for
each entry of the *generated* `QUINTANT_FIRST` / `ORIGIN_ORDER` tables. -/
theorem segment_rotation_bijective (o seg : Nat) (ho : o < 12) (hs : seg < 5) :
    ((seg + 5 - firstQuintant o) % 5 + firstQuintant o) % 5 = seg ∧
    ((seg + firstQuintant o) % 5 + 5 - firstQuintant o) % 5 = seg := by
  have hf := firstQuintant_lt o ho
  omega

/-- T8a. Every encoded id is a 64-bit value. -/
theorem encode_lt_two_pow_64 (c : Cell) (h : c.Valid) (id : Nat) (hs : serialize c = .ok id) : id < 2 ^ 64 := by
  rewrite [serialize_valid c h] at hs
  cases Outcome.ok.inj hs
  exact encNat_lt c h

/-- T8b. Whatever 64-bit pattern is decoded, a successful decode yields a valid description, so
re-encoding it yields an id in canonical layout (this is how the API canonicalises stray low bits). -/
theorem reencode_canonical (id : Nat) (c : Cell) (h : deserialize id = .ok c) :
    ∃ id', serialize c = .ok id' ∧ Layout id' := by
  have hv := deserialize_ok_valid' id c h
  exact ⟨encNat c, serialize_valid c hv, layout_enc c hv⟩

/-- T8c. The decoder never panics, on any input. -/
theorem deserialize_total (id : Nat) : (deserialize id).isPanic = false := deserialize_never_panics' id

/-- T9. Formatting then parsing any 64-bit value returns it. -/
theorem hex_roundtrip (n : Nat) (h : n < 2 ^ 64) : hexToU64 (u64ToHex n) = .ok n := hexToU64_u64ToHex n h

/-- T10. The string is 1–16 lower-case hex digits, without prefix, and starts with `'0'` only for 0. -/
theorem hex_format (n : Nat) (h : n < 2 ^ 64) :
    1 ≤ (u64ToHex n).length ∧ (u64ToHex n).length ≤ 16 ∧ (∀ b ∈ u64ToHex n, IsLowerHexDigit b) ∧
    ((u64ToHex n).head? = some 48 → n = 0) :=
  ⟨(u64ToHex_length n h).1, (u64ToHex_length n h).2, u64ToHex_lower n, u64ToHex_head n h⟩

/-- T11. The empty string is an error, and every digit string whose value does not fit 64 bits is an
error (never a truncated value); a digit string that fits parses to its value. -/
theorem hex_parse_strict :
    hexToU64 [] = .err .hexParse ∧
    (∀ s : List Nat, (∀ b ∈ s, IsHexDigit b) → 2 ^ 64 ≤ hexValue s → hexToU64 s = .err .hexParse) ∧
    (∀ s : List Nat, s ≠ [] → (∀ b ∈ s, IsHexDigit b) → hexValue s < 2 ^ 64 → hexToU64 s = .ok (hexValue s)) := by
  refine ⟨rfl, fun s hall hov => hexToU64_overflow s hall hov, fun s hne hall hlt => ?_⟩
  rewrite [hexToU64_digits s hne hall, if_pos hlt]; rfl

/-- T12. Parsing never panics, on any byte string. -/
theorem hex_parse_total (s : List Nat) : (hexToU64 s).isPanic = false := hexToU64_never_panics s

/-! ## non-vacuity: the hypotheses are met by concrete non-trivial values -/

example : (⟨7, 3, 0x2d, 4⟩ : Cell).Valid := by decide
example : Layout (encNat ⟨7, 3, 0x2d, 4⟩) := layout_enc _ (by decide)
example : encNat ⟨7, 3, 0x2d, 4⟩ = 0x92d8000000000000 := by decide
example : hexToU64 (u64ToHex 0x92d8000000000000) = .ok 0x92d8000000000000 := hex_roundtrip _ (by decide)
example : hexToU64 [0x31, 0x30, 0x30, 0x30, 0x30, 0x30, 0x30, 0x30, 0x30, 0x30, 0x30, 0x30, 0x30, 0x30, 0x30, 0x30, 0x30]
    = .err .hexParse := by decide

end A5.C05
