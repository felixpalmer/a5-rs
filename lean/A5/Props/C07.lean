import A5.Lemmas.HierRefine
/-! # C07 — parent / children form a tree: 12 base cells, 5 quintants per base cell, 4 children per level

Model: `A5.cellToChildren`, `A5.cellToParent`, `A5.getRes0Cells` (`A5/Model/Hier.lean`), `A5.getResolution`.
Spec: the inductive tree of `A5/Spec/Tree.lean` (`Path`: world, `face f`, `deep f k digits`), whose encodings
`Path.enc p` for well-formed `p` are exactly the canonical ids (`canonical_ids_are_paths`).  Every theorem is about
the *model functions* applied to the id `enc p` of an arbitrary well-formed path, i.e. to every canonical id, at
every resolution -1..29.

The only side condition that is not a resolution range is the library's own guard: `cell_to_children` refuses
more than 20 levels, counted from `max (res p) 1` (written `r' - max (res p) 1 ≤ 20` below). -/
namespace A5.C07
open A5 A5.Path

/-- T0. The canonical ids (documented layout) are exactly the encodings of the well-formed tree paths, and
different paths have different ids.  So "for every well-formed `p`, … `enc p` …" means "for every cell id". -/
theorem canonical_ids_are_paths (id : Nat) :
    Layout id ↔ ∃ p, (WF p ∧ enc p = id) ∧ ∀ q, WF q ∧ enc q = id → q = p := by
  constructor
  · exact existsUnique_path_of_layout id
  · rintro ⟨p, ⟨hp, rfl⟩, _⟩; exact layout_enc_path hp

/-- T0'. The resolution stored in the id of a path is the depth of the path. -/
theorem resolution_of_path {p : Path} (hp : WF p) : getResolution (enc p) = res p := getResolution_enc_path hp

/-- T1. Complete behaviour of `cell_to_children(id, Some(r'))` on every cell id: the four errors, `[id]` at the
cell's own resolution, and otherwise exactly the ids of the tree descendants at resolution `r'`, in the order
`descendantsOrdered` (tree order, except that the five quintants of a base cell come in segment order). -/
theorem children_closed_form {p : Path} (hp : WF p) (r' : Int) :
    cellToChildren (enc p) (some r') =
      if r' < res p then .err .targetCoarser
      else if r' > 30 then .err .exceedsMax
      else if r' = res p then .ok [enc p]
      else if r' - max (res p) 1 > 20 then .err .diffTooLarge
      else if r' = 30 then .err .resTooLarge
      else .ok ((descendantsOrdered p r').map enc) := cellToChildren_enc hp r'

/-- T1b. Default argument: one level down; at resolution 29 the default target 30 is an error (not a panic). -/
theorem children_default {p : Path} (hp : WF p) :
    cellToChildren (enc p) none =
      if res p = 29 then .err .resTooLarge else .ok ((descendantsOrdered p (res p + 1)).map enc) := by
  have := res_le hp
  by_cases h : res p = 29
  · rewrite [if_pos h]; exact cellToChildren_none_29 hp h
  · rewrite [if_neg h]; exact cellToChildren_none_enc hp (by omega)

/-- T1c. The twelve base cells. -/
theorem res0_cells : getRes0Cells = .ok ((List.range 12).map (fun f => enc (face f))) := getRes0Cells_eq

/-- T2. The children at `r'` are pairwise distinct. -/
theorem children_distinct {p : Path} (hp : WF p) (r' : Int) (h1 : res p ≤ r') (h2 : r' ≤ 29)
    (h3 : r' - max (res p) 1 ≤ 20) :
    ∃ l, cellToChildren (enc p) (some r') = .ok l ∧ l.Nodup :=
  ⟨_, cellToChildren_enc_ok hp r' h1 h2 h3, nodup_map_enc_ordered hp r' h2⟩

/-- T3. Every child at `r'` has resolution `r'` and is a canonical id. -/
theorem children_resolution {p : Path} (hp : WF p) (r' : Int) (h1 : res p ≤ r') (h2 : r' ≤ 29)
    (h3 : r' - max (res p) 1 ≤ 20) :
    ∃ l, cellToChildren (enc p) (some r') = .ok l ∧ ∀ c ∈ l, getResolution c = r' ∧ Layout c := by
  refine ⟨_, cellToChildren_enc_ok hp r' h1 h2 h3, fun c hc => ?_⟩
  obtain ⟨d, hd, rfl⟩ := List.mem_map.1 hc
  have hw := wf_of_mem_ordered hp h2 hd
  exact ⟨by rewrite [getResolution_enc_path hw]; exact res_of_mem_ordered hp hd, layout_enc_path hw⟩

/-- T4. There are exactly `fanout` many: the product of the per-level fan-outs 12, 5, 4, 4, … -/
theorem children_count {p : Path} (hp : WF p) (r' : Int) (h1 : res p ≤ r') (h2 : r' ≤ 29)
    (h3 : r' - max (res p) 1 ≤ 20) :
    ∃ l, cellToChildren (enc p) (some r') = .ok l ∧ l.length = fanout (r' - res p).toNat (res p) := by
  refine ⟨_, cellToChildren_enc_ok hp r' h1 h2 h3, ?_⟩
  rewrite [List.length_map]
  exact length_ordered hp r' h1

/-- T4'. The product in closed form: `4^n` below a cell of resolution ≥ 1; `5·4^n` for `n+1` levels below a
base cell; 12 base cells and `60·4^n` cells `n+2` levels below the world cell. -/
theorem fanout_closed (n : Nat) :
    (∀ r : Int, 1 ≤ r → fanout n r = 4 ^ n) ∧ fanout (n + 1) 0 = 5 * 4 ^ n ∧
    fanout 1 (-1) = 12 ∧ fanout (n + 2) (-1) = 60 * 4 ^ n :=
  ⟨fun r h => fanout_deep n r h, fanout_face n, fanout_world_one, fanout_world n⟩

/-- T5. Each child at `r'` has the cell it came from as its ancestor at the cell's resolution. -/
theorem children_parent {p : Path} (hp : WF p) (r' : Int) (h1 : res p ≤ r') (h2 : r' ≤ 29)
    (h3 : r' - max (res p) 1 ≤ 20) :
    ∃ l, cellToChildren (enc p) (some r') = .ok l ∧ ∀ c ∈ l, cellToParent c (some (res p)) = .ok (enc p) := by
  refine ⟨_, cellToChildren_enc_ok hp r' h1 h2 h3, fun c hc => ?_⟩
  obtain ⟨d, hd, rfl⟩ := List.mem_map.1 hc
  have hw := wf_of_mem_ordered hp h2 hd
  rewrite [cellToParent_anc hw (res p) (res_ge p) (by rewrite [res_of_mem_ordered hp hd]; exact h1),
    ancestorAt_of_mem_ordered hp hd]
  rfl

/-- T6. Complete behaviour of `cell_to_parent(id, Some(r'))` on every cell id. -/
theorem parent_closed_form {p : Path} (hp : WF p) (r' : Int) :
    cellToParent (enc p) (some r') =
      if r' = -1 then .ok 0 else if r' < 0 then .err .negative
      else if r' > res p then .err .targetFiner else .ok (enc (ancestorAt p r')) := cellToParent_enc hp r'

/-- T6a. Default argument: the tree parent; on the world cell the default target `-2` is the error "negative". -/
theorem parent_default {p : Path} (hp : WF p) :
    cellToParent (enc p) none = if p = world then .err .negative else .ok (enc (parent p)) := by
  by_cases h : p = world
  · rewrite [if_pos h, h]; exact cellToParent_none_world
  · rewrite [if_neg h]; exact cellToParent_none_enc hp h

/-- T7. Ancestor lookup composes: the ancestor at `b` of the ancestor at `a` is the ancestor at `b`. -/
theorem parent_compose {p : Path} (hp : WF p) (a b : Int) (h1 : -1 ≤ b) (h2 : b ≤ a) (h3 : a ≤ res p) :
    (cellToParent (enc p) (some a) >>= fun x => cellToParent x (some b)) = cellToParent (enc p) (some b) := by
  rewrite [cellToParent_anc hp a (by omega) h3, cellToParent_anc hp b h1 (by omega)]
  simp only [Outcome.bind_ok]
  rewrite [cellToParent_anc (wf_ancestorAt hp a) b h1 (by rewrite [res_ancestorAt p a (by omega) h3]; exact h2),
    ancestorAt_ancestorAt p a b h2]
  rfl

/-- T8. Children of children are the children at the deeper level — equal as lists, in the same order. -/
theorem children_compose {p : Path} (hp : WF p) (a b : Int) (h1 : res p ≤ a) (h2 : a ≤ b) (h3 : b ≤ 29)
    (h4 : b - max (res p) 1 ≤ 20) :
    (cellToChildren (enc p) (some a) >>= fun l => flatMapOutcome (fun c => cellToChildren c (some b)) l)
      = cellToChildren (enc p) (some b) := by
  rewrite [cellToChildren_enc_ok hp a h1 (by omega) (by omega), cellToChildren_enc_ok hp b (by omega) h3 h4]
  simp only [Outcome.bind_ok]
  rewrite [flatMapOutcome_map_ok _ enc (fun d => (descendantsOrdered d b).map enc) _ (fun d hd => by
    have hw := wf_of_mem_ordered hp (by omega : a ≤ 29) hd
    have hr := res_of_mem_ordered hp hd
    exact cellToChildren_enc_ok hw b (by omega) h3 (by omega))]
  refine congrArg Outcome.ok ?_
  rewrite [← List.map_flatMap, ordered_flatMap a b h1 h2]
  rfl

theorem enc_eq_zero {p : Path} (hp : WF p) (h : enc p = 0) : p = world :=
  enc_injective hp (q := world) trivial h

/-- T9. Every cell id other than the world cell is among the children of exactly one cell id, and that one is
what `cell_to_parent(id, None)` returns. -/
theorem exactly_one_parent (c : Nat) (hc : Layout c) (h0 : c ≠ 0) :
    ∃ q, (Layout q ∧ ∃ l, cellToChildren q none = .ok l ∧ c ∈ l) ∧
      (∀ q', (Layout q' ∧ ∃ l, cellToChildren q' none = .ok l ∧ c ∈ l) → q' = q) ∧
      cellToParent c none = .ok q := by
  obtain ⟨p, hp, rfl⟩ := exists_path_of_layout c hc
  have hne : p ≠ world := fun h => h0 (by rewrite [h]; rfl)
  have hwp := wf_parent hp
  have hrp := res_parent hne
  have hr := res_le hp
  refine ⟨enc (parent p), ⟨layout_enc_path hwp, _, cellToChildren_none_enc hwp (by omega), ?_⟩, ?_,
    cellToParent_none_enc hp hne⟩
  · refine List.mem_map.2 ⟨p, ?_, rfl⟩
    rewrite [mem_descendantsOrdered_iff _ hwp, descendantsAt_succ]
    exact mem_children_parent hp hne
  · rintro q' ⟨hq', l, hl, hm⟩
    obtain ⟨p', hp', rfl⟩ := exists_path_of_layout q' hq'
    rewrite [children_default hp'] at hl
    by_cases h29 : res p' = 29
    · rewrite [if_pos h29] at hl; cases hl
    · rewrite [if_neg h29] at hl
      cases Outcome.ok.inj hl
      obtain ⟨d, hd, he⟩ := List.mem_map.1 hm
      have hr' := res_le hp'
      have hd' := wf_of_mem_ordered hp' (by omega) hd
      cases enc_injective hd' hp he
      rewrite [mem_descendantsOrdered_iff _ hp', descendantsAt_succ] at hd
      rewrite [parent_unique hd]; rfl

/-- T10a. The ids of resolution `r` are the encodings of the tree level `descendantsAt world r`, each listed
exactly once. -/
theorem level_complete (r : Int) (h2 : r ≤ 29) :
    ((descendantsAt world r).map enc).Nodup ∧
    ∀ id, id ∈ (descendantsAt world r).map enc ↔ Layout id ∧ getResolution id = r := by
  have hwf : ∀ d ∈ descendantsAt world r, WF d := fun d hd => wf_of_mem_descendantsAt (p := world) trivial h2 hd
  refine ⟨nodup_map_of_inj (descendantsAt_nodup world r) (fun a ha b hb h => enc_injective (hwf a ha) (hwf b hb) h),
    fun id => ⟨?_, ?_⟩⟩
  · intro h
    obtain ⟨d, hd, rfl⟩ := List.mem_map.1 h
    exact ⟨layout_enc_path (hwf d hd), by rewrite [getResolution_enc_path (hwf d hd)]; exact res_of_mem_descendantsAt hd⟩
  · rintro ⟨hl, hr⟩
    obtain ⟨p, hp, rfl⟩ := exists_path_of_layout id hl
    rewrite [getResolution_enc_path hp] at hr
    refine List.mem_map.2 ⟨p, ?_, rfl⟩
    rewrite [← hr]
    exact mem_descendantsAt_world hp

/-- T10b. Taking the children of all cells of resolution `r` (in tree order) succeeds and enumerates resolution
`r + 1` exactly once: the result is a rearrangement of the next tree level, hence without repetition, and it
contains precisely the ids of resolution `r + 1`. -/
theorem level_children (r : Int) (h1 : -1 ≤ r) (h2 : r ≤ 28) :
    ∃ l, flatMapOutcome (fun c => cellToChildren c none) ((descendantsAt world r).map enc) = .ok l ∧
      l.Perm ((descendantsAt world (r + 1)).map enc) ∧ l.Nodup ∧
      ∀ id, id ∈ l ↔ Layout id ∧ getResolution id = r + 1 := by
  have hwf : ∀ d ∈ descendantsAt world r, WF d :=
    fun d hd => wf_of_mem_descendantsAt (p := world) trivial (by omega) hd
  have hperm : ((descendantsAt world r).flatMap (fun d => (descendantsOrdered d (r + 1)).map enc)).Perm
      ((descendantsAt world (r + 1)).map enc) := by
    rewrite [← flatMap_children_level r h1, List.map_flatMap]
    refine perm_flatMap_left (fun d hd => ?_)
    have hr := res_of_mem_descendantsAt hd
    have := (descendantsOrdered_perm d (hwf d hd) (r + 1)).map enc
    rewrite [← hr, descendantsAt_succ] at this
    rewrite [← hr]
    exact this
  have hlev := level_complete (r + 1) (by omega)
  refine ⟨_, flatMapOutcome_map_ok _ enc (fun d => (descendantsOrdered d (r + 1)).map enc) _ (fun d hd => ?_),
    hperm, hperm.nodup_iff.2 hlev.1, fun id => ?_⟩
  · have hr := res_of_mem_descendantsAt hd
    rewrite [cellToChildren_none_enc (hwf d hd) (by omega), hr]
    rfl
  · rewrite [hperm.mem_iff]
    exact hlev.2 id

/-! ## non-vacuity: the hypotheses are met by concrete non-trivial cells -/

/-- the sample cell: face 7, stored quintant code 3, curve digits 2,3,1 (resolution 4) -/
abbrev sample : Path := deep 7 3 [2, 3, 1]

example : WF sample := by decide
example : enc sample = 0x9ad8000000000000 := by decide
example : res sample = 4 := by decide
example : ∃ l, cellToChildren (enc sample) (some 6) = .ok l ∧ l.Nodup :=
  children_distinct (p := sample) (by decide) 6 (by decide) (by decide) (by decide)
example : ∃ l, cellToChildren (enc sample) (some 6) = .ok l ∧ ∀ c ∈ l, getResolution c = 6 ∧ Layout c :=
  children_resolution (p := sample) (by decide) 6 (by decide) (by decide) (by decide)
example : ∃ l, cellToChildren (enc sample) (some 6) = .ok l ∧ l.length = fanout 2 4 :=
  children_count (p := sample) (by decide) 6 (by decide) (by decide) (by decide)
example : fanout 2 4 = 16 := by decide
example : ∃ l, cellToChildren (enc sample) (some 6) = .ok l ∧
    ∀ c ∈ l, cellToParent c (some 4) = .ok (enc sample) :=
  children_parent (p := sample) (by decide) 6 (by decide) (by decide) (by decide)
example : cellToChildren 0x9ad8000000000000 (some 5) =
    .ok [0x9ad2000000000000, 0x9ad6000000000000, 0x9ada000000000000, 0x9ade000000000000] := by decide +kernel
/-- world → resolution 2 (three source levels at once): 240 cells -/
example : ∃ l, cellToChildren (enc world) (some 2) = .ok l ∧ l.length = fanout 3 (-1) :=
  children_count (p := world) trivial 2 (by decide) (by decide) (by decide)
example : fanout 3 (-1) = 240 := by decide
example : (cellToParent (enc sample) (some 2) >>= fun x => cellToParent x (some 0))
    = cellToParent (enc sample) (some 0) :=
  parent_compose (p := sample) (by decide) 2 0 (by decide) (by decide) (by decide)
example : cellToParent 0x9ad8000000000000 (some 0) = .ok 0x1e00000000000000 := by decide +kernel
example : (cellToChildren (enc (face 7)) (some 1) >>= fun l => flatMapOutcome (fun c => cellToChildren c (some 3)) l)
    = cellToChildren (enc (face 7)) (some 3) :=
  children_compose (p := face 7) (by decide) 1 3 (by decide) (by decide) (by decide) (by decide)
example : Layout (enc sample) ∧ enc sample ≠ 0 := ⟨layout_enc_path (p := sample) (by decide), by decide⟩
example : cellToParent 0x9ad8000000000000 none = .ok 0x9ae0000000000000 := by decide +kernel
example : cellToChildren (enc (deep 0 0 (List.replicate 28 0))) none = .err .resTooLarge :=
  cellToChildren_none_29 (by decide) (by decide)
/-- levels: the 12 base cells have 60 children in total -/
example : ∃ l, flatMapOutcome (fun c => cellToChildren c none) ((descendantsAt world 0).map enc) = .ok l ∧
      l.Perm ((descendantsAt world (0 + 1)).map enc) ∧ l.Nodup ∧
      ∀ id, id ∈ l ↔ Layout id ∧ getResolution id = 0 + 1 := level_children 0 (by decide) (by decide)

end A5.C07
