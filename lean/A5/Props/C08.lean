import A5.Lemmas.CompactLoop
import A5.Props.C09
/-! # C08 — `compact` preserves the covered region, removes duplicates, and ignores order and multiplicity

"For any collection of valid cells, in any order, with duplicates and mixed resolutions, expanding the compacted
result to a resolution R at least as fine as every input yields exactly the same set of resolution-R cells as
expanding the input itself.  The compacted result contains no duplicates and does not depend on the order or
multiplicity of the input."

Model: `A5.compact`, `A5.uncompact` (`A5/Model/Compact.lean`, the model of `src/core/compact.rs` after the `fix:`
commits); `A5.compactV062` is the frozen algorithm of the pinned release, used only for the witnesses at the end.
Spec: the cell tree `Path` of `A5/Spec/Tree.lean`; `Below p q` (`A5/Lemmas/Canonical.lean`) = "`p` is `q` or an
ancestor of `q`".

Inputs.  A *valid* id is one the decoder accepts (`deserialize x = .ok c`); `compact` first replaces every id by
the canonical id of the same cell (`compact_canonicalises`), and canonical ids are exactly the `enc p` of
well-formed paths (`Path.layout_iff_path`).  So the region theorems are stated for inputs `ps.map enc` with `ps`
an **arbitrary** list of well-formed paths: any length, any order, repetitions, a cell together with its own
descendants, every resolution -1..29.  Nothing is bounded. -/
namespace A5.C08
open A5 A5.Path A5.Canonical A5.CompactMax A5.CompactC08

def ValidId (x : Nat) : Prop := ∃ c, deserialize x = .ok c

theorem validId_enc {p : Path} (hp : WF p) : ValidId (enc p) := ⟨_, deserialize_enc_path hp⟩

/-- T0.  On valid ids `compact` only sees the cells: there is a list `A` of well-formed cells, cell `i` being the
one id `i` decodes to, such that `compact xs = compact (A.map enc)`. -/
theorem compact_canonicalises (xs : List Nat) (hv : ∀ x ∈ xs, ValidId x) :
    ∃ A : List Path, (∀ p ∈ A, WF p) ∧ xs.map deserialize = A.map (fun p => .ok (toCell p)) ∧
      compact xs = compact (A.map enc) := by
  obtain ⟨A, hA, h1, h2⟩ := canon_spec xs hv
  exact ⟨A, hA, h2, compact_canon xs A hA h1⟩

/-- canonical ids are their own canonical form -/
theorem canonical_enc (ps : List Path) (hps : ∀ p ∈ ps, WF p) :
    mapOutcome (fun c => deserialize c >>= serialize) (ps.map enc) = .ok (ps.map enc) := mapOutcome_canon ps hps

theorem compact_valid (xs : List Nat) (hv : ∀ x ∈ xs, ValidId x) :
    ∃ R : List Path, compact xs = .ok (R.map enc) ∧ SInv R := by
  obtain ⟨A, hA, _, hc⟩ := compact_canonicalises xs hv
  obtain ⟨R, hR, hr, hs, _⟩ := compact_enc_spec A hA
  exact ⟨R, by rewrite [hc]; exact hR, hr.wf, hs⟩

/-- T1.  On every list of valid ids `compact` returns `.ok`, and every returned id is canonical. -/
theorem compact_ok (xs : List Nat) (hv : ∀ x ∈ xs, ValidId x) :
    ∃ out, compact xs = .ok out ∧ ∀ y ∈ out, Layout y := by
  obtain ⟨R, hR, hi⟩ := compact_valid xs hv
  refine ⟨R.map enc, hR, fun y hy => ?_⟩
  obtain ⟨p, hp, rfl⟩ := List.mem_map.1 hy
  exact layout_enc_path (hi.wf p hp)

/-- T2.  For **any** list `ps` of cells, `compact` returns the ids of a list `qs` of
cells such that
* no cell of `qs` is finer than the finest cell of `ps`, and
* for every cell `q` at least as fine as every input: `q` lies in (= is, or is a descendant of) some input cell
  iff it lies in some output cell. -/
theorem compact_preserves_region (ps : List Path) (hps : ∀ p ∈ ps, WF p) :
    ∃ qs : List Path, compact (ps.map enc) = .ok (qs.map enc) ∧ (∀ p' ∈ qs, WF p') ∧
      (∀ p' ∈ qs, ∃ p ∈ ps, res p' ≤ res p) ∧
      ∀ q, WF q → (∀ p ∈ ps, res p ≤ res q) →
        ((∃ p ∈ ps, res p ≤ res q ∧ ancestorAt q (res p) = p) ↔
         (∃ p' ∈ qs, res p' ≤ res q ∧ ancestorAt q (res p') = p')) := by
  obtain ⟨R, hR, hr, _⟩ := compact_enc_spec ps hps
  exact ⟨R, hR, hr.wf, hr.res_le, fun q hq hfine => hr.sameRegionAt (res_le hq) hfine q hq rfl⟩

/-- T2, stated with `Path.descendantsAt`: at every resolution `r` at least as fine as every input, the input and
the output have the same descendants. -/
theorem compact_preserves_descendants (ps : List Path) (hps : ∀ p ∈ ps, WF p) :
    ∃ qs : List Path, compact (ps.map enc) = .ok (qs.map enc) ∧ (∀ p' ∈ qs, WF p') ∧
      ∀ r : Int, r ≤ 29 → (∀ p ∈ ps, res p ≤ r) →
        ∀ d, d ∈ ps.flatMap (fun p => descendantsAt p r) ↔ d ∈ qs.flatMap (fun p' => descendantsAt p' r) := by
  obtain ⟨qs, hc, hq, _⟩ := compact_enc_spec ps hps
  refine ⟨qs, hc, hq.wf, fun r hr29 hfine d => ?_⟩
  rw [mem_flatMap_descendantsAt_iff hps hr29 hfine, mem_flatMap_descendantsAt_iff hq.wf hr29 (hq.fine hfine)]
  exact and_congr_right fun hw => and_congr_right fun hr => hq.sameRegionAt hr29 hfine d hw hr

theorem expand_ok_inv (R : Int) : ∀ (ps : List Path) (a : List Nat), flatMapOutcome (C09.expand R) ps = .ok a →
    a = ps.flatMap (fun p => (descendantsOrdered p R).map enc) := by
  intro ps
  induction ps with
  | nil => intro a h; cases Outcome.ok.inj h; rfl
  | cons p ps ih =>
    intro a h
    rewrite [flatMapOutcome_cons] at h
    obtain ⟨b, hb, h⟩ := Outcome.bind_eq_ok _ _ _ h
    obtain ⟨bs, hbs, h⟩ := Outcome.bind_eq_ok _ _ _ h
    cases Outcome.ok.inj h
    rewrite [List.flatMap_cons, ← ih bs hbs]
    refine congrArg (· ++ bs) ?_
    simp only [C09.expand] at hb
    split at hb
    · cases hb
    · exact (Outcome.ok.inj hb).symm

theorem uncompact_ok_inv (ps : List Path) (hps : ∀ p ∈ ps, WF p) (R : Int) (a : List Nat)
    (h : uncompact (ps.map enc) R = .ok a) :
    R ≤ 29 ∧ (∀ p ∈ ps, res p ≤ R) ∧ a = ps.flatMap (fun p => (descendantsOrdered p R).map enc) := by
  rewrite [C09.uncompact_closed_form ps hps] at h
  by_cases hR : R ≥ 30
  · rewrite [if_pos hR] at h; cases h
  · rewrite [if_neg hR] at h
    obtain ⟨n, hn, h⟩ := Outcome.bind_eq_ok _ _ _ h
    by_cases hcap : n * 8 ≥ 2 ^ 63
    · rewrite [if_pos hcap] at h; cases h
    · rewrite [if_neg hcap] at h
      exact ⟨by omega, (C09.countSpec_of_ok R ps 0 n hn).1, expand_ok_inv R ps a h⟩

theorem mem_expansion_iff (ps : List Path) (hps : ∀ p ∈ ps, WF p) (R : Int) (x : Nat) :
    x ∈ ps.flatMap (fun p => (descendantsOrdered p R).map enc) ↔
      ∃ d ∈ ps.flatMap (fun p => descendantsAt p R), enc d = x := by
  simp only [List.mem_flatMap, List.mem_map]
  constructor
  · rintro ⟨p, hp, d, hd, rfl⟩
    exact ⟨d, ⟨p, hp, (mem_descendantsOrdered_iff p (hps p hp) R d).1 hd⟩, rfl⟩
  · rintro ⟨d, ⟨p, hp, hd⟩, rfl⟩
    exact ⟨p, hp, d, (mem_descendantsOrdered_iff p (hps p hp) R d).2 hd, rfl⟩

/-- T3 (the property as stated).  For **any** list of canonical ids: whenever
`compact` returned `out` and both expansions succeed — `uncompact` succeeding on the input forces `R ≤ 29` and
`R` at least as fine as every input — expanding the compacted result to `R` yields exactly the same set of
resolution-`R` ids as expanding the input itself.  (`compact` always succeeds here, T1; the two `uncompact` calls
succeed iff the scope guards of `uncompact` hold for the respective list, see `C09.uncompact_spec`: 20-level
guard of `cell_to_children` per cell and the allocation limit.) -/
theorem uncompact_compact_same_cells (ps : List Path) (hps : ∀ p ∈ ps, WF p) (R : Int) (out a b : List Nat)
    (hc : compact (ps.map enc) = .ok out) (ha : uncompact (ps.map enc) R = .ok a) (hb : uncompact out R = .ok b) :
    ∀ x, x ∈ a ↔ x ∈ b := by
  obtain ⟨qs, hq, hwf, hdesc⟩ := compact_preserves_descendants ps hps
  rewrite [hc] at hq
  cases Outcome.ok.inj hq
  obtain ⟨hR, hfine, rfl⟩ := uncompact_ok_inv ps hps R a ha
  obtain ⟨_, _, rfl⟩ := uncompact_ok_inv qs hwf R b hb
  intro x
  simp only [mem_expansion_iff ps hps, mem_expansion_iff qs hwf, hdesc R hR hfine]

/-- T3, with the guards spelt out instead of assumed successes: if `R ≤ 29`, every input and every output cell
is within the 20-level guard and both expansions fit the allocation limit, then all three calls succeed and the two
expansions have the same members. -/
theorem uncompact_compact_same_cells_guarded (ps : List Path) (R : Int) (hR : R ≤ 29)
    (hps : ∀ p ∈ ps, WF p ∧ res p ≤ R ∧ R - max (res p) 1 ≤ 20) (hcap : C09.total R ps * 8 < 2 ^ 63) :
    ∃ qs : List Path, compact (ps.map enc) = .ok (qs.map enc) ∧
      ((∀ p' ∈ qs, R - max (res p') 1 ≤ 20) → C09.total R qs * 8 < 2 ^ 63 →
        ∃ a b, uncompact (ps.map enc) R = .ok a ∧ uncompact (qs.map enc) R = .ok b ∧ ∀ x, x ∈ a ↔ x ∈ b) := by
  have hwf : ∀ p ∈ ps, WF p := fun p hp => (hps p hp).1
  obtain ⟨qs, hq, hr, _⟩ := compact_enc_spec ps hwf
  refine ⟨qs, hq, fun hg hcapq => ?_⟩
  have hqs : ∀ p' ∈ qs, WF p' ∧ res p' ≤ R ∧ R - max (res p') 1 ≤ 20 := fun p' hp' =>
    ⟨hr.wf p' hp', hr.fine (fun p hp => (hps p hp).2.1) p' hp', hg p' hp'⟩
  have ha := C09.uncompact_spec ps R hR hps hcap
  have hb := C09.uncompact_spec qs R hR hqs hcapq
  exact ⟨_, _, ha, hb, uncompact_compact_same_cells ps hwf R _ _ _ hq ha hb⟩

def SortedByKey (ids : List Nat) : Prop := (ids.map hierarchyKey).Pairwise (· < ·)

/-- T4a.  The result of `compact` on valid ids is strictly sorted by `hierarchy_key` … -/
theorem compact_sorted (xs : List Nat) (hv : ∀ x ∈ xs, ValidId x) (out : List Nat) (h : compact xs = .ok out) :
    SortedByKey out := by
  obtain ⟨R, hR, hi⟩ := compact_valid xs hv
  rewrite [hR] at h
  cases Outcome.ok.inj h
  exact (sortedByKey_iff hi.wf).2 hi.sorted

/-- T4.  … in particular it contains no id twice, whatever repetitions or overlapping cells
the input contained. -/
theorem compact_nodup (xs : List Nat) (hv : ∀ x ∈ xs, ValidId x) (out : List Nat) (h : compact xs = .ok out) :
    out.Nodup :=
  (List.pairwise_map.1 (compact_sorted xs hv out h)).imp
    (fun hlt e => by rewrite [e] at hlt; exact Nat.lt_irrefl _ hlt)

/-- T5 (general form).  If two lists of valid ids denote the same *set of cells*, `compact` returns the same
list (not just the same set) for both. -/
theorem compact_depends_on_cells_only (xs ys : List Nat) (hx : ∀ x ∈ xs, ValidId x) (hy : ∀ y ∈ ys, ValidId y)
    (h : ∀ c : Cell, (∃ x ∈ xs, deserialize x = .ok c) ↔ (∃ y ∈ ys, deserialize y = .ok c)) :
    compact xs = compact ys := by
  obtain ⟨A, hA, hAx, hcx⟩ := compact_canonicalises xs hx
  obtain ⟨B, hB, hBy, hcy⟩ := compact_canonicalises ys hy
  rewrite [hcx, hcy]
  -- `p ∈ A` iff some id of `xs` decodes to `toCell p`
  have key : ∀ (zs : List Nat) (C : List Path), (∀ p ∈ C, WF p) →
      zs.map deserialize = C.map (fun p => Outcome.ok (toCell p)) →
      ∀ p, WF p → (p ∈ C ↔ ∃ z ∈ zs, deserialize z = .ok (toCell p)) := by
    intro zs C hC hz p hp
    have : (∃ z ∈ zs, deserialize z = .ok (toCell p)) ↔ Outcome.ok (toCell p) ∈ zs.map deserialize := by
      simp only [List.mem_map]
    rw [this, hz, List.mem_map]
    exact ⟨fun h => ⟨p, h, rfl⟩, fun ⟨p', hp', e⟩ => toCell_injective (hC p' hp') hp (Outcome.ok.inj e) ▸ hp'⟩
  refine compact_enc_congr A B hA hB (fun p => ⟨fun hp => ?_, fun hp => ?_⟩)
  · have hw := hA p hp
    exact (key ys B hB hBy p hw).2 ((h _).1 ((key xs A hA hAx p hw).1 hp))
  · have hw := hB p hp
    exact (key xs A hA hAx p hw).2 ((h _).2 ((key ys B hB hBy p hw).1 hp))

/-- T5.  Lists of valid ids with the same members — any rearrangement, any
repetition of entries — give the same result. -/
theorem compact_input_order_irrelevant (xs ys : List Nat) (hx : ∀ x ∈ xs, ValidId x)
    (h : ∀ x, x ∈ xs ↔ x ∈ ys) : compact xs = compact ys :=
  compact_depends_on_cells_only xs ys hx (fun y hy => hx y ((h y).2 hy))
    (fun _ => ⟨fun ⟨x, hx', e⟩ => ⟨x, (h x).1 hx', e⟩, fun ⟨y, hy', e⟩ => ⟨y, (h y).2 hy', e⟩⟩)

/-- T5, corollary: permuting the input does not change the result -/
theorem compact_perm (xs ys : List Nat) (hx : ∀ x ∈ xs, ValidId x) (h : xs.Perm ys) : compact xs = compact ys :=
  compact_input_order_irrelevant xs ys hx (fun _ => h.mem_iff)

/-- T5, corollary: repeating input cells does not change the result -/
theorem compact_append_self (xs : List Nat) (hx : ∀ x ∈ xs, ValidId x) : compact (xs ++ xs) = compact xs :=
  (compact_input_order_irrelevant xs (xs ++ xs) hx (fun x => by simp)).symm

/-- `hierarchy_key` in closed form: `2^57+1` for the world cell, the id with `5·face` in the leading bits for a
base cell, the id itself otherwise; it is injective on cells, and every cell — world and base cells included —
sorts strictly between its first and its last child. -/
theorem hierarchy_key_facts :
    (∀ p, WF p → hierarchyKey (enc p) = CompactKey.pkey p) ∧
    (∀ p q, WF p → WF q → hierarchyKey (enc p) = hierarchyKey (enc q) → p = q) ∧
    (∀ p, WF p → res p ≤ 28 →
      hierarchyKey (enc (CompactKey.firstChild p)) < hierarchyKey (enc p) ∧
      hierarchyKey (enc p) < hierarchyKey (enc (CompactKey.lastChild p))) := by
  refine ⟨fun p hp => CompactKey.hierarchyKey_enc hp, fun p q hp hq h => CompactKey.hierarchyKey_injective hp hq h,
    fun p hp h28 => ?_⟩
  have h1 : WF (CompactKey.firstChild p) := wf_children hp (by omega) (CompactKey.firstChild_mem p)
  have h2 : WF (CompactKey.lastChild p) := wf_children hp (by omega) (CompactKey.lastChild_mem p)
  rewrite [CompactKey.hierarchyKey_enc hp, CompactKey.hierarchyKey_enc h1, CompactKey.hierarchyKey_enc h2]
  exact CompactKey.pkey_parent_between hp h28

/-- On the id of any cell `p` followed by arbitrary 64-bit values, the group test
never panics and answers `true` iff `p` is not the world cell and the list starts with the ids of **all**
children of the parent of `p`, in id order; the merge then emits the id of that parent. -/
theorem sibling_run_is_complete_group {p : Path} (hp : WF p) (rest : List Nat) :
    ∃ b k, groupAt (enc p) rest = .ok (b, k) ∧ (p ≠ world → k = fan (res (parent p))) ∧
      (b = true ↔ p ≠ world ∧ (children (parent p)).map enc <+: enc p :: rest) ∧
      (p ≠ world → cellToParent (enc p) none = .ok (enc (parent p))) := by
  obtain ⟨b, k, h1, h2, h3⟩ := groupAt_enc hp rest
  exact ⟨b, k, h1, h2, h3, fun hw => cellToParent_none_enc hp hw⟩

/-- one scan (`compactScan`) on the ids of any list of cells: never fails; region, coarseness and strict key order
are kept; `changed = false` means "returned unchanged", `changed = true` means "strictly shorter" -/
theorem scan_facts (L : List Path) (hwf : ∀ p ∈ L, WF p) :
    ∃ (L' : List Path) (ch : Bool), compactScan (L.map enc) 0 = .ok (L'.map enc, ch) ∧ (∀ p ∈ L', WF p) ∧
      SameRegion L L' ∧ (∀ x ∈ L', ∃ p ∈ L, res x ≤ res p) ∧
      (SortedByKey (L.map enc) → SortedByKey (L'.map enc)) ∧
      (ch = false → L' = L) ∧ (ch = true → L'.length < L.length) := by
  obtain ⟨hm, _, hlt⟩ := pscan_spec L 0 hwf
  exact ⟨(pscan L 0).1, (pscan L 0).2, compactScan_enc L 0 hwf, hm.wf hwf, hm.sameRegion, hm.res_le,
    fun hs => (sortedByKey_iff (hm.wf hwf)).2 (hm.sorted ((sortedByKey_iff hwf).1 hs)),
    fun h => (noHead_of_pscan L h).2, hlt⟩

/-! ## the pinned release (v0.6.2) violated the property: kernel-checked witnesses

`compactV062` sorts by raw id and does not canonicalise.  Base cell 1 has id `1·2^58 + 2^57 = 0x0600…0`, its five
quintants have ids `(5·1+k)·2^58 + 2^56`; sorted by raw id the base cell comes first, the five quintants follow as
a complete run, are merged into a second copy of the base cell, and nothing removes the duplicate. -/

def base1 : Nat := 0x0600000000000000
def quintantsOfBase1 : List Nat := (List.range 5).map (fun k => (5 * 1 + k) * 2 ^ 58 + 2 ^ 56)
def res0Cells : List Nat := (List.range 12).map (fun f => f * 2 ^ 58 + 2 ^ 57)

example : base1 = enc (face 1) ∧ quintantsOfBase1 = (children (face 1)).map enc ∧
    res0Cells = (children world).map enc := by decide +kernel
example : getRes0Cells = .ok res0Cells := by decide +kernel
example : cellToChildren base1 (some 1) = .ok [8 * 2 ^ 58 + 2 ^ 56, 9 * 2 ^ 58 + 2 ^ 56, 5 * 2 ^ 58 + 2 ^ 56,
    6 * 2 ^ 58 + 2 ^ 56, 7 * 2 ^ 58 + 2 ^ 56] := by decide +kernel

/-- v0.6.2: a cell together with its complete set of children compacts to the cell **twice** -/
theorem v062_duplicate_witness_base1 : compactV062 (base1 :: quintantsOfBase1) = .ok [base1, base1] := by
  decide +kernel

/-- v0.6.2: the twelve base cells together with the world cell compact to the world cell **twice** -/
theorem v062_duplicate_witness_world : compactV062 (res0Cells ++ [0]) = .ok [0, 0] := by decide +kernel

/-- v0.6.2: the result depended on multiplicity of *cells*: a non-canonical spelling of base cell 1 (stray low
bit) next to the canonical one survives as a second entry -/
theorem v062_noncanonical_witness : compactV062 [base1, base1 + 1] = .ok [base1, base1 + 1] ∧
    deserialize (base1 + 1) = deserialize base1 := by decide +kernel

/-- the repaired algorithm on the same inputs: no duplicates (T4), same region (T2) -/
example : compact (base1 :: quintantsOfBase1) =
    .ok [5 * 2 ^ 58 + 2 ^ 56, base1, 6 * 2 ^ 58 + 2 ^ 56, 7 * 2 ^ 58 + 2 ^ 56, 8 * 2 ^ 58 + 2 ^ 56,
      9 * 2 ^ 58 + 2 ^ 56] := by decide +kernel
example : compact (res0Cells ++ [0]) = .ok (2 ^ 57 :: 0 :: res0Cells.tail) := by decide +kernel
example : compact [base1, base1 + 1] = .ok [base1] := by decide +kernel

/-! ## non-vacuity: the theorems on concrete non-trivial inputs

`exampleInput`: the four children of the resolution-2 cell `deep 3 2 [1]`, out of order and one of them twice,
plus a stray base cell: duplicates are removed, the siblings merged, the stray cell kept.
`exampleOverlap` adds a resolution-4 cell lying *inside* one of the siblings (overlapping input).  Its key sorts
between the siblings `[1,1]` and `[1,2]`, so the sibling run is interrupted and nothing is merged — C08 does not
ask for maximality (that is C10, for non-overlapping inputs); region, uniqueness and order-independence hold. -/

def exampleInput : List Path :=
  [deep 3 2 [1, 3], deep 3 2 [1, 0], face 7, deep 3 2 [1, 2], deep 3 2 [1, 1], deep 3 2 [1, 1]]

def exampleOverlap : List Path := deep 3 2 [1, 1, 2] :: exampleInput

example : ∀ p ∈ exampleOverlap, WF p := by decide
example : ∀ x ∈ exampleOverlap.map enc, ValidId x :=
  fun x hx => by obtain ⟨p, hp, rfl⟩ := List.mem_map.1 hx; exact validId_enc ((by decide : ∀ p ∈ exampleOverlap, WF p) p hp)

example : compact (exampleInput.map enc) = .ok ([deep 3 2 [1], face 7].map enc) := by decide +kernel
example : compact (exampleOverlap.map enc) =
    .ok ([deep 3 2 [1, 0], deep 3 2 [1, 1], deep 3 2 [1, 1, 2], deep 3 2 [1, 2], deep 3 2 [1, 3], face 7].map enc) := by
  decide +kernel
/-- T5 on a concrete rearrangement with other multiplicities -/
example : compact ((exampleInput.reverse ++ [face 7, face 7]).map enc) = compact (exampleInput.map enc) :=
  compact_input_order_irrelevant _ _
    (fun x hx => by
      obtain ⟨p, hp, rfl⟩ := List.mem_map.1 hx
      exact validId_enc ((by decide : ∀ p ∈ exampleInput.reverse ++ [face 7, face 7], WF p) p hp))
    (fun x => by
      have h : ∀ p, p ∈ exampleInput.reverse ++ [face 7, face 7] ↔ p ∈ exampleInput := fun p => by
        rw [List.mem_append, List.mem_reverse]
        exact ⟨fun h => h.elim id ((by decide : ∀ p ∈ [face 7, face 7], p ∈ exampleInput) p), Or.inl⟩
      simp only [List.mem_map, h])
/-- T3 on a concrete input: all three calls succeed at resolution 4, and the expansions agree as sets (the
expansion of the input lists the children of `[1,1]` twice and `[1,1,2]` three times; 320 of the cells are those of base cell 7) -/
example : ∃ out a b, compact (exampleOverlap.map enc) = .ok out ∧ uncompact (exampleOverlap.map enc) 4 = .ok a ∧
    uncompact out 4 = .ok b ∧ a.length = 341 ∧ b.length = 337 ∧ (∀ x, x ∈ a ↔ x ∈ b) := by
  have hc : compact (exampleOverlap.map enc) =
      .ok ([deep 3 2 [1, 0], deep 3 2 [1, 1], deep 3 2 [1, 1, 2], deep 3 2 [1, 2], deep 3 2 [1, 3], face 7].map enc) := by
    decide +kernel
  have hps : ∀ p ∈ exampleOverlap, WF p ∧ res p ≤ 4 ∧ (4 : Int) - max (res p) 1 ≤ 20 := by decide
  have hqs : ∀ p ∈ [deep 3 2 [1, 0], deep 3 2 [1, 1], deep 3 2 [1, 1, 2], deep 3 2 [1, 2], deep 3 2 [1, 3], face 7],
      WF p ∧ res p ≤ 4 ∧ (4 : Int) - max (res p) 1 ≤ 20 := by decide
  obtain ⟨a, ha, hla⟩ := C09.uncompact_length exampleOverlap 4 (by decide) hps (by decide)
  obtain ⟨b, hb, hlb⟩ := C09.uncompact_length _ 4 (by decide) hqs (by decide)
  exact ⟨_, a, b, hc, ha, hb, hla.trans (by decide), hlb.trans (by decide),
    uncompact_compact_same_cells exampleOverlap (fun p hp => (hps p hp).1) 4 _ _ _ hc ha hb⟩

end A5.C08
