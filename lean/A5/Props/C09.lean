import A5.Lemmas.Total
/-! # C09 — `uncompact` expands every input cell into exactly its descendants at the target resolution

Model: `A5.uncompact` (`A5/Model/Compact.lean`), with `A5.getNumChildren` / `A5.getNumCells` (`A5/Model/Hier.lean`).
Spec: `Path.descendantsOrdered` of `A5/Spec/Tree.lean`.  Inputs are lists of *arbitrary* canonical ids, written
`ps.map enc` for a list `ps` of well-formed tree paths (see `C07.canonical_ids_are_paths`); repetitions, any mix of
resolutions and any order are allowed.

Shape of the model: a first loop adds up `getNumChildren (res c) R` (overflow-checked) and rejects inputs finer than
the target; the sum is used as `Vec::with_capacity`; a second loop pushes either the cell itself (`k = 1`) or
`cell_to_children(c, R)`.  `uncompact_closed_form` states this on paths without any side condition, with the first loop as
`countSpec` and the second as one `expand` per input (both, and the sizes `sumKids`, `total`, are defined at the end of
`A5/Lemmas/Total.lean`); `uncompact_spec` is the success case. -/
namespace A5.C09
open A5 A5.Path

/-- **`precount_harmless`.**  The shortcut `k = 1` ("already at the target resolution") is taken exactly when the
resolutions are equal — also through the rounded `get_num_cells` entries for resolutions 28 and 29. -/
theorem precount_harmless (p : Path) (R : Int) (h : res p ≤ R) (hR : R ≤ 29) :
    getNumChildren (res p) R = .ok 1 ↔ res p = R := precount_harmless' (res p) R (res_ge p) h hR

/-- **Complete behaviour of `uncompact` on canonical ids**, no side conditions: the range check, the
overflow-checked pre-count, the capacity of the allocation, then one `expand` per input in input order. -/
theorem uncompact_closed_form (ps : List Path) (hps : ∀ p ∈ ps, WF p) (R : Int) :
    uncompact (ps.map enc) R =
      if R ≥ 30 then .err .exceedsMax
      else countSpec R ps 0 >>= fun n =>
        if n * 8 ≥ 2 ^ 63 then .panic .capacity else flatMapOutcome (expand R) ps := by
  by_cases hR : R ≥ 30
  · rewrite [if_pos hR]; exact uncompact_exceeds _ R hR
  rewrite [if_neg hR, uncompact_unfold _ R (by omega), uncompact_count_enc R (by omega) ps hps 0]
  cases hc : countSpec R ps 0 with
  | err e => simp only [Outcome.bind_err]
  | panic k => simp only [Outcome.bind_panic]
  | ok n =>
    simp only [Outcome.bind_ok]
    by_cases hcap : n * 8 ≥ 2 ^ 63
    · rewrite [if_pos hcap, if_pos hcap]; rfl
    · rewrite [if_neg hcap, if_neg hcap]
      have hle := (countSpec_of_ok R ps 0 n hc).1
      exact flatMapOutcome_map_congr _ enc (expand R) ps
        (fun p hp => uncompactStep_enc (hps p hp) R (hle p hp) (by omega))

/-- **`uncompact_spec`.**  For any list of cells, none finer than the target `R ≤ 29`, each within the 20-level
guard of `cell_to_children`, and with a total output size that `Vec::with_capacity` accepts (`8·n < 2^63` bytes):
the result is, for each input in input order, the ids of its tree descendants at resolution `R` in the library's
order — nothing else, nothing missing. -/
theorem uncompact_spec (ps : List Path) (R : Int) (hR : R ≤ 29)
    (hps : ∀ p ∈ ps, WF p ∧ res p ≤ R ∧ R - max (res p) 1 ≤ 20)
    (hcap : total R ps * 8 < 2 ^ 63) :
    uncompact (ps.map enc) R = .ok (ps.flatMap (fun p => (descendantsOrdered p R).map enc)) := by
  have hk := sumKids_eq_total R hR ps (fun p hp => (hps p hp).2)
  rewrite [uncompact_closed_form ps (fun p hp => (hps p hp).1), if_neg (by omega),
    countSpec_ok R ps 0 (fun p hp => (hps p hp).2.1) (by rewrite [hk]; omega)]
  simp only [Outcome.bind_ok]
  rewrite [if_neg (by rewrite [hk]; omega)]
  exact flatMapOutcome_ok _ _ _ (fun p hp => by
    simp only [expand]; rewrite [if_neg (by have := (hps p hp).2.2; omega)]; rfl)

/-- Corollary 1 (order per input): the output is the concatenation, in input order, of one block per input. -/
theorem uncompact_append (ps qs : List Path) (R : Int) (hR : R ≤ 29)
    (hps : ∀ p ∈ ps ++ qs, WF p ∧ res p ≤ R ∧ R - max (res p) 1 ≤ 20)
    (hcap : total R (ps ++ qs) * 8 < 2 ^ 63) :
    ∃ a b, uncompact (ps.map enc) R = .ok a ∧ uncompact (qs.map enc) R = .ok b ∧
      uncompact ((ps ++ qs).map enc) R = .ok (a ++ b) := by
  have ht : total R (ps ++ qs) = total R ps + total R qs := by simp [total]
  refine ⟨_, _, uncompact_spec ps R hR (fun p hp => hps p (List.mem_append_left _ hp)) (by omega),
    uncompact_spec qs R hR (fun p hp => hps p (List.mem_append_right _ hp)) (by omega), ?_⟩
  rewrite [uncompact_spec (ps ++ qs) R hR hps hcap, List.flatMap_append]
  rfl

/-- Corollary 2: every output cell is a canonical id of resolution `R`, and its ancestor at the resolution of
some input is that input. -/
theorem uncompact_outputs (ps : List Path) (R : Int) (hR : R ≤ 29)
    (hps : ∀ p ∈ ps, WF p ∧ res p ≤ R ∧ R - max (res p) 1 ≤ 20) (hcap : total R ps * 8 < 2 ^ 63) :
    ∃ out, uncompact (ps.map enc) R = .ok out ∧
      ∀ c ∈ out, Layout c ∧ getResolution c = R ∧
        ∃ p ∈ ps, cellToParent c (some (res p)) = .ok (enc p) := by
  refine ⟨_, uncompact_spec ps R hR hps hcap, fun c hc => ?_⟩
  obtain ⟨p, hp, hc⟩ := List.mem_flatMap.1 hc
  obtain ⟨d, hd, rfl⟩ := List.mem_map.1 hc
  obtain ⟨hw, hr, _⟩ := hps p hp
  have hwd := wf_of_mem_ordered hw hR hd
  have hrd := res_of_mem_ordered hw hd
  refine ⟨layout_enc_path hwd, by rewrite [getResolution_enc_path hwd]; exact hrd, p, hp, ?_⟩
  rewrite [cellToParent_anc hwd (res p) (res_ge p) (by omega), ancestorAt_of_mem_ordered hw hd]
  rfl

/-- Corollary 3: every input is covered completely — each well-formed path at resolution `R` below an input
occurs in the output — and the block of one input has no repetitions. -/
theorem uncompact_covers (ps : List Path) (R : Int) (hR : R ≤ 29)
    (hps : ∀ p ∈ ps, WF p ∧ res p ≤ R ∧ R - max (res p) 1 ≤ 20) (hcap : total R ps * 8 < 2 ^ 63) :
    ∃ out, uncompact (ps.map enc) R = .ok out ∧
      (∀ p ∈ ps, ∀ d, WF d → res d = R → ancestorAt d (res p) = p → enc d ∈ out) ∧
      (∀ p ∈ ps, ((descendantsOrdered p R).map enc).Nodup) := by
  refine ⟨_, uncompact_spec ps R hR hps hcap, fun p hp d hd hr ha => ?_, fun p hp => ?_⟩
  · obtain ⟨hw, hr', _⟩ := hps p hp
    refine List.mem_flatMap.2 ⟨p, hp, List.mem_map.2 ⟨d, ?_, rfl⟩⟩
    rewrite [mem_descendantsOrdered_iff p hw, mem_descendantsAt_iff hd hr']
    exact ⟨hr, ha⟩
  · exact nodup_map_enc_ordered (hps p hp).1 R hR

/-- Corollary 4: the output has exactly `Σ fanout` cells. -/
theorem uncompact_length (ps : List Path) (R : Int) (hR : R ≤ 29)
    (hps : ∀ p ∈ ps, WF p ∧ res p ≤ R ∧ R - max (res p) 1 ≤ 20) (hcap : total R ps * 8 < 2 ^ 63) :
    ∃ out, uncompact (ps.map enc) R = .ok out ∧ out.length = total R ps := by
  refine ⟨_, uncompact_spec ps R hR hps hcap, ?_⟩
  simp only [List.length_flatMap, List.length_map, total]
  refine congrArg List.sum (List.map_congr_left (fun p hp => ?_))
  exact length_ordered (hps p hp).1 R (hps p hp).2.1

/-- Corollary 5: distinct inputs of which none is an ancestor of another (in particular the output of `compact`)
expand without repetitions. -/
theorem uncompact_nodup (ps : List Path) (R : Int) (hR : R ≤ 29)
    (hps : ∀ p ∈ ps, WF p ∧ res p ≤ R ∧ R - max (res p) 1 ≤ 20) (hcap : total R ps * 8 < 2 ^ 63)
    (hanti : ps.Pairwise (fun p q => ancestorAt q (res p) ≠ p ∧ ancestorAt p (res q) ≠ q)) :
    ∃ out, uncompact (ps.map enc) R = .ok out ∧ out.Nodup := by
  refine ⟨_, uncompact_spec ps R hR hps hcap, ?_⟩
  simp only [List.Nodup, List.pairwise_flatMap]
  refine ⟨fun p hp => nodup_map_enc_ordered (hps p hp).1 R hR, ?_⟩
  refine List.Pairwise.imp_of_mem ?_ hanti
  intro p q hp hq hne x hx y hy hxy
  subst hxy
  obtain ⟨d, hd, rfl⟩ := List.mem_map.1 hx
  obtain ⟨d', hd', he⟩ := List.mem_map.1 hy
  have hwp := (hps p hp).1
  have hwq := (hps q hq).1
  cases enc_injective (wf_of_mem_ordered hwq hR hd') (wf_of_mem_ordered hwp hR hd) he
  -- `d` lies below both `p` and `q`: the shallower of the two is an ancestor of the other
  have ap := ancestorAt_of_mem_ordered hwp hd
  have aq := ancestorAt_of_mem_ordered hwq hd'
  by_cases hle : res p ≤ res q
  · apply hne.1
    rewrite [← aq, ancestorAt_ancestorAt d (res q) (res p) hle]; exact ap
  · apply hne.2
    rewrite [← ap, ancestorAt_ancestorAt d (res p) (res q) (by omega)]; exact aq

theorem uncompact_err_cases (ps : List Path) (hps : ∀ p ∈ ps, WF p) (R : Int) (e : ErrKind)
    (h : uncompact (ps.map enc) R = .err e) :
    (e = .exceedsMax ∧ R ≥ 30) ∨ (R ≤ 29 ∧ ((e = .targetCoarser ∧ ∃ p ∈ ps, res p > R) ∨ e = .diffTooLarge)) := by
  rewrite [uncompact_closed_form ps hps] at h
  by_cases hR : R ≥ 30
  · rewrite [if_pos hR] at h; cases h; exact Or.inl ⟨rfl, hR⟩
  rewrite [if_neg hR] at h
  refine Or.inr ⟨by omega, ?_⟩
  cases hc : countSpec R ps 0 with
  | err e' => rewrite [hc] at h; cases h; exact Or.inl (countSpec_err R ps 0 _ hc)
  | panic k => rewrite [hc] at h; cases h
  | ok n =>
    rewrite [hc, Outcome.bind_ok] at h
    split at h
    · cases h
    · exact Or.inr (expand_err R ps _ h)

/-- T6, second half: "exceeds maximum" is returned exactly for targets ≥ 30. -/
theorem exceedsMax_iff (ps : List Path) (hps : ∀ p ∈ ps, WF p) (R : Int) :
    uncompact (ps.map enc) R = .err .exceedsMax ↔ R ≥ 30 := by
  refine ⟨fun h => ?_, fun hR => uncompact_exceeds _ R hR⟩
  rcases uncompact_err_cases ps hps R _ h with ⟨_, hR⟩ | ⟨_, ⟨he, _⟩ | he⟩
  · exact hR
  · cases he
  · cases he

/-- T6, first half, direction "only if": the error "target coarser" is only ever returned when
some input is finer than the target. -/
theorem targetCoarser_only_if (ps : List Path) (hps : ∀ p ∈ ps, WF p) (R : Int)
    (h : uncompact (ps.map enc) R = .err .targetCoarser) : R ≤ 29 ∧ ∃ p ∈ ps, res p > R := by
  rcases uncompact_err_cases ps hps R _ h with ⟨he, _⟩ | ⟨hR, ⟨_, hp⟩ | he⟩
  · cases he
  · exact ⟨hR, hp⟩
  · cases he

/-- direction "if", what is true in general: with an input finer than the target the result is the error —
or the overflow-checked pre-count has already panicked on the inputs before it. -/
theorem targetCoarser_if_weak (ps : List Path) (hps : ∀ p ∈ ps, WF p) (R : Int) (hR : R ≤ 29)
    (h : ∃ p ∈ ps, res p > R) :
    uncompact (ps.map enc) R = .err .targetCoarser ∨ uncompact (ps.map enc) R = .panic .addOverflow := by
  rewrite [uncompact_closed_form ps hps, if_neg (by omega)]
  rcases (countSpec_coarser R ps 0 h).2 with hc | hc
  · left; rewrite [hc]; rfl
  · right; rewrite [hc]; rfl

/-- **T6, first half, as it really holds**: provided the pre-count of the input list fits 64 bits
(e.g. at most four inputs, each count being below `2^62`), the error "target coarser" is returned iff some input is
finer than the target. -/
theorem targetCoarser_iff (ps : List Path) (hps : ∀ p ∈ ps, WF p) (R : Int) (hR : R ≤ 29)
    (hfit : sumKids R ps < 2 ^ 64) :
    uncompact (ps.map enc) R = .err .targetCoarser ↔ ∃ p ∈ ps, res p > R := by
  refine ⟨fun h => (targetCoarser_only_if ps hps R h).2, fun h => ?_⟩
  rewrite [uncompact_closed_form ps hps, if_neg (by omega), (countSpec_coarser R ps 0 h).1 (by omega)]
  rfl

/-- at most four inputs never overflow the pre-count -/
theorem sumKids_fits (ps : List Path) (R : Int) (hR : R ≤ 29) (hlen : ps.length ≤ 4) : sumKids R ps < 2 ^ 64 := by
  have key : ∀ qs : List Path, sumKids R qs + qs.length ≤ qs.length * 2 ^ 62 := by
    intro qs
    induction qs with
    | nil => simp [sumKids]
    | cons q qs ih =>
      have := kids_lt (res q) R (res_ge q) hR
      simp only [sumKids, List.map_cons, List.sum_cons, List.length_cons] at ih ⊢
      omega
  have := key ps
  have h4 : ps.length * 2 ^ 62 ≤ 4 * 2 ^ 62 := Nat.mul_le_mul_right _ hlen
  omega

/-- The intended unconditional statement (T6, `uncompact_err_iff` in DESIGN.md) … -/
def uncompact_err_iff_statement : Prop :=
  ∀ (ps : List Path) (R : Int), (∀ p ∈ ps, WF p) → R ≤ 29 →
    (uncompact (ps.map enc) R = .err .targetCoarser ↔ ∃ p ∈ ps, res p > R)

/-- … is FALSE for the overflow-checked build (finding): eighteen copies of the world cell followed by a
resolution-29 cell, target 28.  The pre-count adds `get_num_cells(28) ≈ 1.08·10^18` per world cell and overflows
`usize` at the eighteenth, before the loop reaches the offending cell; the model (debug profile) panics instead of
returning the error.  (A release build wraps and does return the error.) -/
theorem uncompact_overflow_witness :
    uncompact ((List.replicate 18 world ++ [deep 0 0 (List.replicate 28 0)]).map enc) 28 = .panic .addOverflow := by
  decide +kernel

theorem uncompact_err_iff_statement_false : ¬ uncompact_err_iff_statement := by
  intro h
  have h1 := (h (List.replicate 18 world ++ [deep 0 0 (List.replicate 28 0)]) 28 (by decide) (by decide)).2
    ⟨deep 0 0 (List.replicate 28 0), by simp, by decide⟩
  rewrite [uncompact_overflow_witness] at h1
  cases h1

/-! ## non-vacuity -/

/-- sample input: a base cell, a resolution-4 cell on another face, and a cell already at the target -/
abbrev sampleInput : List Path := [face 3, deep 7 3 [2, 3, 1], deep 1 0 [0, 1, 2, 3, 0]]

example : ∀ p ∈ sampleInput, WF p ∧ res p ≤ 6 ∧ (6 : Int) - max (res p) 1 ≤ 20 := by decide
example : total 6 sampleInput = 5 * 4 ^ 5 + 4 ^ 2 + 1 := by decide
example : total 6 sampleInput * 8 < 2 ^ 63 := by decide
example : uncompact (sampleInput.map enc) 6 = .ok (sampleInput.flatMap (fun p => (descendantsOrdered p 6).map enc)) :=
  uncompact_spec sampleInput 6 (by decide) (by decide) (by decide)
example : ∃ out, uncompact (sampleInput.map enc) 6 = .ok out ∧ out.length = 5137 :=
  uncompact_length sampleInput 6 (by decide) (by decide) (by decide)
example : uncompact ([deep 7 3 [2, 3, 1]].map enc) 5 =
    .ok [0x9ad2000000000000, 0x9ad6000000000000, 0x9ada000000000000, 0x9ade000000000000] := by decide +kernel
example : uncompact (sampleInput.map enc) 5 = .err .targetCoarser :=
  (targetCoarser_iff sampleInput (by decide) 5 (by decide) (sumKids_fits _ _ (by decide) (by decide))).2
    ⟨deep 1 0 [0, 1, 2, 3, 0], by simp, by decide⟩
example : uncompact (sampleInput.map enc) 30 = .err .exceedsMax :=
  (exceedsMax_iff sampleInput (by decide) 30).2 (by decide)
example : getNumChildren 1 29 = .ok 72057594037927933 ∧ 4 ^ 28 = 72057594037927936 := by decide
example : getNumChildren 28 28 = .ok 1 ∧ getNumChildren 0 28 ≠ .ok 1 := by decide

end A5.C09
