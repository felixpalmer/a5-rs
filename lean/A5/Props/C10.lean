import A5.Lemmas.CompactLoop
/-! # C10 — `compact` returns the canonical description of the covered region

Model: `A5.compact`, `A5.compactScan`, `A5.hierarchyKey`, `A5.compactV062` (`A5/Model/Compact.lean`, Rust
`src/core/compact.rs`).  Spec: the cell tree `Path` (`A5/Spec/Tree.lean`), and the pure tree notions of
`A5/Lemmas/Canonical.lean`:

    Below p q          p is q or an ancestor of q
    Antichain A        no two distinct members comparable (cells do not overlap)
    SameRegion A B     A and B cover the same cells of the finest resolution 29
    NoCompleteGroup A  no cell (resolution ≤ 28) has all of its children in A
                       (all 12 base cells / all 5 quintants of a face / all 4 children of a finer cell)

Inputs are the ids `A.map enc` of an arbitrary list `A` of well-formed cells (`WF`; by `layout_iff_path` these are
exactly the canonical ids), in any order, repetitions allowed, pairwise non-overlapping (`Antichain A`).
Region preservation, termination and the recognition of sibling groups are proved in
`A5/Lemmas/Compact{Key,Scan,Merge,Loop}.lean`. -/
namespace A5.C10
open A5 A5.Path A5.Canonical A5.CompactMax

def SortedByKey (ids : List Nat) : Prop := (ids.map hierarchyKey).Pairwise (· < ·)

/-- Inputs: every list of canonical ids (`Layout`) is the id list `A.map enc` of a list of well-formed cells,
so the theorems below, stated for `A.map enc`, cover all lists of canonical ids. -/
theorem canonical_ids_are_paths (ids : List Nat) (h : ∀ x ∈ ids, Layout x) :
    ∃ A : List Path, A.map enc = ids ∧ ∀ p ∈ A, WF p :=
  exists_paths ids (fun x hx => exists_path_of_layout x (h x hx))

/-- T0 (pure tree theory, `canonical_unique`).  Two non-overlapping sets of cells without complete sibling group
covering the same region have the same members. -/
theorem canonical_cover_unique {A B : List Path} (hwfA : ∀ p ∈ A, WF p) (hwfB : ∀ p ∈ B, WF p)
    (hA : Antichain A) (hB : Antichain B) (hmA : NoCompleteGroup A) (hmB : NoCompleteGroup B)
    (h : SameRegion A B) : ∀ p, p ∈ A ↔ p ∈ B :=
  canonical_unique hwfA hwfB hA hB hmA hmB h

/-- T1.  In the id list of an antichain of cells that is strictly sorted by `hierarchyKey`, if all children of
some cell `P` are present then they occupy consecutive positions, in child order starting with the first child. -/
theorem sorted_antichain_siblings_adjacent (L : List Path) (hwf : ∀ p ∈ L, WF p) (hanti : Antichain L)
    (hsorted : SortedByKey (L.map enc)) (P : Path) (hP : WF P) (hr : res P ≤ 28)
    (hall : ∀ c ∈ children P, c ∈ L) :
    ∃ pre post, L.map enc = pre ++ (children P).map enc ++ post := by
  obtain ⟨pre, post, h⟩ := siblings_adjacent ⟨hwf, hanti, (sortedByKey_iff hwf).1 hsorted⟩ hP hr hall
  exact ⟨pre.map enc, post.map enc, by rw [h, List.map_append, List.map_append]⟩

/-- T2.  One scan of the loop, on the ids of a key-sorted antichain: it never fails; its output is again the id
list of a key-sorted antichain ("no re-sorting needed") covering the same region; if it reports a change the list
got shorter, and if it reports no change the list is returned as it is and contains no complete sibling group. -/
theorem pass_keeps_antichain (L : List Path) (hwf : ∀ p ∈ L, WF p) (hanti : Antichain L)
    (hsorted : SortedByKey (L.map enc)) :
    ∃ L' changed, compactScan (L.map enc) 0 = .ok (L'.map enc, changed) ∧
      (∀ p ∈ L', WF p) ∧ Antichain L' ∧ SortedByKey (L'.map enc) ∧ SameRegion L L' ∧
      (changed = true → L'.length < L.length) ∧ (changed = false → L' = L ∧ NoCompleteGroup L) := by
  have hi : Inv L := ⟨hwf, hanti, (sortedByKey_iff hwf).1 hsorted⟩
  obtain ⟨hm, _, hlt⟩ := pscan_spec L 0 hwf
  have hi' := hm.inv hi
  refine ⟨(pscan L 0).1, (pscan L 0).2, compactScan_enc L 0 hwf, hi'.wf, hi'.anti,
    (sortedByKey_iff hi'.wf).2 hi'.sorted, hm.sameRegion, hlt, ?_⟩
  intro hch
  obtain ⟨hnh, he⟩ := noHead_of_pscan L hch
  exact ⟨he, noCompleteGroup_of_noHead hi hnh⟩

/-- `compact` on the ids of a non-overlapping set of cells succeeds, and its result is the id list of a
set `R` of cells that is non-overlapping, strictly sorted by `hierarchyKey`, covers the same region, and contains
no complete sibling group. -/
theorem compact_spec (A : List Path) (hwf : ∀ p ∈ A, WF p) (hanti : Antichain A) :
    ∃ R, compact (A.map enc) = .ok (R.map enc) ∧ (∀ p ∈ R, WF p) ∧ Antichain R ∧ SortedByKey (R.map enc) ∧
      SameRegion A R ∧ NoCompleteGroup R := by
  obtain ⟨R, h1, h2, h3, h4⟩ := CompactMax.compact_spec A hwf hanti
  exact ⟨R, h1, h2.wf, h2.anti, (sortedByKey_iff h2.wf).2 h2.sorted, h3, h4⟩

/-- T3.  The compacted result of a non-overlapping set of cells never contains a complete sibling group. -/
theorem compact_maximal (A : List Path) (hwf : ∀ p ∈ A, WF p) (hanti : Antichain A) (out : List Nat)
    (h : compact (A.map enc) = .ok out) :
    ¬ ∃ P, WF P ∧ res P ≤ 28 ∧ ∀ c ∈ children P, enc c ∈ out := by
  obtain ⟨R, h1, h2, _, _, _, h6⟩ := compact_spec A hwf hanti
  rw [h1] at h
  cases Outcome.ok.inj h
  rintro ⟨P, hP, hr, hall⟩
  apply h6
  refine ⟨P, hP, hr, fun c hc => ?_⟩
  obtain ⟨q, hq, e⟩ := List.mem_map.1 (hall c hc)
  rw [← enc_injective (h2 q hq) (wf_children hP (by omega) hc) e]; exact hq

/-- T4.  Compacting the result again changes nothing. -/
theorem compact_idempotent (A : List Path) (hwf : ∀ p ∈ A, WF p) (hanti : Antichain A) :
    (compact (A.map enc) >>= compact) = compact (A.map enc) := by
  obtain ⟨R, h1, h2, _, h4⟩ := CompactMax.compact_spec A hwf hanti
  rw [h1]
  simp only [Outcome.bind_ok]
  exact compact_fixed R h2 h4

/-- T5.  Two non-overlapping inputs that cover the same region compact to the same list: the compacted list is
a canonical description of the region. -/
theorem compact_canonical (A B : List Path) (hwfA : ∀ p ∈ A, WF p) (hwfB : ∀ p ∈ B, WF p)
    (hA : Antichain A) (hB : Antichain B) (h : SameRegion A B) :
    compact (A.map enc) = compact (B.map enc) := by
  obtain ⟨R, r1, r2, r3, r4⟩ := CompactMax.compact_spec A hwfA hA
  obtain ⟨S, s1, s2, s3, s4⟩ := CompactMax.compact_spec B hwfB hB
  have hRS : SameRegion R S := sameRegion_trans (sameRegion_symm r3) (sameRegion_trans h s3)
  rw [r1, s1, keySorted_ext r2.sorted s2.sorted (canonical_unique r2.wf s2.wf r2.anti s2.anti r4 s4 hRS)]

/-- T5'.  Conversely, equal results mean equal regions: `compact` decides "same region". -/
theorem compact_eq_iff_sameRegion (A B : List Path) (hwfA : ∀ p ∈ A, WF p) (hwfB : ∀ p ∈ B, WF p)
    (hA : Antichain A) (hB : Antichain B) :
    compact (A.map enc) = compact (B.map enc) ↔ SameRegion A B := by
  refine ⟨fun h => ?_, compact_canonical A B hwfA hwfB hA hB⟩
  obtain ⟨R, r1, r2, r3, _⟩ := CompactMax.compact_spec A hwfA hA
  obtain ⟨S, s1, s2, s3, _⟩ := CompactMax.compact_spec B hwfB hB
  rw [r1, s1] at h
  have := map_enc_injective R S r2.wf s2.wf (Outcome.ok.inj h)
  rw [this] at r3
  exact sameRegion_trans r3 (sameRegion_symm s3)

/-! ## the pinned release (v0.6.2) violated maximality: kernel-checked witness

Input: the five quintants of base cell 0 followed by base cells 1..11 (non-overlapping, together the whole
sphere).  The pinned algorithm sorts by raw id, which interleaves the quintants with the other base cells, finds
no group and returns all 16 cells; the repaired algorithm returns the world cell. -/

/-- quintant `k` of face 0 has id `(5·0+k)·2^58 + 2^56`, base cell `f` has id `f·2^58 + 2^57` -/
def witnessInput : List Nat :=
  (List.range 5).map (fun k => (5 * 0 + k) * 2 ^ 58 + 2 ^ 56) ++ (List.range 11).map (fun f => (f + 1) * 2 ^ 58 + 2 ^ 57)

example : witnessInput = (children (face 0) ++ (List.range 11).map (fun f => face (f + 1))).map enc := by decide

example : compactV062 witnessInput = .ok
    [72057594037927936, 360287970189639680, 432345564227567616, 648518346341351424, 720575940379279360,
     936748722493063168, 1008806316530991104, 1224979098644774912, 1297036692682702848, 1585267068834414592,
     1873497444986126336, 2161727821137838080, 2449958197289549824, 2738188573441261568, 3026418949592973312,
     3314649325744685056] := by decide +kernel

/-- … 16 cells, a rearrangement of the input: nothing was merged although the five quintants are a complete group -/
example : (match compactV062 witnessInput with
    | .ok out => out.length == 16 && out.isPerm witnessInput
    | _ => false) = true := by decide +kernel

example : compact witnessInput = .ok [0] := by decide +kernel

/-- an unordered, repeating, non-overlapping input: the four children of a resolution-2 cell and a base cell -/
def exampleInput : List Path :=
  [deep 3 2 [1, 3], deep 3 2 [1, 0], face 7, deep 3 2 [1, 2], deep 3 2 [1, 1], deep 3 2 [1, 1]]

example : (∀ p ∈ exampleInput, WF p) ∧ Antichain exampleInput := by decide
example : compact (exampleInput.map enc) = .ok ([deep 3 2 [1], face 7].map enc) := by decide +kernel
example : (compact (exampleInput.map enc) >>= compact) = compact (exampleInput.map enc) :=
  compact_idempotent _ (by decide) (by decide)

/-- T1/T2 hypotheses: a key-sorted antichain containing a complete group -/
def exampleSorted : List Path := [deep 3 2 [1, 0], deep 3 2 [1, 1], deep 3 2 [1, 2], deep 3 2 [1, 3], face 7]

example : (∀ p ∈ exampleSorted, WF p) ∧ Antichain exampleSorted ∧ SortedByKey (exampleSorted.map enc) ∧
    WF (deep 3 2 [1]) ∧ res (deep 3 2 [1]) ≤ 28 ∧ ∀ c ∈ children (deep 3 2 [1]), c ∈ exampleSorted := by
  refine ⟨by decide, by decide, (sortedByKey_iff (by decide)).2 ?_, by decide, by decide, by decide⟩
  unfold KeySorted
  decide +kernel

/-- T5 hypotheses: two different descriptions of the same region (base cell 0 as five quintants or as one cell) -/
example : SameRegion (children (face 0)) [face 0] := sameRegion_children (by decide)

example : compact ((children (face 0)).map enc) = compact ([face 0].map enc) :=
  compact_canonical _ _ (by decide) (by decide) (by decide) (by decide) (sameRegion_children (by decide))

end A5.C10
