import A5.Lemmas.BoundarySkel
import A5.Lemmas.PlacedPentagon
import A5.Lemmas.SplitEdges
import Mathlib.Tactic.Linarith
import Mathlib.Algebra.Order.Field.Basic
import Mathlib.Algebra.Order.Field.Rat
/-! # C11 — shape of the reported cell boundary

"For every cell and every edge subdivision n ≥ 1, the reported boundary has exactly vertices·n points
(5 sides, 3 for quintant cells) plus a repeated first point when a closed ring is requested."

Model: `A5.cellToBoundary`, `A5.getPentagon`, `A5.polySplitEdges`, `A5.normalizeLongitudes`
(`A5/Model/CellGeo.lean`, `A5/Model/Geo.lean`).  The coordinates are IEEE doubles computed through
libm, about which nothing numeric is provable; T1–T3 are about the *list skeleton* and hold
for arbitrary float sub-results: the theorems quantify over every id, every `n`, both ring modes.
What is NOT covered here: that the points lie on the cell's edges / that corners are the geographic
corners (this stays with the differential correspondence check and the search), and that the call
succeeds (`.ok`) at all — the theorems are conditional on success.
T4 is the longitude window over exact ordered fields (Mathlib's `linarith`); the last two sections state, in exact
rational arithmetic on the runtime constants, that the planar ring is counter-clockwise and convex with the centre inside,
and that subdividing its edges keeps the area, the corners and the centre inside. -/
namespace A5.C11
open A5

/-- T1 for every request: the ring has `corners · max(segments, 1)` points (`boundarySegs` resolves the
default), plus one when closed -/
theorem ring_length_segs (id : Nat) (closed : Bool) (segs : Option Nat) (ring : List (Float × Float))
    (c : Cell) (hd : deserialize id = .ok c) (hres : 0 ≤ c.res)
    (h : cellToBoundary id closed segs = .ok ring) :
    ring.length = corners c.res * max (boundarySegs c.res segs) 1 + (if closed then 1 else 0) := by
  obtain ⟨p, first, rest, hp, hlen, rfl⟩ := cellToBoundary_ok id closed segs ring c hd (by omega) h
  rewrite [polySplitEdges_length_max, getPentagon_length c p hp] at hlen
  rewrite [List.length_reverse, ← hlen]
  cases closed
  · rfl
  · simp only [if_true, List.length_append, List.length_cons, List.length_nil, Nat.zero_add]

/-- T1. Whenever `cell_to_boundary` succeeds on a cell of resolution ≥ 0 with `n ≥ 1` segments per edge,
the ring has exactly `corners·n` points (`corners` = 3 at resolution 1, else 5), plus one when closed. -/
theorem ring_length (id : Nat) (closed : Bool) (n : Nat) (hn : 1 ≤ n) (ring : List (Float × Float))
    (c : Cell) (hd : deserialize id = .ok c) (hres : 0 ≤ c.res)
    (h : cellToBoundary id closed (some n) = .ok ring) :
    ring.length = (if c.res = 1 then 3 else 5) * n + (if closed then 1 else 0) := by
  rewrite [ring_length_segs id closed (some n) ring c hd hres h]
  show corners c.res * max n 1 + _ = _
  rewrite [Nat.max_eq_left hn]
  rfl

/-- T1, default subdivision (`segments = None`): `n = max 1 (2^max(6-res,0)) = 2^(6-res)` (1 from
resolution 6 on). -/
theorem ring_length_default (id : Nat) (closed : Bool) (ring : List (Float × Float))
    (c : Cell) (hd : deserialize id = .ok c) (hres : 0 ≤ c.res)
    (h : cellToBoundary id closed none = .ok ring) :
    ring.length = (if c.res = 1 then 3 else 5) * 2 ^ (6 - c.res).toNat + (if closed then 1 else 0) := by
  rewrite [ring_length_segs id closed none ring c hd hres h, boundarySegs_none,
    Nat.max_eq_left (Nat.pow_pos (by omega))]
  rfl

/-- T1, degenerate request `n = 0`: treated like `n = 1` (`split_edges` returns the polygon itself). -/
theorem ring_length_zero (id : Nat) (closed : Bool) (ring : List (Float × Float))
    (c : Cell) (hd : deserialize id = .ok c) (hres : 0 ≤ c.res)
    (h : cellToBoundary id closed (some 0) = .ok ring) :
    ring.length = (if c.res = 1 then 3 else 5) + (if closed then 1 else 0) := by
  rewrite [ring_length_segs id closed (some 0) ring c hd hres h]
  show corners c.res * 1 + _ = _
  rewrite [Nat.mul_one]
  rfl

/-- T2a. A closed ring is non-empty and its first and last elements are the same point. -/
theorem ring_closed (id : Nat) (segs : Option Nat) (ring : List (Float × Float))
    (c : Cell) (hd : deserialize id = .ok c) (hres : 0 ≤ c.res)
    (h : cellToBoundary id true segs = .ok ring) :
    ∃ x, ring.head? = some x ∧ ring.getLast? = some x := by
  obtain ⟨p, first, rest, _, _, rfl⟩ := cellToBoundary_ok id true segs ring c hd (by omega) h
  refine ⟨first, ?_, ?_⟩
  · simp [List.reverse_append]
  · simp only [if_true, List.reverse_append, List.reverse_cons, List.reverse_nil, List.nil_append,
      List.singleton_append]
    show ((first :: rest.reverse) ++ [first]).getLast? = some first
    exact List.getLast?_concat

/-- T2b. The closed ring is exactly the open ring with one extra point in front, which equals the open
ring's last point (Rust pushes the first point and then reverses the whole list).  Holds for every id,
including failures: both calls fail identically. -/
theorem ring_closed_eq_open (id : Nat) (segs : Option Nat) :
    cellToBoundary id true segs = (cellToBoundary id false segs >>= fun r => .ok (closeRing r)) :=
  cellToBoundary_closed_eq id segs

/-- T2c. The world cell and every id without a resolution marker (resolution −1) have the empty
boundary, in both ring modes and for every subdivision. -/
theorem ring_world (id : Nat) (closed : Bool) (segs : Option Nat) (h : getResolution id = -1) :
    cellToBoundary id closed segs = .ok [] :=
  cellToBoundary_world id closed segs h

/-- T2d. Conversely a successful call on a cell of resolution ≥ 0 never returns the empty list. -/
theorem ring_nonempty (id : Nat) (closed : Bool) (segs : Option Nat) (ring : List (Float × Float))
    (c : Cell) (hd : deserialize id = .ok c) (hres : 0 ≤ c.res)
    (h : cellToBoundary id closed segs = .ok ring) : ring ≠ [] := by
  obtain ⟨p, first, rest, _, _, rfl⟩ := cellToBoundary_ok id closed segs ring c hd (by omega) h
  cases closed <;> simp

/-- Intended full statement of T3: the geographic corners in the output do not depend on `n`.  This
needs the float-dependent winding test and the projection, so it is NOT proved here. -/
def corners_independent_of_n_statement : Prop :=
  ∀ (id n m : Nat) (r1 r2 : List (Float × Float)) (c : Cell), 1 ≤ n → 1 ≤ m →
    deserialize id = .ok c → 0 ≤ c.res →
    cellToBoundary id false (some n) = .ok r1 → cellToBoundary id false (some m) = .ok r2 →
    ∀ i, i < (if c.res = 1 then 3 else 5) → r1[i * n]? = r2[i * m]?

/-- T3 (partial, list level; for `2 ≤ n`, with `n = 1` nothing is split).  Inside `split_edges`, corner `i` of the polygon is the point at index
`i·n` of the list built *before* `PentagonShape::from_vertices`; after `from_vertices` (which keeps the
list or reverses it, depending on a float winding test) it sits at index `i·n` or at the mirrored index
`k·n − 1 − i·n`.  Missing for the full statement: which of the two happens (float-dependent), and that
projection/normalisation of that point does not depend on `n` (it does not: they act pointwise, but the
longitude window centre is computed from *all* points, so the unwrapped longitude may differ by 360°). -/
theorem corners_independent_of_n_partial (p : Poly) (n i : Nat) (hn : 2 ≤ n) (hi : i < p.length) :
    (splitPts p n)[i * n]? = p[i]? ∧ polySplitEdges p n = polyNew (splitPts p n) ∧
    ((polySplitEdges p n)[i * n]? = p[i]? ∨ (polySplitEdges p n)[p.length * n - 1 - i * n]? = p[i]?) := by
  have hc := splitPts_corner p n i (by omega) hi
  have he : polySplitEdges p n = polyNew (splitPts p n) := by
    rewrite [polySplitEdges_eq, if_neg (by omega)]; rfl
  refine ⟨hc, he, ?_⟩
  rewrite [he]
  unfold polyNew
  split
  · exact Or.inl hc
  · refine Or.inr ?_
    have hlt : i * n < p.length * n := by
      have : (i + 1) * n ≤ p.length * n := Nat.mul_le_mul_right n hi
      rewrite [Nat.succ_mul] at this
      omega
    have hl := splitPts_length p n (by omega)
    rewrite [List.getElem?_reverse (by rewrite [hl]; omega), hl]
    have e : p.length * n - 1 - (p.length * n - 1 - i * n) = i * n := by omega
    rewrite [e]
    exact hc

/-- the default subdivision for resolutions 0, 3, 6, 29 -/
example : boundarySegs 0 none = 64 ∧ boundarySegs 3 none = 8 ∧ boundarySegs 6 none = 1 ∧ boundarySegs 29 none = 1 := by
  decide

/-- hypotheses of T1 are satisfiable: id `0x92d8000000000000` decodes to a resolution-4 cell -/
example : deserialize 0x92d8000000000000 = .ok ⟨7, 3, 0x2d, 4⟩ ∧ (0 : Int) ≤ 4 :=
  ⟨deserialize_enc ⟨7, 3, 0x2d, 4⟩ (by decide), by decide⟩

/-- the world cell: the boundary is empty (no Float evaluation needed) -/
example : cellToBoundary 0 true (some 7) = .ok [] := ring_world 0 true (some 7) getResolution_zero

/-- the list-level corner lemma on a concrete triangle split in 4: 12 points, corners at 0, 4, 8 -/
example (a b c : V2) : (splitPts [a, b, c] 4).length = 12 ∧ (splitPts [a, b, c] 4)[2 * 4]? = some c :=
  ⟨splitPts_length _ 4 (by omega), splitPts_corner [a, b, c] 4 2 (by omega) (by show 2 < 3; omega)⟩

/-! ## T4 — the longitude window, over exact ordered fields (uses Mathlib's `linarith`) -/

section field
variable {K : Type} [Field K] [LinearOrder K] [IsStrictOrderedRing K]

theorem unwrapUp_window_aux : ∀ (fuel : Nat) (lon center l : K),
    unwrapUpG (180 : K) 360 fuel lon center = .ok l → lon - center ≤ 180 →
    -180 ≤ l - center ∧ l - center ≤ 180 ∧ ∃ k : Int, l - lon = 360 * (k : K) := by
  intro fuel
  induction fuel with
  | zero => intro lon center l h; cases h
  | succ n ih =>
    intro lon center l h hle
    unfold unwrapUpG at h
    by_cases hc : lon - center < -180
    · rewrite [if_pos hc] at h
      obtain ⟨h1, h2, k, hk⟩ := ih _ _ _ h (by linarith only [hc])
      refine ⟨h1, h2, k + 1, ?_⟩
      push_cast
      linarith only [hk]
    · rewrite [if_neg hc] at h
      cases Outcome.ok.inj h
      exact ⟨not_lt.1 hc, hle, 0, by simp⟩

/-- T4a. Over any linearly ordered field (exact arithmetic): if the two unwrapping loops of
`normalize_longitudes` terminate with `l`, then `l` lies in the window `center ± 180` and differs from
the input longitude by an integer multiple of 360.  `unwrapLonG` is the generic twin of the Float model
`unwrapLon` (`unwrap_twin_is_model`: equal at `Float` with the literals 180.0/360.0); the theorem is about
the twin over exact fields, NOT about IEEE doubles. -/
theorem unwrap_window : ∀ (fuel : Nat) (lon center l : K),
    unwrapLonG (180 : K) 360 fuel lon center = .ok l →
    -180 ≤ l - center ∧ l - center ≤ 180 ∧ ∃ k : Int, l - lon = 360 * (k : K) := by
  intro fuel
  induction fuel with
  | zero => intro lon center l h; cases h
  | succ n ih =>
    intro lon center l h
    unfold unwrapLonG at h
    by_cases hc : lon - center > 180
    · rewrite [if_pos hc] at h
      obtain ⟨h1, h2, k, hk⟩ := ih _ _ _ h
      refine ⟨h1, h2, k - 1, ?_⟩
      push_cast
      linarith only [hk]
    · rewrite [if_neg hc] at h
      by_cases hd : lon - center < -180
      · rewrite [if_pos hd] at h
        obtain ⟨h1, h2, k, hk⟩ := unwrapUp_window_aux _ _ _ _ h (by linarith only [hd])
        refine ⟨h1, h2, k + 1, ?_⟩
        push_cast
        linarith only [hk]
      · rewrite [if_neg hd] at h
        cases Outcome.ok.inj h
        exact ⟨not_lt.1 hd, not_lt.1 hc, 0, by simp⟩

theorem unwrapUp_fuel_aux : ∀ (n : Nat) (lon center : K), -180 - 360 * (n : K) ≤ lon - center →
    ∃ l, unwrapUpG (180 : K) 360 (n + 1) lon center = .ok l := by
  intro n
  induction n with
  | zero =>
    intro lon center h
    unfold unwrapUpG
    rewrite [Nat.cast_zero, mul_zero, sub_zero] at h
    rewrite [if_neg (not_lt.2 h)]
    exact ⟨_, rfl⟩
  | succ n ih =>
    intro lon center h
    unfold unwrapUpG
    by_cases hc : lon - center < -180
    · rewrite [if_pos hc]
      exact ih _ _ (by push_cast at h; linarith only [h])
    · rewrite [if_neg hc]; exact ⟨_, rfl⟩

/-- T4b. Fuel: if `|lon − center| ≤ 180 + 360·n` then `n + 1` units of fuel suffice (the model uses 64). -/
theorem unwrap_fuel : ∀ (n : Nat) (lon center : K), lon - center ≤ 180 + 360 * (n : K) →
    -180 - 360 * (n : K) ≤ lon - center →
    ∃ l, unwrapLonG (180 : K) 360 (n + 1) lon center = .ok l := by
  intro n
  induction n with
  | zero =>
    intro lon center h1 h2
    unfold unwrapLonG
    rewrite [Nat.cast_zero, mul_zero] at h1 h2
    rewrite [add_zero] at h1
    rewrite [sub_zero] at h2
    rewrite [if_neg (not_lt.2 h1), if_neg (not_lt.2 h2)]
    exact ⟨_, rfl⟩
  | succ n ih =>
    intro lon center h1 h2
    unfold unwrapLonG
    push_cast at h1 h2
    by_cases hc : lon - center > 180
    · rewrite [if_pos hc]
      exact ih _ _ (by linarith only [h1]) (by linarith only [hc, Nat.cast_nonneg (α := K) n])
    · rewrite [if_neg hc]
      by_cases hd : lon - center < -180
      · rewrite [if_pos hd]
        exact unwrapUp_fuel_aux n _ _ (by linarith only [h2])
      · rewrite [if_neg hd]; exact ⟨_, rfl⟩
end field

/-- T4c. The Float model's loop is the generic twin instantiated at `Float`. -/
theorem unwrap_twin_is_model (fuel : Nat) (lon center : Float) :
    unwrapLon fuel lon center = unwrapLonG (180.0 : Float) 360.0 fuel lon center :=
  unwrapLon_eq_twin fuel lon center

/-- non-vacuity over ℚ: longitude 550 around centre 0 unwraps (with 3 units of fuel) into the window -/
example : ∃ l : ℚ, unwrapLonG (180 : ℚ) 360 3 550 0 = .ok l ∧ -180 ≤ l - 0 ∧ l - 0 ≤ 180 := by
  obtain ⟨l, hl⟩ := unwrap_fuel (K := ℚ) 2 550 0 (by norm_num) (by norm_num)
  exact ⟨l, hl, (unwrap_window _ _ _ _ hl).1, (unwrap_window _ _ _ _ hl).2.1⟩

/-- world aliases (ids without marker bit, e.g. 1) have the empty boundary too -/
example : cellToBoundary 1 false none = .ok [] := ring_world 1 false none (by decide)

/-! ## the planar ring: counter-clockwise, convex, centre inside (exact arithmetic on the runtime constants) -/

open A5.PG A5.HilbertLocate in
/-- `planar_ring_ccw_convex_centre_inside`.  The planar form of "counter-clockwise orientation, and the cell's reported
centre inside it", for the pentagon of EVERY anchor (any `k`, any integer offset, any `±1` flip pair), after scaling by
any `s > 0` (the `2^-res` of `get_pentagon_vertices`) and any matrix of positive determinant (the quintant rotation
`(c, -s, s, c)`, whatever the rounded `cos`/`sin` are), in exact rational arithmetic on the constants the library
computes at start-up: the trapezoid sum is positive (so `PentagonShape::new` keeps the vertex order), the pentagon is
strictly convex, and `get_center` lies strictly on the inner side of all five edges - with explicit margins
(0.09 resp. 0.096 times `det·s²`).  `getPentagonVertices_tie` ties `placedQ` to the Float model (same expression). -/
theorem planar_ring_ccw_convex_centre_inside (a : Anchor) (hF : IsFlip a.flips) (s : Rat) (hs : 0 < s)
    (m : Rat × Rat × Rat × Rat) (hd : 0 < detG m) :
    0 < areaG 0 (placedQ a s m) ∧ polyNewG 0 (placedQ a s m) = placedQ a s m ∧
    ConvexBy 0 (detG m * (s * s) * (9 / 100)) (placedQ a s m) ∧
    InsideBy 0 (detG m * (s * s) * (96 / 1000)) (placedQ a s m) (centreG 0 5 (placedQ a s m)) := by
  obtain ⟨_, h2, h3, _, h5, h6⟩ := placedQ_facts a hF s hs m hd
  exact ⟨h2, h3, h6, h5⟩

open A5.PG in
/-- the same for the quintant triangle (resolution-1 cells), under any matrix of positive determinant -/
theorem planar_triangle_ccw_centre_inside (m : Rat × Rat × Rat × Rat) (hd : 0 < detG m) :
    0 < areaG 0 (transformG m triQ) ∧ polyNewG 0 (transformG m triQ) = transformG m triQ ∧
    InsideBy 0 (detG m * (18 / 100)) (transformG m triQ) (centreG 0 3 (transformG m triQ)) := by
  obtain ⟨h1, h2, h3, _⟩ := triQ_transform m hd
  exact ⟨h1, h2, h3⟩

/-- non-vacuity: a concrete anchor, scale 1/8, a 3-4-5 rotation -/
example : 0 < PG.areaG 0 (PG.placedQ ⟨1, (3, 0), (1, -1)⟩ (1 / 8) (3 / 5, -(4 / 5), 4 / 5, 3 / 5)) :=
  (planar_ring_ccw_convex_centre_inside ⟨1, (3, 0), (1, -1)⟩ (Or.inr (Or.inl rfl)) (1 / 8) (by decide +kernel)
    (3 / 5, -(4 / 5), 4 / 5, 3 / 5) (by decide +kernel)).1

/-! ## the subdivided planar ring (exact arithmetic on the runtime constants, every n) -/

open A5.PG A5.HilbertLocate in
/-- `planar_split_ring`: for the pentagon of every anchor at every positive scale and every matrix of positive determinant,
and EVERY subdivision `n ≥ 1`: the split ring has `5n` points, the pentagon's area (positive: `PentagonShape::new` keeps the
order), the pentagon's corners at the indices `i·n` - "the corner points are the same points for every n" in the plane -,
and the centre strictly inside with margin `∝ 1/n`.  (`PG.placedQ_split` also has every point of the split ring on the
inner side, `≥ 0`, of every edge of the pentagon.) -/
theorem planar_split_ring (a : Anchor) (hF : IsFlip a.flips) (s : Rat) (hs : 0 < s)
    (m : Rat × Rat × Rat × Rat) (hd : 0 < detG m) (n : Nat) (hn : 1 ≤ n) :
    (splitQ (placedQ a s m) n).length = 5 * n ∧
    areaG 0 (splitQ (placedQ a s m) n) = areaG 0 (placedQ a s m) ∧
    0 < areaG 0 (splitQ (placedQ a s m) n) ∧
    polyNewG 0 (splitQ (placedQ a s m) n) = splitQ (placedQ a s m) n ∧
    (∀ i, i < 5 → (splitQ (placedQ a s m) n)[i * n]? = (placedQ a s m)[i]?) ∧
    InsideBy 0 (detG m * (s * s) * (96 / 1000) / (n : Rat)) (splitQ (placedQ a s m) n) (centreG 0 5 (placedQ a s m)) := by
  obtain ⟨h1, h2, _, h4, h5, h6, h7, _⟩ := placedQ_split a hF s hs m hd n hn
  exact ⟨h1, h2, h4, h5, fun i hi => (h6 i hi).1, h7⟩

end A5.C11
