import A5.Lemmas.ChildAnchor
import A5.Lemmas.ChildPentagon3
import A5.Lemmas.DescendantReach
/-! # C12 — children stay within a bounded reach of their parent (combinatorial / lattice core)

"Children geometrically overlap their parent and stay within its reach … Hence a cell's descendants at any depth
stay within a bounded distance of it."

Model: `A5.sToAnchor`, `A5.sToAnchorInternal`, `A5.shiftDigits`, `A5.shiftDown`, `A5.accumOffset`
(`A5/Model/Hilbert.lean`), generated tables `PATTERN`, `PATTERN_FLIPPED`, `QUATERNARY_TO_FLIPS`, `KJ_PQ_TABLE`,
`KJ_DIGIT_COEFF`, `FLIP_SHIFT` and the orientation flag sets.  In a quintant the children of curve position `s` at
depth `n` are the positions `4·s + d` (`d < 4`) at depth `n + 1` (the id layout appends two bits per level, C05), the
descendants `k` levels down are `s·4^k + t`, `t < 4^k`.

T1-T3 (lemmas in `A5/Lemmas/ChildAnchor.lean`) hold for EVERY depth, EVERY position, all four children, both patterns,
both `invertJ`, all six orientations:
* T1 `child_digits_extend_parent`: the shifted digit string of the child is the parent's, except that the parent's
  least significant digit `p` and the new digit `d` are rewritten to `(p', d') = pairStep lo P p d` (the closed form of
  ONE `shift_digits` step); depth 0 → 1: the single digit `d`, unshifted.
* T2 `child_offset_close`: `O_child − 2·O_parent` lies in an explicit finite set (15 vectors for orientations 0, 1, 4, 5;
  13 vectors for the `flipIJ` orientations 2, 3), whence `|Δi|, |Δj|, |Δi + Δj| ≤ B` with `B = 2` resp. `B = 3`; the
  sets are exact (every vector occurs at depth ≤ 3) and the bounds are attained.
  `descendant_offset_bounded`: `|O_desc − 2^k·O_anc| ≤ B·(2^k − 1)` coordinatewise, i.e. the anchor of a descendant
  stays within `B·(1 − 2⁻ᵏ)` ancestor-lattice units of its ancestor's anchor — bounded reach at every depth.
* T3 `descendant_triangle_reach`: every point of the lattice triangle of a descendant, scaled back by `2⁻ᵏ`, lies in
  the OPEN lattice hexagon of radius `B` about the ancestor's anchor vertex (the ancestor's own triangle lies in
  the radius-1 hexagon about the same vertex).  Lattice containment child ⊂ parent is FALSE in general
  (`child_triangle_not_contained`: child 3 of position 0 at depth 1 is edge-adjacent to, and disjoint from, its parent's
  triangle) — the statement's "overlap" is about the pentagons, which are not the lattice triangles.

The PLANAR pentagon statements (T4-T6, `A5/Lemmas/ChildPentagon*.lean`), in exact rational arithmetic on the constants the
library computes at start-up (`A5.Gen.Runtime`), for EVERY parent depth `n + 1` with `n + 2 ≤ 30`, every orientation, position and child:
* T4 `child_centre_within_reach`: squared distance between the child's centre (in the parent's frame) and the parent's
  centre `< 0.4213·area(parent)`, i.e. distance `< 0.6491·√area < 0.8·√area`; the constant is sharp to four digits.
* T5 `child_overlaps_parent`: parent and child pentagon have a common strictly interior point (and the child's own
  centre need not be inside the parent: the pentagons do not nest).
* T6 `children_cover_parent`: a certificate of pairwise line-separated convex pieces, each inside the parent and inside
  one child, whose areas sum to more than 0.579 of the parent's (> 1/2).
The depth 0 → 1 step has the quintant TRIANGLE as parent (`get_quintant_vertices`), proved separately (`root_*`); for the
pentagon of the depth-0 anchor the reach bound is false (`root_pentagon_reach_fails`, ratio 0.917) - that pentagon is never
drawn.  The anchors' `k` digits, needed for the mirror decision, extend the step table (`stepQuads`, 64 entries).

* T7 `descendants_within_reach` (`A5/Lemmas/DescendantReach.lean`): by induction over the levels, with the exact geometric
  series `r·(2 - 2^(1-k))`: the centre of EVERY descendant, k levels down, scaled into the ancestor's frame, lies within
  `2r = 1.2982·√area` of the ancestor's centre, and the whole pentagon of every descendant (convex hull of its vertices)
  lies in that same disc - "a cell's descendants at any depth stay within a bounded distance of it", planar form.

NOT proved: the same statements on the sphere (the equal-area projection distorts distances by a bounded factor) and for
the `f64` evaluation; they stay with the differential search, which measures a maximum of 0.68-0.70·√area on the sphere
against the planar 0.649. -/
set_option linter.unusedSectionVars false
namespace A5.C12
open A5 A5.HilbertLocate

/-- T1. parent (depth `n+1`) `= p :: tail`, child `4s+d` (depth `n+2`) `= d' :: p' :: tail` with
`(p', d') = pairStep (shiftLo invertJ (flips of tail)) pattern p d`, all digits `< 4`. -/
theorem child_digits_extend_parent (s n d : Nat) (hd : d < 4) (inv fl : Bool) :
    ∃ p tail, p < 4 ∧ tail.length = n ∧ (∀ x ∈ tail, x < 4) ∧
      shiftedDigits s (n + 1) inv fl = p :: tail ∧
      shiftedDigits (4 * s + d) (n + 2) inv fl =
        (pairStep (shiftLo inv (flipsProd tail)) (hilbertPattern fl) p d).2 ::
          (pairStep (shiftLo inv (flipsProd tail)) (hilbertPattern fl) p d).1 :: tail ∧
      (pairStep (shiftLo inv (flipsProd tail)) (hilbertPattern fl) p d).1 < 4 ∧
      (pairStep (shiftLo inv (flipsProd tail)) (hilbertPattern fl) p d).2 < 4 :=
  child_digits_cases s n d hd inv fl

/-- T1, in the model's own words: one `shiftDigits` step at index 1 on `d :: parent digits`. -/
theorem child_digits_one_step (s n d : Nat) (hd : d < 4) (inv fl : Bool) :
    shiftedDigits (4 * s + d) (n + 2) inv fl =
      shiftDigits (d :: shiftedDigits s (n + 1) inv fl) 1
        (flipsProd (shiftedDigits s (n + 1) inv fl).tail) inv (hilbertPattern fl) :=
  shiftedDigits_child s n d hd inv fl

/-- T1, depth 0 → 1: the quintant cell has no digits; its child `d` has the digit string `[d]`. -/
theorem child_digits_depth0 (s d : Nat) (hd : d < 4) (inv fl : Bool) :
    shiftedDigits s 0 inv fl = [] ∧ shiftedDigits (4 * s + d) 1 inv fl = [d] :=
  shiftedDigits_child_zero s d hd inv fl

/-- T1, index form: every digit of the child above its two lowest is the parent's digit one index below. -/
theorem child_digits_above (s n d : Nat) (hd : d < 4) (inv fl : Bool) (j : Nat) (hj : 2 ≤ j) :
    (shiftedDigits (4 * s + d) (n + 2) inv fl).getD j 0 = (shiftedDigits s (n + 1) inv fl).getD (j - 1) 0 := by
  obtain ⟨p, tail, _, _, _, e1, e2, _⟩ := child_digits_cases s n d hd inv fl
  rewrite [e1, e2]
  obtain ⟨i, rfl⟩ : ∃ i, j = i + 2 := ⟨j - 2, by omega⟩
  rfl

/-- the one step really rewrites digits: parent 1 at depth 1 has the digit string `[1]`; its child `7 = 4·1 + 3` has
`[2, 0]` (not `[3, 1]`): both the new digit and the parent's digit are rewritten -/
example : shiftedDigits 1 1 false false = [1] ∧ shiftedDigits 7 2 false false = [2, 0] := by decide
/-- … while the digits above stay: parent 7 (depth 2) `[2, 0]`, child 31 (depth 3) -/
example : (shiftedDigits 31 3 false false).getD 2 0 = (shiftedDigits 7 2 false false).getD 1 0 :=
  child_digits_above 7 0 3 (by decide) false false 2 (by decide)

/-- T2 (internal anchors `O_p`, `O_c` of `sToAnchorInternal`): for every depth `n`, position `s < 4^n`, child `d < 4`,
`invertJ` and pattern, `O_c − 2·O_p` is in the finite set, hence `|Δi|, |Δj|, |Δi + Δj| ≤ B`. -/
theorem child_offset_close_internal (s n d : Nat) (hs : s < 4 ^ n) (hd : d < 4) (inv fl : Bool) :
    let Op := (sToAnchorInternal s n inv fl).offset
    let Oc := (sToAnchorInternal (4 * s + d) (n + 1) inv fl).offset
    (Oc.1 - 2 * Op.1, Oc.2 - 2 * Op.2) ∈ internalDeltaSet inv fl ∧
      HexLe (reachB fl) (Oc.1 - 2 * Op.1, Oc.2 - 2 * Op.2) :=
  ⟨internal_step_delta s n d hs hd inv fl, internal_step_hexLe s n d hs hd inv fl⟩

/-- T2 (public `s_to_anchor`, all six orientations).  For every depth `n < 30`, orientation
`o < 6`, position `s < 4^n` and child `d < 4`: both anchors exist, and `O_child − 2·O_parent` lies in the explicit
finite set of the orientation, hence in the lattice hexagon of radius `B` (`B = 2`, or `3` for orientations 2, 3). -/
theorem child_offset_close (n o s d : Nat) (hn : n + 1 ≤ 30) (hs : s < 4 ^ n) (hd : d < 4) :
    ∃ ap ac, sToAnchor s n o = .ok ap ∧ sToAnchor (4 * s + d) (n + 1) o = .ok ac ∧
      (ac.offset.1 - 2 * ap.offset.1, ac.offset.2 - 2 * ap.offset.2) ∈ childDeltaSet (oriInvertJ o) (oriFlipIJ o) ∧
      HexLe (reachB (oriFlipIJ o)) (ac.offset.1 - 2 * ap.offset.1, ac.offset.2 - 2 * ap.offset.2) := by
  have hc := child_lt s n d hs hd
  refine ⟨_, _, sToAnchor_eq s n o (by omega) hs, sToAnchor_eq (4 * s + d) (n + 1) o hn hc, ?_⟩
  rewrite [adjustS_child _ n s d hs hd]
  have hd' : (if oriReverse o = true then 3 - d else d) < 4 := by split <;> omega
  exact ⟨final_step_delta _ n _ (adjustS_lt _ n s hs) hd' _ _, final_step_hexLe _ n _ (adjustS_lt _ n s hs) hd' _ _⟩

/-- for each vector of `childDeltaSet`, in the order of the list, the first (depth, position, child) at which it occurs -/
def deltaWitnesses (inv fl : Bool) : List (Nat × Nat × Nat) :=
  match inv, fl with
  | false, false => [(0, 0, 0), (0, 0, 1), (0, 0, 2), (0, 0, 3), (1, 0, 3), (1, 1, 0), (1, 1, 2), (1, 1, 3), (1, 3, 1),
      (1, 3, 2), (1, 3, 3), (2, 6, 1), (2, 6, 3), (2, 13, 3), (2, 14, 3)]
  | true, false => [(0, 0, 0), (0, 0, 1), (0, 0, 2), (0, 0, 3), (1, 1, 1), (1, 1, 2), (1, 1, 3), (1, 2, 3), (1, 3, 1),
      (1, 3, 2), (1, 3, 3), (2, 6, 1), (2, 6, 3), (2, 12, 3), (2, 13, 3)]
  | false, true => [(0, 0, 0), (0, 0, 1), (0, 0, 3), (1, 0, 3), (1, 1, 0), (1, 1, 1), (1, 1, 3), (1, 3, 0), (1, 3, 2),
      (2, 3, 1), (2, 3, 3), (2, 13, 3), (2, 14, 0)]
  | true, true => []

theorem deltaWitnesses_spec : ∀ inv fl : Bool, ¬(fl = true ∧ inv = true) →
    (deltaWitnesses inv fl).map (fun w => finalStep w.2.1 w.1 w.2.2 inv fl) = childDeltaSet inv fl ∧
      ∀ w ∈ deltaWitnesses inv fl, w.1 < 4 ∧ w.2.1 < 4 ^ w.1 ∧ w.2.2 < 4 := by
  decide +kernel

/-- the sets are exact: every listed vector occurs for some position at depth `≤ 3` (orientation classes that occur) -/
theorem childDeltaSet_exact : ∀ inv fl : Bool, ¬(fl = true ∧ inv = true) → ∀ v ∈ childDeltaSet inv fl,
    ∃ n ∈ List.range 4, ∃ s ∈ List.range (4 ^ n), ∃ d ∈ List.range 4, finalStep s n d inv fl = v := by
  intro inv fl hex v hv
  obtain ⟨e, hb⟩ := deltaWitnesses_spec inv fl hex
  rewrite [← e] at hv
  obtain ⟨w, hw, rfl⟩ := List.mem_map.1 hv
  obtain ⟨h1, h2, h3⟩ := hb w hw
  exact ⟨w.1, List.mem_range.2 h1, w.2.1, List.mem_range.2 h2, w.2.2, List.mem_range.2 h3, rfl⟩

/-- non-vacuity and tightness of the bound `B`: orientation 0 attains hex norm 2, orientation 2 attains 3 -/
example : ∃ ap ac, sToAnchor 0 1 0 = .ok ap ∧ sToAnchor 3 2 0 = .ok ac ∧
    (ac.offset.1 - 2 * ap.offset.1, ac.offset.2 - 2 * ap.offset.2) = (2, 0) := ⟨_, _, rfl, rfl, by decide⟩
example : ∃ ap ac, sToAnchor 0 1 2 = .ok ap ∧ sToAnchor 3 2 2 = .ok ac ∧
    (ac.offset.1 - 2 * ap.offset.1, ac.offset.2 - 2 * ap.offset.2) = (2, 1) := ⟨_, _, rfl, rfl, by decide⟩
example : ¬ HexLe 2 ((2, 1) : Int × Int) := by decide
/-- instance of the theorem at a reversing, inverting orientation (4), depth 2 → 3 -/
example : ∃ ap ac, sToAnchor 11 2 4 = .ok ap ∧ sToAnchor 46 3 4 = .ok ac ∧
    HexLe 2 (ac.offset.1 - 2 * ap.offset.1, ac.offset.2 - 2 * ap.offset.2) := by
  obtain ⟨ap, ac, h1, h2, _, h4⟩ := child_offset_close 2 4 11 2 (by decide) (by decide) (by decide)
  exact ⟨ap, ac, h1, h2, h4⟩

/-- Corollary of T2 (public `s_to_anchor`, all six orientations).  For a descendant
`s·4^k + t` (`t < 4^k`) `k` levels below `s`: `|O_desc − 2^k·O_anc| ≤ B·(2^k − 1)` in each of the three lattice
coordinates `i`, `j`, `i + j`. -/
theorem descendant_offset_bounded (n k o s t : Nat) (hn : n + k ≤ 30) (hs : s < 4 ^ n) (ht : t < 4 ^ k) :
    ∃ aa ad, sToAnchor s n o = .ok aa ∧ sToAnchor (s * 4 ^ k + t) (n + k) o = .ok ad ∧
      HexLe (reachB (oriFlipIJ o) * (2 ^ k - 1))
        (ad.offset.1 - 2 ^ k * aa.offset.1, ad.offset.2 - 2 ^ k * aa.offset.2) := by
  have hd := desc_lt s n k t hs ht
  refine ⟨_, _, sToAnchor_eq s n o (by omega) hs, sToAnchor_eq _ (n + k) o hn hd, ?_⟩
  rewrite [adjustS_desc _ n k s t hs ht]
  exact final_descendant_bounded (adjustS (oriReverse o) n s) n (adjustS_lt _ n s hs) (oriInvertJ o) (oriFlipIJ o) k
    (adjustS (oriReverse o) k t) (adjustS_lt _ k t ht)

/-- instance: position 2 at depth 1 and its descendant `2·4^3 + 57` at depth 4, orientation 3 (reverse + flipIJ):
the bound is `3·(2^3 − 1) = 21` -/
example : ∃ aa ad, sToAnchor 2 1 3 = .ok aa ∧ sToAnchor 185 4 3 = .ok ad ∧
    HexLe 21 (ad.offset.1 - 8 * aa.offset.1, ad.offset.2 - 8 * aa.offset.2) := by
  obtain ⟨aa, ad, h1, h2, h3⟩ := descendant_offset_bounded 1 3 3 2 57 (by decide) (by decide) (by decide)
  exact ⟨aa, ad, h1, h2, h3⟩

section field
variable {K : Type} [Field K] [LinearOrder K] [IsStrictOrderedRing K]

-- (`ho` is not needed: the flips of every anchor are a `±1` pair whatever the orientation code)
set_option linter.unusedVariables false in
/-- T3.  Let `aa` be the anchor of `s` (depth `n`) and `ad` the anchor of a descendant
`k` levels down.  Every point `(x, y)` of the descendant's lattice triangle (coordinates of depth `n + k`) satisfies
`|x − 2^k·O.i| < B·2^k`, `|y − 2^k·O.j| < B·2^k`, `|(x + y) − 2^k·(O.i + O.j)| < B·2^k` with `O = aa.offset`: scaled back
by `2⁻ᵏ` it lies in the open lattice hexagon of radius `B` about the ancestor's anchor vertex, for every `k`. -/
theorem descendant_triangle_reach (n k o s t : Nat) (hn : n + k ≤ 30) (ho : o < 6) (hs : s < 4 ^ n) (ht : t < 4 ^ k)
    (aa ad : Anchor) (ha : sToAnchor s n o = .ok aa) (hd : sToAnchor (s * 4 ^ k + t) (n + k) o = .ok ad)
    (x y : K) (h : anchorTri ad x y) :
    let B : K := ((reachB (oriFlipIJ o) : Int) : K);
    -(B * 2 ^ k) < x - 2 ^ k * (aa.offset.1 : K) ∧ x - 2 ^ k * (aa.offset.1 : K) < B * 2 ^ k ∧
    -(B * 2 ^ k) < y - 2 ^ k * (aa.offset.2 : K) ∧ y - 2 ^ k * (aa.offset.2 : K) < B * 2 ^ k ∧
    -(B * 2 ^ k) < x + y - 2 ^ k * ((aa.offset.1 : K) + (aa.offset.2 : K)) ∧
      x + y - 2 ^ k * ((aa.offset.1 : K) + (aa.offset.2 : K)) < B * 2 ^ k := by
  dsimp only
  obtain ⟨aa', ad', ha', hd', hb⟩ := descendant_offset_bounded n k o s t hn hs ht
  cases Outcome.ok.inj (ha.symm.trans ha')
  cases Outcome.ok.inj (hd.symm.trans hd')
  -- the point is within 1 of the descendant's anchor, which is within `B·(2^k − 1)` of `2^k` times the ancestor's
  obtain ⟨t1, t2, t3, t4, t5, t6⟩ := inT_hex _ (sToAnchor_isFlip _ _ o hn (desc_lt s n k t hs ht) ad hd) _ _ h
  obtain ⟨c1, c2, c3, c4, c5, c6⟩ := HexLe.cast (K := K) hb
  push_cast at c1 c2 c3 c4 c5 c6
  have hB1 : (1 : K) ≤ ((reachB (oriFlipIJ o) : Int) : K) := by
    have : (1 : Int) ≤ reachB (oriFlipIJ o) := by unfold reachB; split <;> decide
    exact_mod_cast this
  exact ⟨by linarith only [t1, c1, hB1], by linarith only [t2, c2, hB1], by linarith only [t3, c3, hB1],
    by linarith only [t4, c4, hB1], by linarith only [t5, c5, hB1], by linarith only [t6, c6, hB1]⟩

set_option linter.unusedVariables false in
/-- the ancestor's own triangle lies in the open hexagon of radius 1 about the same vertex -/
theorem own_triangle_reach (n o s : Nat) (hn : n ≤ 30) (ho : o < 6) (hs : s < 4 ^ n) (a : Anchor)
    (ha : sToAnchor s n o = .ok a) (x y : K) (h : anchorTri a x y) :
    -1 < x - (a.offset.1 : K) ∧ x - (a.offset.1 : K) < 1 ∧ -1 < y - (a.offset.2 : K) ∧ y - (a.offset.2 : K) < 1 ∧
      -1 < x - (a.offset.1 : K) + (y - (a.offset.2 : K)) ∧ x - (a.offset.1 : K) + (y - (a.offset.2 : K)) < 1 :=
  inT_hex _ (sToAnchor_isFlip s n o hn hs a ha) _ _ h

/-- Lattice containment of the child in the parent is FALSE: in orientation 0 the triangle of child 3 (position 3,
depth 2, anchor `(2,0)`, flips `(1,-1)`) scaled by 1/2 is disjoint from the triangle of its parent (position 0,
depth 1, anchor `(0,0)`, flips `(1,1)`); the two share the edge `x + y = 2`. -/
theorem child_triangle_not_contained :
    sToAnchor 0 1 0 = .ok ⟨0, (0, 0), (1, 1)⟩ ∧ sToAnchor 3 2 0 = .ok ⟨0, (2, 0), (1, -1)⟩ ∧
    ∀ x y : K, anchorTri ⟨0, (2, 0), (1, -1)⟩ x y → ¬ anchorTri ⟨0, (0, 0), (1, 1)⟩ (x * (1 / 2)) (y * (1 / 2)) := by
  refine ⟨by decide, by decide, fun x y h hc => ?_⟩
  unfold anchorTri at h hc
  rewrite [inT_pm] at h
  rewrite [inT_pp] at hc
  obtain ⟨_, _, _, _, h5⟩ := h
  obtain ⟨_, _, c3⟩ := hc
  push_cast at h5 c3
  linarith

end field

/-- T3 instantiated over `ℚ`: the centroid of the triangle of position 185 (depth 4, orientation 3) is within the
radius-3 hexagon (scaled by `2^3`) about the anchor vertex of its ancestor 2 at depth 1 -/
example : ∃ aa ad, sToAnchor 2 1 3 = .ok aa ∧ sToAnchor 185 4 3 = .ok ad ∧
    ((ad.offset.1 : ℚ) + (interiorPt ad.flips).1) - 2 ^ 3 * (aa.offset.1 : ℚ) < 3 * 2 ^ 3 := by
  obtain ⟨aa, ad, h1, h2, _⟩ := descendant_offset_bounded 1 3 3 2 57 (by decide) (by decide) (by decide)
  obtain ⟨ad', h2', hF, _⟩ := A5.locate_anchor ℚ 4 3 185 (by decide) (by decide) (by decide)
  cases Outcome.ok.inj (h2.symm.trans h2')
  have := descendant_triangle_reach (K := ℚ) 1 3 3 2 57 (by decide) (by decide) (by decide) (by decide) aa ad h1 h2
    _ _ (anchorTri_nonempty ad hF)
  have e : ((reachB (oriFlipIJ 3) : Int) : ℚ) = 3 := by decide +kernel
  rewrite [e] at this
  exact ⟨aa, ad, h1, h2, this.2.1⟩

open A5.PG A5.CP in
/-- T4. For every parent depth `n+1` (`n + 2 ≤ 30`), orientation, position and child, the child's
centre lies within `0.6491·√area` (hence `0.8·√area`) of the parent's centre, in the plane. -/
theorem child_centre_within_reach (n o s d : Nat) (hn : n + 2 ≤ 30) (ho : o < 6) (hs : s < 4 ^ (n + 1)) (hd : d < 4) :
    ∃ ap ac, sToAnchor s (n + 1) o = .ok ap ∧ sToAnchor (4 * s + d) (n + 2) o = .ok ac ∧
      centreDistSq ap ac < 4213 / 10000 * (areaG 0 (pentagonQ ap) / 2) ∧
      centreDistSq ap ac < 64 / 100 * (areaG 0 (pentagonQ ap) / 2) :=
  child_centre_reach n o s d hn ho hs hd

open A5.PG A5.CP in
/-- T4, sharpness: every orientation class has a parent/child pair with squared distance above `0.4212·area`. -/
theorem child_reach_sharp : ∀ inv fl : Bool, ¬(fl = true ∧ inv = true) → ∃ q ∈ finalQuads inv fl,
    4212 / 10000 * pentArea < reachSq q :=
  reach_table_sharp

open A5.PG A5.CP in
/-- T5. Parent and child pentagons share a strictly interior point. -/
theorem child_overlaps_parent (n o s d : Nat) (hn : n + 2 ≤ 30) (ho : o < 6) (hs : s < 4 ^ (n + 1)) (hd : d < 4) :
    ∃ ap ac, sToAnchor s (n + 1) o = .ok ap ∧ sToAnchor (4 * s + d) (n + 2) o = .ok ac ∧
      ∃ w : ℚ × ℚ, StrictIn (pentagonQ ap) w ∧ StrictIn (scaleG' (pentagonQ ac) (1 / 2)) w :=
  A5.CP.child_overlaps_parent n o s d hn ho hs hd

open A5.PG A5.CP in
/-- T6. The four children together cover more than half (indeed more than 0.579) of the
parent's area - as a certificate of pairwise separated convex pieces inside parent ∩ child. -/
theorem children_cover_parent (n o s : Nat) (hn : n + 2 ≤ 30) (ho : o < 6) (hs : s < 4 ^ (n + 1)) :
    ∃ ap, sToAnchor s (n + 1) o = .ok ap ∧ ∃ kids : List Anchor, kids.length = 4 ∧
      (∀ d, d < 4 → sToAnchor (4 * s + d) (n + 2) o = .ok (kids.getD d default)) ∧
      ∃ pieces : List (List (ℚ × ℚ)),
        CoverCert (pentagonQ ap) (kids.map (fun ac => scaleG' (pentagonQ ac) (1 / 2))) pieces ∧
        579 / 1000 * areaG 0 (pentagonQ ap) < (pieces.map fanArea2).sum ∧
        1 / 2 * areaG 0 (pentagonQ ap) < (pieces.map fanArea2).sum :=
  A5.CP.children_cover_parent n o s hn ho hs

open A5.PG A5.CP in
/-- T4-T6 for the step from the quintant triangle (resolution 1) to its four children (resolution 2). -/
theorem root_children (o : Nat) (ho : o < 6) :
    (∀ d, d < 4 → ∃ ac, sToAnchor (4 * 0 + d) 1 o = .ok ac ∧ rootDistSq ac < 3773 / 10000 * (areaG 0 quintantTriQ / 2)) ∧
    ∃ kids : List Anchor, kids.length = 4 ∧ (∀ d, d < 4 → sToAnchor (4 * 0 + d) 1 o = .ok (kids.getD d default)) ∧
      (∀ ac ∈ kids, ∃ w : ℚ × ℚ, StrictIn quintantTriQ w ∧ StrictIn (scaleG' (pentagonQ ac) (1 / 2)) w) ∧
      ∃ pieces : List (List (ℚ × ℚ)),
        CoverCert quintantTriQ (kids.map (fun ac => scaleG' (pentagonQ ac) (1 / 2))) pieces ∧
        787 / 1000 * areaG 0 quintantTriQ < (pieces.map fanArea2).sum :=
  ⟨fun d hd => root_centre_reach o d ho hd, root_children_cover o ho⟩

open A5.PG A5.CP A5.DR in
/-- T7. For every ancestor at depth `n+1 ≥ 1`, every `k` with `n+1+k ≤ 30`, every descendant
`s·4^k + t`: (i) the squared distance between the descendant's centre (scaled by `2^-k` into the ancestor's frame) and the
ancestor's centre is at most `0.4213·area·(2 - 2/2^k)²` - the exact geometric series - hence `< (1.2982)²·area`; (ii) every
point of the convex hull of the descendant's pentagon, scaled the same way, lies within `1.2982·√area` of the ancestor's
centre. -/
theorem descendants_within_reach (n k o s t : Nat) (hn : n + 1 + k ≤ 30) (ho : o < 6) (hs : s < 4 ^ (n + 1))
    (ht : t < 4 ^ k) :
    (∃ ap ad, sToAnchor s (n + 1) o = .ok ap ∧ sToAnchor (s * 4 ^ k + t) (n + 1 + k) o = .ok ad ∧
      descDistSq k ap ad ≤ 4213 / 10000 * (areaG 0 (pentagonQ ap) / 2) * ((2 - 2 / 2 ^ k) * (2 - 2 / 2 ^ k)) ∧
      descDistSq k ap ad < 169 / 100 * (areaG 0 (pentagonQ ap) / 2)) ∧
    (∃ ap ad, sToAnchor s (n + 1) o = .ok ap ∧ sToAnchor (s * 4 ^ k + t) (n + 1 + k) o = .ok ad ∧
      ∀ p, InHull (pentagonQ ad) p →
        distSq (scaleDown k p) (centreQ ap) < 16854 / 10000 * (areaG 0 (pentagonQ ap) / 2) ∧
        planeDist (scaleDown k p) (centreQ ap) < 12982 / 10000 * Real.sqrt ((areaG 0 (pentagonQ ap) / 2 : ℚ) : ℝ)) := by
  constructor
  · obtain ⟨ap, ad, h1, h2, h3, _, h4⟩ := descendant_centre_reach n k o s t hn ho hs ht
    exact ⟨ap, ad, h1, h2, h3, h4⟩
  · obtain ⟨ap, ad, h1, h2, h3⟩ := descendant_pentagon_reach n k o s t hn ho hs ht
    exact ⟨ap, ad, h1, h2, fun p hp => ⟨(h3 p hp).2.1, (h3 p hp).2.2⟩⟩

end A5.C12
