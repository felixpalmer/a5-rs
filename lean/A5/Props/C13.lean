import A5.Lemmas.MemoLemmas
/-! # C13 — every projection call is a pure function of its arguments (no history or thread effects)

Model: `A5/Model/Memo.lean` — the per-thread `DodecahedronProjection` (memo vectors of
`MEMO_FACE_SLOTS = 30` face triangles and `MEMO_SPH_SLOTS = 240` spherical triangles, CRS lookup counter)
as an explicit state machine `call : MemoState → Args → MemoState × Outcome Res`, generic in the float
stages (`Params`).  Reference: `pureCall : Args → Outcome Res` (no state).  Threads: `World = ThreadId →
MemoState`, a step of thread `t` applies `call` to component `t` (`thread_local!`).

All theorems quantify over every parameter instance satisfying `Params.WF` (12 origins; the unreflected
face triangle ignores `squashed`), every history and every interleaving.  The layout numbers are the
generated `A5.Gen.MEMO_*` constants (only the witnesses in the proof of `slot_cover` spell their values out).

Not provable in Lean (stated in DESIGN.md): data-race freedom / aliasing of the `&'static mut` handed out
by `get_thread_local`; that `thread_local!` really gives one instance per thread.

**Finding (release v0.6.2, repaired in /repo d95ab4f).**  `inverse` did not validate `origin_id` before
`get_spherical_triangle`, whose slot lookup `10*origin + idx` precedes the origin check inside
`compute_spherical_triangle`.  For a non-reflected point and `origin_id ∈ 12..23` the slot (120..239)
aliases the reflected slot of origin `origin_id - 12`: a fresh thread returns `Err("Invalid origin ID")`,
a thread that earlier handled a reflected point on that face returns `Ok(garbage)`.  Reproduced on the
real library; frozen here as `callV062` with the kernel-checked history `v062_history_dependent`. -/
namespace A5.C13
open A5 A5.Gen A5.Memo

variable {FT ST Args Res : Type} {P : Params FT ST Args Res}

/-- T1.  For in-range keys (`idx ≤ FACE_TRIANGLE_MAX`, `origin < numOrigins`):
two face keys that share a slot have the same value (the unreflected squashed/unsquashed keys share a slot
*and* a value; apart from that `slotF` is injective); `slotS` is injective; every slot lies inside its
table.  Proved from the generated constants. -/
theorem slot_sound (hw : P.WF) :
    (∀ k k' : FKey, k.idx ≤ FACE_TRIANGLE_MAX → k'.idx ≤ FACE_TRIANGLE_MAX → slotF k = slotF k' →
        P.faceVal k = P.faceVal k' ∧
        k.idx = k'.idx ∧ k.reflected = k'.reflected ∧ (k.reflected = true → k.squashed = k'.squashed)) ∧
    (∀ k k' : SKey, k.idx ≤ FACE_TRIANGLE_MAX → k.origin < P.numOrigins →
        k'.idx ≤ FACE_TRIANGLE_MAX → k'.origin < P.numOrigins → slotS k = slotS k' → k = k') ∧
    (∀ k : FKey, k.idx ≤ FACE_TRIANGLE_MAX → slotF k < MEMO_FACE_SLOTS) ∧
    (∀ k : SKey, k.idx ≤ FACE_TRIANGLE_MAX → k.origin < P.numOrigins → slotS k < MEMO_SPH_SLOTS) := by
  refine ⟨fun k k' hk hk' h => ⟨faceVal_of_slot_eq hw k k' hk hk' h, slotF_inj k k' hk hk' h⟩, ?_, slotF_lt, ?_⟩
  · exact fun k k' hk ho hk' ho' h => slotS_inj k k' hk (hw.origin_lt ho) hk' (hw.origin_lt ho') h
  · exact fun k hk ho => slotS_lt k hk (hw.origin_lt ho)

/-- T1 (complement).  The tables are used exactly: every one of the 30 + 240 slots is the slot of some
in-range key, so "all fill orders of the slots" is "all orders of first use of the keys". -/
theorem slot_cover :
    (∀ j, j < MEMO_FACE_SLOTS → ∃ k : FKey, k.idx ≤ FACE_TRIANGLE_MAX ∧ slotF k = j) ∧
    (∀ j, j < MEMO_SPH_SLOTS → ∃ k : SKey, k.idx ≤ FACE_TRIANGLE_MAX ∧ k.origin < NUM_ORIGINS_WORLD ∧ slotS k = j) := by
  -- the witnesses are checked by unfolding the generated constants (`show`) and linear arithmetic
  constructor
  · intro j hj
    have hj : j < 30 := hj
    by_cases h1 : j < 10
    · exact ⟨⟨j, false, false⟩, show j ≤ 9 by omega, rfl⟩
    · by_cases h2 : j < 20
      · exact ⟨⟨j - 10, true, false⟩, show j - 10 ≤ 9 by omega, show j - 10 + 10 = j by omega⟩
      · exact ⟨⟨j - 20, true, true⟩, show j - 20 ≤ 9 by omega, show j - 20 + 20 = j by omega⟩
  · intro j hj
    have hj : j < 240 := hj
    by_cases h1 : j < 120
    · exact ⟨⟨j / 10, j % 10, false⟩, show j % 10 ≤ 9 by omega, show j / 10 < 12 by omega,
        show 10 * (j / 10) + j % 10 + 0 = j by omega⟩
    · exact ⟨⟨(j - 120) / 10, (j - 120) % 10, true⟩, show (j - 120) % 10 ≤ 9 by omega,
        show (j - 120) / 10 < 12 by omega, show 10 * ((j - 120) / 10) + (j - 120) % 10 + 120 = j by omega⟩

/-- T2.  `Inv` ("every filled slot holds the pure value of every in-range key that maps to it") holds
initially and is preserved by every call, and under `Inv` the result of a call is `pureCall` of its
arguments — for *all* arguments (valid or not).  Hence after every history the result of every call is
`pureCall`: it does not depend on which slots are already filled, in any fill order. -/
theorem memo_refines_pure (hw : P.WF) :
    Inv P (init : MemoState FT ST) ∧
    (∀ (s : MemoState FT ST) (a : Args), Inv P s → Inv P (call P s a).1 ∧ (call P s a).2 = pureCall P a) ∧
    (∀ (h : List Args) (a : Args), (call P (run P init h) a).2 = pureCall P a) ∧
    (∀ h : List Args, runResults P init h = h.map (pureCall P)) :=
  ⟨inv_init, fun _ a hs => ⟨call_inv hw hs a, call_res hw hs a⟩,
   fun h a => call_res hw (run_inv hw h inv_init) a, fun h => runResults_eq hw h inv_init⟩

/-- `pureCall` is what the first call in a fresh thread returns. -/
theorem pureCall_is_fresh_call (hw : P.WF) (a : Args) : (call P (init : MemoState FT ST) a).2 = pureCall P a :=
  call_res hw inv_init a

/-- T2, history form: the same call after two arbitrary histories gives the same result. -/
theorem result_history_independent (hw : P.WF) (h h' : List Args) (a : Args) :
    (call P (run P (init : MemoState FT ST) h) a).2 = (call P (run P (init : MemoState FT ST) h') a).2 := by
  rw [(memo_refines_pure hw).2.2.1 h a, (memo_refines_pure hw).2.2.1 h' a]

/-- T3.  From any world whose components satisfy `Inv` (in particular the all-fresh world), along every
interleaving: each step returns `pureCall` of its arguments; the component of thread `t` at the end is
what `t` reaches by running its own calls alone (no step observes another thread's state); a step of
thread `t` leaves every other component unchanged. -/
theorem threads_independent (hw : P.WF) (w : World FT ST) (hi : ∀ t, Inv P (w t)) (h : List (ThreadId × Args)) :
    runWorldResults P w h = h.map (fun ta => pureCall P ta.2) ∧
    (∀ t, runWorld P w h t = run P (w t) ((h.filter (fun ta => ta.1 == t)).map (·.2))) ∧
    (∀ t, Inv P (runWorld P w h t)) ∧
    (∀ (t u : ThreadId) (a : Args), u ≠ t → (stepWorld P w t a).1 u = w u) := by
  refine ⟨runWorldResults_eq hw h hi, fun t => runWorld_proj h t w, fun t => ?_, fun t u a hne => stepWorld_other w t u a hne⟩
  rw [runWorld_proj h t w]
  exact run_inv hw _ (hi t)

theorem threads_independent_fresh (hw : P.WF) (h : List (ThreadId × Args)) :
    runWorldResults P (World.init : World FT ST) h = h.map (fun ta => pureCall P ta.2) :=
  (threads_independent hw World.init (fun _ => inv_init) h).1

/-- T4.  If the spherical-triangle computation succeeds for each in-range key (`SphTotal`: a finite fact
about the float model; the driver evaluates it as `memoSphTotalCheck`), then in every reachable state the CRS lookup
counter is at most `3 · MEMO_SPH_SLOTS`, which is below `CRS_WARN_AT`: the stderr warning — the only
history-dependent side effect — cannot happen. -/
theorem crs_quiet (hw : P.WF) (ht : SphTotal P) (h : List Args) :
    (run P (init : MemoState FT ST) h).crsCalls ≤ CRS_LOOKUPS_PER_TRIANGLE * MEMO_SPH_SLOTS ∧
    CRS_LOOKUPS_PER_TRIANGLE * MEMO_SPH_SLOTS < CRS_WARN_AT := by
  refine ⟨?_, by decide⟩
  have hi : Inv P (run P (init : MemoState FT ST) h) := run_inv hw h inv_init
  have hc : CrsInv (run P (init : MemoState FT ST) h) :=
    run_crs hw ht h inv_init (by simp [CrsInv, init])
  exact Nat.le_trans hc (Nat.mul_le_mul_left _ (sphFilled_le hi))

/-- T4 for threads: every thread's counter stays below the warning threshold along every interleaving. -/
theorem crs_quiet_threads (hw : P.WF) (ht : SphTotal P) (h : List (ThreadId × Args)) (t : ThreadId) :
    (runWorld P (World.init : World FT ST) h t).crsCalls < CRS_WARN_AT := by
  rw [runWorld_proj h t World.init]
  exact Nat.lt_of_le_of_lt (crs_quiet hw ht _).1 (crs_quiet hw ht []).2

/-- T4, honest residue (no `SphTotal`).  A failing computation is not cached: if for some in-range key
the CRS lookup fails after `n` lookups, then `m` repetitions of that call add `m · n` to the counter
(each returning the same error, by T2).  So without `SphTotal` the counter is unbounded, and the warning
fires at the call that makes it hit `CRS_WARN_AT`. -/
theorem crs_grows_without_success (hw : P.WF) (a : Args)
    (hk : (P.classify a).idx ≤ FACE_TRIANGLE_MAX) (ho : (P.classify a).origin < P.numOrigins)
    (hf : ∀ st, (sphVal P (P.classify a)).1 ≠ .ok st) (h : List Args) (m : Nat) :
    (run P (init : MemoState FT ST) (h ++ List.replicate m a)).crsCalls =
      (run P (init : MemoState FT ST) h).crsCalls + m * (sphVal P (P.classify a)).2 := by
  rw [run_append]
  exact run_fail_grows hw a hk ho hf m (run_inv hw h inv_init)

/-- T5.  If a call succeeds when made first in a fresh thread, it succeeds with the same value after any
history (and, by T3, in any thread under any interleaving). -/
theorem ok_stays_ok (hw : P.WF) (a : Args) (v : Res) (hv : pureCall P a = .ok v) (h : List Args) :
    (call P (run P (init : MemoState FT ST) h) a).2 = .ok v := by
  rw [(memo_refines_pure hw).2.2.1 h a, hv]

/-- …and likewise an error stays the same error: no history "repairs" or changes a failing call. -/
theorem err_stays_err (hw : P.WF) (a : Args) (e : ErrKind) (hv : pureCall P a = .err e) (h : List Args) :
    (call P (run P (init : MemoState FT ST) h) a).2 = .err e := by
  rw [(memo_refines_pure hw).2.2.1 h a, hv]

/-! ## the frozen v0.6.2 behaviour -/

/-- The old `inverse` still preserves the invariant, and agrees with the repaired code on `forward` calls
and on every valid origin; the defect is confined to `inverse` with `origin ≥ numOrigins`. -/
theorem v062_agrees_on_valid (hw : P.WF) (isInverse : Args → Bool) (s : MemoState FT ST) (hs : Inv P s) (a : Args) :
    Inv P (callV062 P isInverse s a).1 ∧
    (isInverse a = false ∨ (P.classify a).origin < P.numOrigins → callV062 P isInverse s a = call P s a) :=
  ⟨callV062_inv hw isInverse hs a, callV062_eq_call isInverse s a⟩

/-! ## non-vacuity and the defect witness: a concrete instance -/

/-- A small instance: triangles are numbers that encode their key; `Args = (isInverse, key)`. -/
def demo : Params Nat Nat (Bool × SKey) Nat where
  numOrigins := NUM_ORIGINS_WORLD
  faceVal k := if k.reflected then (if k.squashed then 200 + k.idx else 100 + k.idx) else k.idx
  sphFrom ft k := (.ok (1000 * ft + 7 * k.origin + (if k.reflected then 500 else 0)), CRS_LOOKUPS_PER_TRIANGLE)
  classify a := a.2
  finish _ ft st := 1000000 * ft + st

theorem demo_wf : demo.WF := ⟨rfl, fun _ _ _ => rfl⟩

theorem demo_total : SphTotal demo := ⟨fun _ _ _ => ⟨_, rfl⟩, fun _ _ _ => Nat.le_refl _⟩

/-- Same, but the CRS lookup for the triangle (origin 3, idx 4, unreflected) fails at its second vertex. -/
def demoFail : Params Nat Nat (Bool × SKey) Nat :=
  { demo with sphFrom := fun ft k => if k.origin = 3 ∧ k.idx = 4 then (.err .crsVertex, 2) else demo.sphFrom ft k }

theorem demoFail_wf : demoFail.WF := ⟨rfl, fun _ _ _ => rfl⟩

-- T1: hypotheses met; the shared slot really is shared, and a reflected pair really is separated
example : slotF ⟨4, false, true⟩ = slotF ⟨4, false, false⟩ ∧ slotF ⟨4, true, true⟩ ≠ slotF ⟨4, true, false⟩ := by decide +kernel
example : slotS ⟨11, 9, true⟩ = 239 ∧ slotS ⟨0, 0, false⟩ = 0 := by decide +kernel
example := (slot_sound demo_wf).2.1 ⟨11, 9, true⟩ ⟨11, 9, true⟩ (by decide) (by decide) (by decide) (by decide) rfl

-- T2: a history of three calls (reflected, then the same key again, then another origin), then a call:
-- computed on the machine it equals the stateless value
example :
    (call demo (run demo init [(true, ⟨0, 3, true⟩), (false, ⟨0, 3, true⟩), (true, ⟨5, 3, false⟩)]) (true, ⟨0, 3, false⟩)).2
      = .ok 3003000 ∧ pureCall demo (true, ⟨0, 3, false⟩) = .ok 3003000 := by decide +kernel
example :
    runResults demo init [(true, ⟨0, 3, true⟩), (false, ⟨0, 3, true⟩), (false, ⟨12, 3, false⟩), (true, ⟨2, 10, false⟩)]
      = [.ok 103203500, .ok 103203500, .err .invalidOrigin, .err .other] := by decide +kernel
-- the history really fills slots (so the second call above is a cache hit)
example : (fillBitmap (run demo init [(true, ⟨0, 3, true⟩)])).2.1.getD 123 false = true ∧
    (fillBitmap (run demo init [(true, ⟨0, 3, true⟩)])).1.getD 13 false = true ∧
    (fillBitmap (run demo init [(true, ⟨0, 3, true⟩)])).1.getD 23 false = true ∧
    (fillBitmap (run demo init [(true, ⟨0, 3, true⟩)])).2.2 = 3 := by decide +kernel

-- T3: two threads interleaved
example :
    runWorldResults demo World.init [(0, (true, ⟨0, 3, true⟩)), (1, (true, ⟨0, 3, true⟩)), (0, (false, ⟨0, 3, true⟩)), (1, (true, ⟨12, 3, false⟩))]
      = [.ok 103203500, .ok 103203500, .ok 103203500, .err .invalidOrigin] := by decide +kernel
example : (runWorld demo World.init [(0, (true, ⟨0, 3, true⟩))] 1).crsCalls = 0 ∧
    (runWorld demo World.init [(0, (true, ⟨0, 3, true⟩))] 0).crsCalls = 3 := by decide +kernel

-- T4: the hypothesis is satisfiable, and the residue is real
example := crs_quiet demo_wf demo_total [(true, ⟨0, 3, true⟩)]
example : (run demoFail init (List.replicate 5 (true, ⟨3, 4, false⟩))).crsCalls = 10 ∧
    (call demoFail (run demoFail init (List.replicate 5 (true, ⟨3, 4, false⟩))) (true, ⟨3, 4, false⟩)).2 = .err .crsVertex := by decide +kernel
example := crs_grows_without_success demoFail_wf (true, ⟨3, 4, false⟩) (by decide) (by decide)
  (fun st h => by simp [sphVal, demoFail, demo] at h) [] 5000

example := ok_stays_ok demo_wf (true, ⟨0, 3, false⟩) 3003000 (by decide) [(true, ⟨0, 3, true⟩)]

/-- DEFECT WITNESS (v0.6.2).  `inverse` on an unreflected point of triangle 3 with `origin_id = 12`:
first call in a fresh thread → `Err(Invalid origin ID)`; after one `inverse` on a reflected point of
triangle 3 of origin 0 (which fills spherical slot 123 = 10·12 + 3 = 10·0 + 3 + 120) → `Ok`, carrying the
reflected triangle of origin 0.  The repaired `call` returns the error in both situations. -/
theorem v062_history_dependent :
    (callV062 demo (·.1) init (true, ⟨12, 3, false⟩)).2 = .err .invalidOrigin ∧
    (callV062 demo (·.1) (run demo init [(true, ⟨0, 3, true⟩)]) (true, ⟨12, 3, false⟩)).2 = .ok 3203500 ∧
    (call demo (run demo init [(true, ⟨0, 3, true⟩)]) (true, ⟨12, 3, false⟩)).2 = .err .invalidOrigin := by decide +kernel

end A5.C13
