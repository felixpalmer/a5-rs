import A5.Lemmas.TotalCompact
import A5.Lemmas.HexLemmas
import A5.Lemmas.PlacedPentagon
import A5.Lemmas.MemoApiTotal
/-! # C14 — the integer API is total: no panic, no overflow, no non-termination; errors or valid results

Model: `A5/Model/Codec.lean`, `Hier.lean`, `Compact.lean`, `Hex.lean`.  `Outcome.panic k` marks every point
where the overflow-checked build of the Rust code panics (checked `+ - * <<`, index out of bounds,
allocation capacity, fuel exhaustion = non-termination), so `isPanic = false` is the statement
"returns normally in every build profile".

All theorems quantify over **every** `id : Nat` (not even `id < 2^64` is needed), **every** integer
resolution `r : Int` (hence every `i32`) and every finite list.  Scope conditions that are genuinely
needed are explicit hypotheses and each has a kernel-checked witness in the section *findings* below:

* `serialize` takes a record, not an id: its origin must name a face (`origin < 12`);
* `uncompact`: the honest result must be small, `uncompactSize cells R < 2^60`
  (`Vec::with_capacity` of more than `2^63` bytes aborts);
* `getNumChildren p c` (helper, not re-exported at the crate root): `c ≤ 29`; exact panic set given.

`compact` needs **no** hypothesis.

The last two sections are the float side of the property: the one float-dependent panic of the lookup (`contains_point`
on a clockwise pentagon) and the outcome-level totality of the float-valued API (`float_api_total`). -/
namespace A5.C14
open A5

/-! ## T1. Totality -/

/-- T1a. `get_resolution` is a total function with values in `-1 ..= 29`; `get_num_cells` is a total
function into `u64` (saturating) for every integer. -/
theorem resolution_and_count_total (id : Nat) (r : Int) :
    (-1 ≤ getResolution id ∧ getResolution id ≤ 29) ∧ getNumCells r < 2 ^ 64 :=
  ⟨getResolution_range id, getNumCells_lt r⟩

/-- T1b. exact panic set of `get_num_children`, for all integers: `4^(c-p)` overflows iff the parent is
on the curve levels and the child is ≥ 32 levels finer.  Never for `c ≤ 29`. -/
theorem getNumChildren_panics_iff (p c : Int) :
    (getNumChildren p c).isPanic = true ↔ 2 ≤ p ∧ 32 ≤ c - p := getNumChildren_isPanic_iff p c

/-- T1c. `compact` never panics and always terminates, for every list whatsoever.  (The termination
argument: every pass of the `while changed` loop that reports a change replaces `k ≥ 4` elements by
one, so the fuel `length + 1` is never exhausted: `compactLoop_ok`.) -/
theorem compact_total (cells : List Nat) : (compact cells).isPanic = false := compact_never_panics cells

/-- T1c'. the ingredients of the termination argument, as stated in the model's terms: one scan of a
list of canonical ids is `ok`, stays canonical, does not grow, and shrinks when it reports a change. -/
theorem compact_scan_measure (xs : List Nat) (h : ∀ x ∈ xs, Layout x) :
    ∃ out ch, compactScan xs 0 = .ok (out, ch) ∧ (∀ x ∈ out, Layout x) ∧ out.length ≤ xs.length ∧
      (ch = true → out.length < xs.length) := by
  obtain ⟨out, ch, e, ho, hle, hch⟩ := compactScan_ok xs 0 h
  exact ⟨out, ch, e, ho, by omega, hch rfl⟩

/-- T1c''. the loop with fuel exceeding the length never reaches `.panic .fuel`. -/
theorem compact_loop_terminates (fuel : Nat) (xs : List Nat) (h : ∀ x ∈ xs, Layout x) (hf : xs.length < fuel) :
    ∃ out, compactLoop fuel xs = .ok out ∧ (∀ x ∈ out, Layout x) ∧ out.length ≤ xs.length :=
  compactLoop_ok fuel xs h hf

/-- T1d. `uncompact` never panics when the honest result has fewer than `2^60` cells. -/
theorem uncompact_total (cells : List Nat) (R : Int) (hsmall : uncompactSize cells R < 2 ^ 60) :
    (uncompact cells R).isPanic = false := uncompact_never_panics cells R hsmall

/-- **T1 `int_api_total`.** -/
theorem int_api_total :
    (∀ id : Nat, (deserialize id).isPanic = false) ∧
    (∀ c : Cell, c.origin < 12 → c.segment + 5 < 2 ^ 64 → (serialize c).isPanic = false) ∧
    (∀ (id : Nat) (r : Option Int), (cellToParent id r).isPanic = false) ∧
    (∀ (id : Nat) (r : Option Int), (cellToChildren id r).isPanic = false) ∧
    getRes0Cells.isPanic = false ∧
    (∀ p c : Int, c ≤ 29 → (getNumChildren p c).isPanic = false) ∧
    (∀ s : List Nat, (hexToU64 s).isPanic = false) ∧
    (∀ n : Nat, n < 2 ^ 64 → 1 ≤ (u64ToHex n).length ∧ (u64ToHex n).length ≤ 16) ∧
    (∀ (cells : List Nat) (R : Int), uncompactSize cells R < 2 ^ 60 → (uncompact cells R).isPanic = false) ∧
    (∀ cells : List Nat, (compact cells).isPanic = false) :=
  ⟨deserialize_never_panics',
   fun c ho hs => serialize_never_panics c ho hs,
   cellToParent_never_panics,
   cellToChildren_never_panics,
   cellToChildren_never_panics _ _,
   fun p c hc => getNumChildren_never_panics p c hc,
   hexToU64_never_panics,
   u64ToHex_length,
   uncompact_never_panics,
   compact_never_panics⟩

/-! ## T2. Results are valid; non-canonical bit patterns are treated as the cell they alias -/

/-- **T2 `int_api_valid_results`.** -/
theorem int_api_valid_results :
    -- parents: canonical id of exactly the requested resolution (the world cell `0` for `-1`)
    (∀ (id : Nat) (r : Int) (x : Nat), cellToParent id (some r) = .ok x →
        Layout x ∧ getResolution x = r ∧ (r = -1 → x = 0)) ∧
    (∀ (id x : Nat), cellToParent id none = .ok x → Layout x ∧ getResolution x = getResolution id - 1) ∧
    -- children: canonical ids of exactly the requested resolution
    (∀ (id : Nat) (r : Int) (xs : List Nat), cellToChildren id (some r) = .ok xs →
        ∀ x ∈ xs, Layout x ∧ getResolution x = r) ∧
    (∀ (id : Nat) (xs : List Nat), cellToChildren id none = .ok xs →
        ∀ x ∈ xs, Layout x ∧ getResolution x = getResolution id + 1) ∧
    (∃ xs, getRes0Cells = .ok xs ∧ xs.length = 12 ∧ ∀ x ∈ xs, Layout x ∧ getResolution x = 0) ∧
    -- uncompact / compact
    (∀ (cells : List Nat) (R : Int) (ys : List Nat), uncompact cells R = .ok ys →
        ∀ y ∈ ys, Layout y ∧ getResolution y = R) ∧
    (∀ cells out : List Nat, compact cells = .ok out → (∀ x ∈ out, Layout x) ∧ out.length ≤ cells.length) := by
  refine ⟨?_, ?_, ?_, ?_, ?_, ?_, ?_⟩
  · intro id r x h
    obtain ⟨a, b, _, _⟩ := cellToParent_some_valid id r x h
    exact ⟨a, b, fun hr => layout_res_neg x a (by omega)⟩
  · intro id x h
    obtain ⟨a, b, _⟩ := cellToParent_none_valid id x h
    exact ⟨a, b⟩
  · intro id r xs h; exact (cellToChildren_some_valid id r xs h).1
  · intro id xs h; exact (cellToChildren_none_valid id xs h).1
  · refine ⟨_, Path.getRes0Cells_eq, by decide, ?_⟩
    exact (cellToChildren_some_valid 0 0 _ Path.getRes0Cells_eq).1
  · intro cells R ys h; exact (uncompact_valid cells R ys h).1
  · intro cells out h; exact compact_valid cells out h

/-- **T2 aliasing.**  Every id either does not decode (`badOrigin`) or decodes to a valid record `c`
whose canonical id `encNat c` is in the documented layout, has the same resolution, and is
indistinguishable from `id` for every hierarchy call. -/
theorem alias_canonical (id : Nat) :
    deserialize id = .err .badOrigin ∨
    ∃ c, deserialize id = .ok c ∧ c.Valid ∧ Layout (encNat c) ∧ deserialize (encNat c) = .ok c ∧
      getResolution (encNat c) = getResolution id ∧
      (∀ r, cellToParent id r = cellToParent (encNat c) r) ∧
      (∀ r, cellToChildren id r = cellToChildren (encNat c) r) ∧
      (∀ l R, uncompact (id :: l) R = uncompact (encNat c :: l) R) ∧
      (∀ l, compact (id :: l) = compact (encNat c :: l)) := by
  rcases deserialize_cases id with ⟨c, hd⟩ | hd
  · have hv := deserialize_ok_valid' id c hd
    exact Or.inr ⟨c, hd, hv, layout_enc c hv, deserialize_enc c hv, getResolution_alias id c hd,
      fun r => cellToParent_alias id c r hd, fun r => cellToChildren_alias id c r hd,
      fun l R => uncompact_alias id c l R hd, fun l => compact_alias id c l hd⟩
  · exact Or.inl hd

/-- a bit pattern that is not a cell is rejected by every call (never silently mapped to a cell) -/
theorem non_cell_rejected (id : Nat) (hd : deserialize id = .err .badOrigin) :
    (∀ r, cellToParent id r = .err .badOrigin) ∧ (∀ r, cellToChildren id r = .err .badOrigin) ∧
    (∀ l, compact (id :: l) = .err .badOrigin) ∧
    (∀ cells out, id ∈ cells → compact cells ≠ .ok out) ∧
    (∀ cells R ys, id ∈ cells → uncompact cells R ≠ .ok ys) := by
  refine ⟨fun r => cellToParent_err id _ r hd, fun r => cellToChildren_err id _ r hd,
    fun l => compact_bad_head id l hd, ?_, ?_⟩
  · intro cells out hm h
    obtain ⟨cell, hc⟩ := compact_ok_decodes cells out h id hm
    rewrite [hd] at hc; cases hc
  · intro cells R ys hm h
    obtain ⟨⟨cell, hc⟩, _⟩ := uncompact_ok_decodes cells R ys h id hm
    rewrite [hd] at hc; cases hc

/-! ## T3. Out-of-range resolutions are rejected, never wrapped -/

/-- exact success condition of `cell_to_parent` -/
theorem cellToParent_isOk_iff (id : Nat) (r : Int) :
    (cellToParent id (some r)).isOk = true ↔
      (∃ c, deserialize id = .ok c) ∧ -1 ≤ r ∧ r ≤ getResolution id := by
  constructor
  · intro h
    cases hx : cellToParent id (some r) with
    | ok x =>
      obtain ⟨_, _, a, b⟩ := cellToParent_some_valid id r x hx
      rcases deserialize_cases id with hd | hd
      · exact ⟨hd, a, b⟩
      · rewrite [cellToParent_err id _ _ hd] at hx; cases hx
    | err e => rewrite [hx] at h; cases h
    | panic k => rewrite [hx] at h; cases h
  · rintro ⟨⟨c, hd⟩, h1, h2⟩
    obtain ⟨p, hp, hres, e, _⟩ := exists_path_of_deserialize id c hd
    rewrite [e, Path.cellToParent_enc hp]
    by_cases hm : r = -1
    · rewrite [if_pos hm]; rfl
    · rewrite [if_neg hm, if_neg (by omega), if_neg (by omega)]; rfl

/-- exact success condition of `cell_to_children` -/
theorem cellToChildren_isOk_iff (id : Nat) (r : Int) :
    (cellToChildren id (some r)).isOk = true ↔
      (∃ c, deserialize id = .ok c) ∧ getResolution id ≤ r ∧ r ≤ 29 ∧
        (r = getResolution id ∨ r - max (getResolution id) 1 ≤ 20) := by
  constructor
  · intro h
    cases hx : cellToChildren id (some r) with
    | ok xs =>
      obtain ⟨_, a, b⟩ := cellToChildren_some_valid id r xs hx
      rcases deserialize_cases id with ⟨c, hd⟩ | hd
      · refine ⟨⟨c, hd⟩, a, b, ?_⟩
        obtain ⟨p, hp, hres, _, e⟩ := exists_path_of_deserialize id c hd
        by_cases he : r = getResolution id
        · exact Or.inl he
        · refine Or.inr ?_
          apply Classical.byContradiction
          intro hbig
          rewrite [e, Path.cellToChildren_enc hp, if_neg (by omega), if_neg (by omega), if_neg (by omega),
            if_pos (by omega)] at hx
          cases hx
      · rewrite [cellToChildren_err id _ _ hd] at hx; cases hx
    | err e => rewrite [hx] at h; cases h
    | panic k => rewrite [hx] at h; cases h
  · rintro ⟨⟨c, hd⟩, h1, h2, h3⟩
    obtain ⟨p, hp, hres, _, e⟩ := exists_path_of_deserialize id c hd
    rewrite [e, Path.cellToChildren_enc hp, if_neg (by omega), if_neg (by omega)]
    by_cases he : r = Path.res p
    · rewrite [if_pos he]; rfl
    · rewrite [if_neg he, if_neg (by omega), if_neg (by omega)]; rfl

/-- **T3 `errors_exact`.**  For an id that decodes (`deserialize id = .ok c`, so `c.res = getResolution id`): -/
theorem errors_exact (id : Nat) (c : Cell) (hd : deserialize id = .ok c) (r : Int) :
    c.res = getResolution id ∧
    -- cell_to_parent
    (r < -1 → cellToParent id (some r) = .err .negative) ∧
    (0 ≤ r → getResolution id < r → cellToParent id (some r) = .err .targetFiner) ∧
    -- cell_to_children
    (r < getResolution id → cellToChildren id (some r) = .err .targetCoarser) ∧
    (30 < r → cellToChildren id (some r) = .err .exceedsMax) ∧
    (getResolution id < r → r ≤ 30 → 20 < r - max (getResolution id) 1 →
        cellToChildren id (some r) = .err .diffTooLarge) ∧
    -- r = 30 passes the `> MAX_RESOLUTION` guard of the model/Rust code, and is then rejected:
    (r = 30 → getResolution id < 10 → cellToChildren id (some r) = .err .diffTooLarge) ∧
    (r = 30 → 10 ≤ getResolution id → cellToChildren id (some r) = .err .resTooLarge) ∧
    -- default targets at the ends of the range
    (getResolution id = -1 → cellToParent id none = .err .negative) ∧
    (getResolution id = 29 → cellToChildren id none = .err .resTooLarge) := by
  have hres := deserialize_res id c hd
  obtain ⟨p, hp, hp', eP, eC⟩ := exists_path_of_deserialize id c hd
  have h29 := Path.res_le hp
  -- both calls are read off their closed forms on the cell `p` that `id` stands for
  have kP := fun r => (eP (some r)).trans (Path.cellToParent_enc hp r)
  have kC := fun r => (eC (some r)).trans (Path.cellToChildren_enc hp r)
  refine ⟨hres, ?_, ?_, ?_, ?_, ?_, ?_, ?_, ?_, ?_⟩
  · intro h; rewrite [kP, if_neg (by omega), if_pos (by omega)]; rfl
  · intro h0 h; rewrite [kP, if_neg (by omega), if_neg (by omega), if_pos (by omega)]; rfl
  · intro h; rewrite [kC, if_pos (by omega)]; rfl
  · intro h; rewrite [kC, if_neg (by omega), if_pos h]; rfl
  · intro h1 h2 h3; rewrite [kC, if_neg (by omega), if_neg (by omega), if_neg (by omega), if_pos (by omega)]; rfl
  · intro h1 h2; rewrite [kC, if_neg (by omega), if_neg (by omega), if_neg (by omega), if_pos (by omega)]; rfl
  · intro h1 h2
    rewrite [kC, if_neg (by omega), if_neg (by omega), if_neg (by omega), if_neg (by omega), if_pos h1]; rfl
  · intro h; rewrite [cellToParent_none id c hd, kP, if_neg (by omega), if_pos (by omega)]; rfl
  · intro h
    rewrite [cellToChildren_none id c hd, kC, if_neg (by omega), if_neg (by omega), if_neg (by omega),
      if_neg (by omega), if_pos (by omega)]
    rfl

/-- T3 for the list functions and the encoder -/
theorem errors_exact_lists :
    (∀ (cells : List Nat) (R : Int), 30 ≤ R → uncompact cells R = .err .exceedsMax) ∧
    (∀ (c : Nat) (cs : List Nat) (R : Int), R < getResolution c → uncompact (c :: cs) R = .err .targetCoarser) ∧
    (∀ (c : Nat) (cs : List Nat) (R : Int), R < -1 → uncompact (c :: cs) R = .err .targetCoarser) ∧
    (∀ c : Cell, 30 ≤ c.res → serialize c = .err .resTooLarge) ∧
    (∀ c : Cell, c.res < -1 → serialize c = .err .resNegative) := by
  refine ⟨uncompact_exceeds, uncompact_coarser, ?_, serialize_res_too_large, serialize_res_negative⟩
  intro c cs R h
  have := getResolution_range c
  exact uncompact_coarser c cs R (by omega)

/-! ## non-vacuity -/

-- a non-canonical alias (stray low bit) of the resolution-4 cell `0x92d8000000000000`
example : deserialize 0x92d8000000000001 = .ok ⟨7, 3, 0x2d, 4⟩ := by decide
example : encNat ⟨7, 3, 0x2d, 4⟩ = 0x92d8000000000000 := by decide
example : cellToChildren 0x92d8000000000001 (some 5) =
    .ok [0x92d2000000000000, 0x92d6000000000000, 0x92da000000000000, 0x92de000000000000] := by decide
example : cellToParent 0x92d8000000000001 (some 4) = .ok 0x92d8000000000000 := by decide
example : cellToParent 0x92d8000000000001 (some 30) = .err .targetFiner := by decide
example : cellToChildren 0x92d8000000000001 (some 30) = .err .diffTooLarge := by decide
example : cellToChildren 0x92d8000000000001 (some (-2147483648)) = .err .targetCoarser := by decide
example : cellToChildren 0x92d8000000000001 (some 2147483647) = .err .exceedsMax := by decide
-- a merge, with an alias and a duplicate in the input
example : compact [0x92d2000000000000, 0x92d6000000000001, 0x92da000000000000, 0x92de000000000000,
    0x92d6000000000000] = .ok [0x92d8000000000000] := by decide
-- malformed input is an error, not a panic
example : compact [0xf200000000000000, 1, 3] = .err .badOrigin := by decide
example : deserialize 0xf200000000000000 = .err .badOrigin := by decide
-- the scope condition of `uncompact_total` is met by a non-trivial input
example : uncompactSize [0x92d8000000000001, 0x92d2000000000000] 6 = 20 := by decide
example : (uncompact [0x92d8000000000001, 0x92d2000000000000] 6).isPanic = false :=
  uncompact_total _ _ (by decide)
example : uncompact [0x92d8000000000001, 0] 0 = .err .targetCoarser := by decide
-- hypotheses of `compact_scan_measure`
example : Layout 0x92d8000000000000 := layout_enc ⟨7, 3, 0x2d, 4⟩ (by decide)

/-! ## findings: where the model (= the overflow-checked build) *does* panic, with witnesses

These are exactly the scope conditions above; each is the weakest hypothesis of its theorem. -/

/-- F-a. `serialize` indexes the origin table with the record's origin: a record whose origin is not a
face panics (index out of bounds).  Not reachable from the id-based API (`deserialize` only produces
origins `< 12`: `deserialize_ok_valid'`). -/
example : (serialize ⟨12, 0, 0, 0⟩).isPanic = true := by decide

/-- F-b. `uncompact` of the world cell to resolution 29 asks for `4.3·10^18` cells:
`Vec::with_capacity` aborts ("capacity overflow").  Five such inputs overflow the `usize` sum first. -/
example : uncompact [0] 29 = .panic .capacity := by decide
example : uncompact [0, 0, 0, 0, 0] 29 = .panic .addOverflow := by decide

/-- F-c. `get_num_children(2, 34)` computes `4^32` in a `usize` (debug: panic; release: wraps to 0).
Public in `core::cell_info` but not re-exported; all internal callers pass a child resolution ≤ 29. -/
example : getNumChildren 2 34 = .panic .powOverflow := by decide

/-- F-d (known, F12; fixed by the canonicalisation in `compact`).  Without canonicalisation the sibling
test `cell + j·stride` overflows on malformed ids with top-6 bits 60..63: the frozen v0.6.2 algorithm
panics on this list, the current `compact` rejects it. -/
example : (compactV062 [0xf200000000000000, 0xf600000000000000, 0xfa00000000000000, 0xfe00000000000000,
    0xfe00000000000001, 0xfe00000000000002, 0xfe00000000000003, 0xfe00000000000004, 0xfe00000000000005,
    0xfe00000000000006, 0xfe00000000000007, 0xfe00000000000008]).isPanic = true := by decide
example : compact [0xf200000000000000, 0xf600000000000000, 0xfa00000000000000, 0xfe00000000000000,
    0xfe00000000000001, 0xfe00000000000002, 0xfe00000000000003, 0xfe00000000000004, 0xfe00000000000005,
    0xfe00000000000006, 0xfe00000000000007, 0xfe00000000000008] = .err .badOrigin := by decide
/-- the hypothesis `Layout c` of `groupAt_ok` is therefore necessary -/
example : (groupAt 0xf200000000000000 [0xf600000000000000, 0xfa00000000000000, 0xfe00000000000000,
    1, 2, 3, 4, 5, 6, 7, 8]).isPanic = true := by decide

/-! ## the one float-dependent panic of the lookup: `contains_point` on a clockwise pentagon -/

/-- `contains_point` panics exactly when its pentagon fails the winding test (for ALL float values). -/
theorem contains_panics_iff_not_ccw (vs : Poly) (p : V2) :
    polyContains vs p = .panic .notCCW ↔ windingCorrect vs = false :=
  PG.polyContains_panic_iff vs p

open A5.PG A5.HilbertLocate in
/-- ... and in exact arithmetic on the runtime constants that never happens: the pentagon drawn for ANY anchor, scaled by
any `s > 0` and transformed by any matrix of positive determinant, passes the winding test strictly (positive trapezoid
sum) and `PentagonShape::new` leaves it as it is.  What separates this from the `f64` run is rounding only (relative
2^-52·|offset| against an area of 0.6·s²) - not proved. -/
theorem exact_pentagon_passes_winding (a : Anchor) (hF : IsFlip a.flips) (s : Rat) (hs : 0 < s)
    (m : Rat × Rat × Rat × Rat) (hd : 0 < detG m) :
    WindingCorrectG 0 (placedQ a s m) ∧ 0 < areaG 0 (placedQ a s m) ∧ polyNewG 0 (placedQ a s m) = placedQ a s m := by
  obtain ⟨_, h2, h3, _⟩ := placedQ_facts a hF s hs m hd
  exact ⟨Rat.le_of_lt h2, h2, h3⟩

/-! ## the float-valued API: outcome-level totality for every id and every float -/

/-- `float_api_total`.  For EVERY id (indeed every natural number), every `Float` (NaN and infinities included), every
ring option and every origin id: `cell_to_lonlat` ends in ok / `badOrigin` / `crsVertex`; `cell_to_boundary` in
ok / `badOrigin` / `crsVertex` / the fuel of the longitude-unwrapping loop (float dependent); `a5cell_contains_point` on a decodable non-world id in ok / `crsVertex` /
`notCCW`; the projection in ok / `crsVertex` / `invalidOrigin` (exactly for origin ids ≥ 12); `get_pentagon` succeeds on
every decodable non-world id; the saturating cell count fits a `u64`.  No index, overflow, shift or unwrap panic is
reachable through the id-based float API. -/
theorem float_api_total :
    (∀ id : Nat, (∃ p, cellToLonLat id = .ok p) ∨ cellToLonLat id = .err .badOrigin ∨
        cellToLonLat id = .err .crsVertex) ∧
    (∀ (id : Nat) (closed : Bool) (segs : Option Nat),
        (∃ ring, cellToBoundary id closed segs = .ok ring) ∨ cellToBoundary id closed segs = .err .badOrigin ∨
        cellToBoundary id closed segs = .err .crsVertex ∨ cellToBoundary id closed segs = .panic .fuel) ∧
    (∀ (id : Nat) (c : Cell) (lon lat : Float), deserialize id = .ok c → getResolution id ≠ -1 →
        (∃ d, cellContainsPoint c lon lat = .ok d) ∨ cellContainsPoint c lon lat = .err .crsVertex ∨
        cellContainsPoint c lon lat = .panic .notCCW) ∧
    (∀ (theta phi : Float) (o : Nat),
        (∃ v, dodecaForward theta phi o = .ok v) ∨ (dodecaForward theta phi o = .err .crsVertex ∧ o < 12) ∨
        (dodecaForward theta phi o = .err .invalidOrigin ∧ 12 ≤ o)) ∧
    (∀ (f : V2) (o : Nat),
        (∃ v, dodecaInverse f o = .ok v) ∨ (dodecaInverse f o = .err .crsVertex ∧ o < 12) ∨
        (dodecaInverse f o = .err .invalidOrigin ∧ 12 ≤ o)) ∧
    (∀ (id : Nat) (c : Cell), deserialize id = .ok c → getResolution id ≠ -1 → ∃ p, getPentagon c = .ok p) ∧
    (∀ r : Int, getNumCells r < 2 ^ 64) :=
  _root_.A5.float_api_total

/-- Observation (outside the property's quantifiers, which range over ids, coordinates and resolutions): the two public
functions that take a hand-built `A5Cell` RECORD are not total on records no id decodes to - `get_pentagon` indexes the
origin table out of bounds for `origin_id ≥ 12`, and runs the digit loop with depth `-2 as usize` on a negative
resolution (the world record included). -/
theorem record_api_observation :
    (∀ c : Cell, 12 ≤ c.origin → getPentagon c = .panic .indexOOB) ∧
    (∀ c : Cell, c.origin < 12 → c.res < 0 → getPentagon c = .panic .fuel) :=
  ⟨_root_.A5.record_api_findings.1, _root_.A5.record_api_findings.2.1⟩

end A5.C14
