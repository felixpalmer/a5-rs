import A5.Model.GenericGeo
import A5.Lemmas.RadialRoundTrip
import A5.Lemmas.PolyhedralRoundTrip
import A5.Lemmas.PolyTies
import A5.Lemmas.RuntimeTable
import Mathlib.Tactic.Ring
import Mathlib.Tactic.FieldSimp
import Mathlib.Tactic.LinearCombination
import Mathlib.Tactic.Linarith
import Mathlib.Algebra.Order.Field.Basic
/-! # C15 — the dodecahedron projection is invertible

Model (`A5/Model/Geo.lean`, at `Float`): `faceToBarycentric`, `barycentricToFace`, `baseFaceTriangle`,
`reflectedFaceTriangle`, `faceTriangleIndex`, `getFaceTriangle`, `polyhedralInverse`.
Generic twins (`A5/Model/GenericGeo.lean`): `A5.G.faceToBarycentricG`, `A5.G.barycentricToFaceG`,
`A5.G.triDetG`, `A5.G.midpointG`, `A5.G.reflectApexG`; tie lemmas (all `rfl`): `A5.G.faceToBarycentric_tie`,
`A5.G.barycentricToFace_tie`, `A5.G.baseFaceTriangle_tie`, `A5.G.reflectedFaceTriangle_tie`.

T1, T2 are proved about the twins over an arbitrary field; T3, T5 are theorems about the float model itself
(every `Float`, including NaN and ±∞).  There is no T4: `should_reflect` is modelled (`shouldReflect`) and no theorem
speaks of it.  The analytic part of the property (the spherical ⇄ planar triangle maps `polyhedralForward` /
`polyhedralInverse` being mutually inverse) is proved over ℝ, in exact real arithmetic, in two halves and their
composition.  The RADIAL half (T6, `A5/Lemmas/RadialRoundTrip.lean`): `safe_acos x` is `acos(1 - 2x²) = 2·asin x` up to
1e-15 on [0,1], on both sides of its small-angle switch (T6b; `safeAcosR_bounds` behind it gives 2.1e-16; the switch value
is the regenerated `Gen.SAFE_ACOS_SWITCH`, enclosed in [1e-3, 1.001e-3] by `safe_acos_switch_value`), `vector_difference`
is the sine of half the angle, `slerp` walks the great circle, and the inverse's `t = safe_acos(h k)/safe_acos(k)` recovers
the arc fraction that the forward's `h = sin(AV/2)/sin(AP/2)` encodes.  The ANGULAR half (T7, `A5/Lemmas/AngularRoundTrip.lean`):
the code's triangle area (2·asin of the triple product of the normalised edge midpoints) satisfies Eriksson's formula
`tan(E/2) = V/(1 + a·b + b·c + c·a)`, and the inverse's closed formula `q = (2/θ)·atan2(g, f)` is exactly the parameter of
the point `P = slerp(b, c, q)` with `area(a, b, P) = α`, in both directions.  T8 (`A5/Lemmas/PolyhedralRoundTrip.lean`)
combines the halves: `inverse(forward v) = v` exactly with `2·asin` in place of `safe_acos`, and within 5e-16 with the
two-branch `safe_acos`, for every `v = slerp(a, slerp(b, c, q), s)`, `0 ≤ q ≤ 1`, `0 < s ≤ 1`.  NOT proved: float rounding;
in T7-T8 the small-|s| branch of the area, the vertex snapping and the small-angle slerp branch are excluded (by the
definitions `triAreaR`, `inverseBaryR`, and by hypothesis).
T9 restates the combined round trip on the GENERIC TWINS of `polyhedralForward` / `polyhedralInverse`
(`A5/Model/GenericPoly.lean`: one expression tree, tied to the Float model by `polyhedralForward_tie` /
`polyhedralInverse_tie` and to the real transcriptions used in T6-T8 by `A5/Lemmas/PolyTies.lean`, whose header lists, as
D1-D5, where a transcription differs from the model's tree: the small-|s| area branch, the areas inside the forward map,
the vertex snapping, `2·asin` for `safe_acos`, the zero test of `normalize`).
T10-T14 discharge the hypotheses of T7-T9 for the 240 triangles the library builds at start-up
(`A5/Lemmas/RuntimeTriangles.lean`, `RuntimeTable.lean`), T9 for points at least 1e-4 away from the ends of the far edge and 2e-14 away from
the apex.  The full `Float` statement stays `projection_roundtrip_statement`. -/
namespace A5.C15
open A5 A5.G

/-! ## T1: face ⇄ barycentric coordinates are mutually inverse -/

section field
variable {K : Type} [Field K]

/-- T1a. `barycentricToFace (faceToBarycentric p t) t = p` whenever the triangle is non-degenerate. -/
theorem bary_roundtrip (px py ax ay bx «by» cx cy : K) (hdet : triDetG ax ay bx «by» cx cy ≠ 0) :
    barycentricToFaceG
      (faceToBarycentricG 1 px py ax ay bx «by» cx cy).1
      (faceToBarycentricG 1 px py ax ay bx «by» cx cy).2.1
      (faceToBarycentricG 1 px py ax ay bx «by» cx cy).2.2 ax ay bx «by» cx cy = (px, py) := by
  unfold triDetG at hdet
  simp only [faceToBarycentricG, barycentricToFaceG]
  refine Prod.ext ?_ ?_
  · simp only; field_simp; ring
  · simp only; field_simp; ring

/-- T1b. The three barycentric coordinates sum to 1 (for every triangle, even a degenerate one). -/
theorem bary_sum_one (px py ax ay bx «by» cx cy : K) :
    (faceToBarycentricG 1 px py ax ay bx «by» cx cy).1
      + (faceToBarycentricG 1 px py ax ay bx «by» cx cy).2.1
      + (faceToBarycentricG 1 px py ax ay bx «by» cx cy).2.2 = 1 := by
  simp only [faceToBarycentricG]; ring

/-- T1c. Conversely `faceToBarycentric (barycentricToFace b t) t = b` for weights that sum to 1. -/
theorem bary_roundtrip' (u v w ax ay bx «by» cx cy : K) (hdet : triDetG ax ay bx «by» cx cy ≠ 0)
    (hsum : u + v + w = 1) :
    faceToBarycentricG 1
      (barycentricToFaceG u v w ax ay bx «by» cx cy).1 (barycentricToFaceG u v w ax ay bx «by» cx cy).2
      ax ay bx «by» cx cy = (u, v, w) := by
  unfold triDetG at hdet
  have hw : w = 1 - u - v := by linear_combination hsum
  subst hw
  simp only [faceToBarycentricG, barycentricToFaceG]
  refine Prod.ext ?_ (Prod.ext ?_ ?_)
  · simp only; rw [div_eq_iff hdet]; ring
  · simp only; rw [div_eq_iff hdet]; ring
  · simp only
    rw [sub_sub]
    congr 1; congr 1 <;> (rw [div_eq_iff hdet]; ring)

/-- The corners have barycentric coordinates `(1,0,0)`, `(0,1,0)`, `(0,0,1)`. -/
theorem bary_corners (ax ay bx «by» cx cy : K) (hdet : triDetG ax ay bx «by» cx cy ≠ 0) :
    faceToBarycentricG 1 ax ay ax ay bx «by» cx cy = (1, 0, 0) ∧
    faceToBarycentricG 1 bx «by» ax ay bx «by» cx cy = (0, 1, 0) ∧
    faceToBarycentricG 1 cx cy ax ay bx «by» cx cy = (0, 0, 1) := by
  have h1 := bary_roundtrip' 1 0 0 ax ay bx «by» cx cy hdet (by ring)
  have h2 := bary_roundtrip' 0 1 0 ax ay bx «by» cx cy hdet (by ring)
  have h3 := bary_roundtrip' 0 0 1 ax ay bx «by» cx cy hdet (by ring)
  simp only [barycentricToFaceG, one_mul, zero_mul, add_zero, zero_add] at h1 h2 h3
  exact ⟨h1, h2, h3⟩

/-! ## T2: the reflected triangle

`baseFaceTriangle idx` is built from the quintant triangle `(c0, c1, c2)` (`c0` = face centre, `c1`, `c2` = two
adjacent pentagon corners) and `mid = (c1 + c2)/2`: it is `(c0, mid, c1)` for even `idx` and `(c0, c2, mid)` for
odd `idx` (`A5.G.baseFaceTriangle_tie`).  `reflectedFaceTriangle` replaces the apex `a = c0` by
`a' = −a + mid·scale` and swaps the other two vertices; the point called `midpoint` in the code is `base.b` for
even and `base.c` for odd triangles, i.e. in both cases the *edge midpoint* `mid` — an end point of the side
`BC` of the half-triangle, not its midpoint (`reflect_midpoint_is_edge_midpoint`). -/

/-- T2a. With `scale = 2` the new apex is the point reflection of the old apex through `mid`:
`a' = 2·mid − a`, i.e. `mid` is the midpoint of `a a'`. -/
theorem reflected_apex_point_reflection (ax ay mx my : K) :
    (reflectApexG 2 ax ay mx my).1 = 2 * mx - ax ∧ (reflectApexG 2 ax ay mx my).2 = 2 * my - ay ∧
    (reflectApexG 2 ax ay mx my).1 + ax = 2 * mx ∧ (reflectApexG 2 ax ay mx my).2 + ay = 2 * my := by
  simp only [reflectApexG]
  exact ⟨by ring, by ring, by ring, by ring⟩

/-- T2b. When `mid` is the midpoint of the pentagon edge `c1 c2` and the apex is equidistant from `c1` and
`c2` (the quintant triangle is isosceles), the point reflection through `mid` *is* the mirror image in the
line `c1 c2`: the segment `a a'` is perpendicular to the edge (and its midpoint `mid` lies on the edge).
Moreover the distances to `c1` and `c2` are preserved. -/
theorem reflected_triangle_is_mirror (h2 : (2 : K) ≠ 0) (ax ay c1x c1y c2x c2y : K)
    (hiso : (c1x - ax) ^ 2 + (c1y - ay) ^ 2 = (c2x - ax) ^ 2 + (c2y - ay) ^ 2) :
    let m := midpointG (2 : K) c1x c1y c2x c2y
    let a' := reflectApexG 2 ax ay m.1 m.2
    (a'.1 - ax) * (c2x - c1x) + (a'.2 - ay) * (c2y - c1y) = 0 ∧
    (a'.1 - c1x) ^ 2 + (a'.2 - c1y) ^ 2 = (ax - c1x) ^ 2 + (ay - c1y) ^ 2 ∧
    (a'.1 - c2x) ^ 2 + (a'.2 - c2y) ^ 2 = (ax - c2x) ^ 2 + (ay - c2y) ^ 2 := by
  simp only [midpointG, reflectApexG]
  have e1 : (c1x + c2x) / 2 * 2 = c1x + c2x := by field_simp
  have e2 : (c1y + c2y) / 2 * 2 = c1y + c2y := by field_simp
  rw [e1, e2]
  refine ⟨?_, ?_, ?_⟩
  · linear_combination (-1 : K) * hiso
  · linear_combination (-1 : K) * hiso
  · linear_combination hiso

/-- twice the signed area of the triangle `P Q R` (shoelace formula) -/
def shoelace (px py qx qy rx ry : K) : K := (qx - px) * (ry - py) - (rx - px) * (qy - py)

/-- T2c. Swapping `B` and `C` restores the orientation: the reflected triangle `(a', C, B)` has the same signed
area as `(a, B, C)` whenever the reflection centre is one of `B`, `C` (which it is: `mid = B` for even,
`mid = C` for odd triangles).  No isosceles hypothesis is needed. -/
theorem reflected_triangle_same_area (ax ay bx «by» cx cy : K) :
    (let a' := reflectApexG 2 ax ay bx «by»
     shoelace a'.1 a'.2 cx cy bx «by» = shoelace ax ay bx «by» cx cy) ∧
    (let a' := reflectApexG 2 ax ay cx cy
     shoelace a'.1 a'.2 cx cy bx «by» = shoelace ax ay bx «by» cx cy) := by
  simp only [reflectApexG, shoelace]
  exact ⟨by ring, by ring⟩

end field

/-- The isosceles hypothesis is needed in T2b: for `a = (0,0)`, `c1 = (1,0)`, `c2 = (0,2)` the segment `a a'`
is not perpendicular to the edge. -/
example : let m := midpointG (2 : ℚ) 1 0 0 2
    let a' := reflectApexG 2 0 0 m.1 m.2
    (a'.1 - 0) * (0 - 1) + (a'.2 - 0) * (2 - 0) ≠ 0 := by
  norm_num [midpointG, reflectApexG]

/-- In the float model the point used as reflection centre is, for even and odd triangles alike, the
midpoint of the pentagon edge `c1 c2` computed by `midpointG`. -/
theorem reflect_midpoint_is_edge_midpoint (idx : Nat) :
    (if idx % 2 == 0 then (baseFaceTriangle idx).b else (baseFaceTriangle idx).c) =
      ⟨(midpointG (2.0 : Float) (quintantCorner idx 1).x (quintantCorner idx 1).y
          (quintantCorner idx 2).x (quintantCorner idx 2).y).1,
       (midpointG (2.0 : Float) (quintantCorner idx 1).x (quintantCorner idx 1).y
          (quintantCorner idx 2).x (quintantCorner idx 2).y).2⟩ := by
  rewrite [baseFaceTriangle_tie]
  cases h : (idx % 2 == 0) <;> rfl

/-- In the float model the reflected triangle swaps `B` and `C`, and its apex is `reflectApexG` applied to
the base apex and that edge midpoint; the unsquashed scale is the literal `2.0`. -/
theorem reflected_triangle_model (idx : Nat) (squashed : Bool) :
    (reflectedFaceTriangle idx squashed).b = (baseFaceTriangle idx).c ∧
    (reflectedFaceTriangle idx squashed).c = (baseFaceTriangle idx).b ∧
    reflectScale false = (2.0 : Float) :=
  ⟨rfl, rfl, rfl⟩

/-! ## T3: the triangle index is total -/

/-- T3a. `faceTriangleIndex γ < 10` for every float `γ`, including NaN and ±∞ (whatever integer the
saturating cast produces, `tmod 10` lies in `(-10, 10)` and negative values are shifted by 10). -/
theorem triangle_index_total (γ : Float) : faceTriangleIndex γ < 10 := by
  unfold faceTriangleIndex
  generalize f64ToI32 ((γ / fc Gen.PI_OVER_5).floor) + 10 = z
  have h1 := Int.tmod_lt_of_pos z (b := 10) (by decide)
  have h2 := Int.lt_tmod_of_pos z (b := 10) (by decide)
  simp only
  split <;> omega

/-- T3b. The quintant derived from a triangle index is a valid quintant. -/
theorem triangle_quintant_lt (idx : Nat) : ((idx + 1) / 2) % 5 < 5 := Nat.mod_lt _ (by decide)

/-- T3c. Hence the face-triangle lookup never fails on an index produced by `faceTriangleIndex`. -/
theorem face_triangle_lookup_total (γ : Float) (reflected squashed : Bool) :
    getFaceTriangle (faceTriangleIndex γ) reflected squashed =
      .ok (if reflected then reflectedFaceTriangle (faceTriangleIndex γ) squashed
           else baseFaceTriangle (faceTriangleIndex γ)) := by
  have h := triangle_index_total γ
  unfold getFaceTriangle
  rewrite [if_neg (by simp only [Gen.FACE_TRIANGLE_MAX]; omega)]
  rfl

/-- and it does fail beyond 9 -/
theorem face_triangle_lookup_fails (idx : Nat) (h : 9 < idx) (reflected squashed : Bool) :
    getFaceTriangle idx reflected squashed = .err .other := by
  unfold getFaceTriangle
  rewrite [if_pos (by simp only [Gen.FACE_TRIANGLE_MAX]; omega)]
  rfl

/-! ## T5: corner snapping in the inverse -/

/-- the interior branch of `polyhedralInverse` (everything after the three early returns), as a function of
the barycentric coordinates `bu`, `bw` -/
def polyhedralInverseInterior (bu bw : Float) (st : SphTriangle) : V3 :=
  let a := st.a; let b := st.b; let c := st.c
  let c1 := v3cross b c
  let areaABC := sphTriangleArea a b c
  let h := 1.0 - bu
  let r := bw / h
  let alpha := r * areaABC
  let s := alpha.sin
  let halfC := (alpha / 2.0).sin
  let cc := 2.0 * halfC * halfC
  let c01 := v3dot a b
  let c12 := v3dot b c
  let c20 := v3dot c a
  let s12 := v3length c1
  let vv := v3dot a c1
  let f := s * vv + cc * (c01 * c12 - c20)
  let g := cc * s12 * (1.0 + c01)
  let q := (2.0 / c12.acos) * Float.atan2 g f
  let p := slerp b c q
  let k := vectorDifference a p
  let t := safeAcos (h * k) / safeAcos k
  slerp a p t

/-- the snapping threshold `1 − POLY_SNAP_EPS` -/
def snapThreshold : Float := 1.0 - fc Gen.POLY_SNAP_EPS

/-- T5. `polyhedralInverse` is: barycentric coordinates, then three early returns that fire exactly when
the first / second / third coordinate exceeds `1 − POLY_SNAP_EPS` (in this order), else the interior
formula.  (`rfl`: this *is* the model.) -/
theorem inverse_snaps_corners (fp : V2) (ft : FaceTriangle) (st : SphTriangle) :
    polyhedralInverse fp ft st =
      (let b := faceToBarycentric fp ft
       if b.1 > snapThreshold then st.a
       else if b.2.1 > snapThreshold then st.b
       else if b.2.2 > snapThreshold then st.c
       else polyhedralInverseInterior b.1 b.2.2 st) := rfl

/-- T5, spelled out as implications. -/
theorem inverse_snaps_corners' (fp : V2) (ft : FaceTriangle) (st : SphTriangle) :
    let b := faceToBarycentric fp ft
    (b.1 > snapThreshold → polyhedralInverse fp ft st = st.a) ∧
    (¬ b.1 > snapThreshold → b.2.1 > snapThreshold → polyhedralInverse fp ft st = st.b) ∧
    (¬ b.1 > snapThreshold → ¬ b.2.1 > snapThreshold → b.2.2 > snapThreshold →
      polyhedralInverse fp ft st = st.c) ∧
    (¬ b.1 > snapThreshold → ¬ b.2.1 > snapThreshold → ¬ b.2.2 > snapThreshold →
      polyhedralInverse fp ft st = polyhedralInverseInterior b.1 b.2.2 st) := by
  intro b
  rewrite [inverse_snaps_corners]
  refine ⟨fun h => ?_, fun h1 h => ?_, fun h1 h2 h => ?_, fun h1 h2 h3 => ?_⟩
  · exact if_pos h
  · exact (if_neg h1).trans (if_pos h)
  · exact (if_neg h1).trans ((if_neg h2).trans (if_pos h))
  · exact (if_neg h1).trans ((if_neg h2).trans (if_neg h3))

/-- The threshold is the `f64` `0x3fefffffffffffa6 = 1 − 90·2^-53` (kernel-checked with the float model):
strictly below 1, so at an exact corner (`b = 1.0`) the snap fires, and a NaN coordinate never snaps. -/
theorem snap_threshold_value :
    snapThreshold.toBits = 0x3fefffffffffffa6 ∧ (1.0 : Float) > snapThreshold ∧
    ¬ ((0.0 / 0.0 : Float) > snapThreshold) ∧ ¬ ((0.5 : Float) > snapThreshold) := by
  decide +kernel

/-! ## what is not proved -/

/-- The full property, *not proved and not assumed anywhere*: for every point of the sphere, projecting onto
the nearest dodecahedron face and back returns the point up to a small error.  (Over the reals the two
triangle maps `polyhedralForward` / `polyhedralInverse` are exact inverses away from the snapped corners; at
`Float` only an error bound can hold, and proving one needs interval reasoning about the opaque libm
functions.)  The comparisons exclude NaN inputs. -/
def projection_roundtrip_statement : Prop :=
  ∃ eps : Float, eps < 1.0e-9 ∧ ∀ θ φ : Float,
    0.0 ≤ φ → φ ≤ fc Gen.PI → -(fc Gen.PI) ≤ θ → θ ≤ fc Gen.PI →
    ∃ (p : V2) (tp : Float × Float),
      dodecaForward θ φ (findNearestOrigin θ φ).id = .ok p ∧
      dodecaInverse p (findNearestOrigin θ φ).id = .ok tp ∧
      v3distance (toCartesian tp.1 tp.2) (toCartesian θ φ) < eps

/-! ## non-vacuity -/

/-- T1 on the triangle `(0,0) (4,0) (0,2)` and the point `(1,1)`: coordinates `(1/4, 1/4, 1/2)` -/
example : faceToBarycentricG (1 : ℚ) 1 1 0 0 4 0 0 2 = (1 / 4, 1 / 4, 1 / 2) := by
  norm_num [faceToBarycentricG]
example : triDetG (0 : ℚ) 0 4 0 0 2 ≠ 0 := by norm_num [triDetG]
example : barycentricToFaceG (1 / 4 : ℚ) (1 / 4) (1 / 2) 0 0 4 0 0 2 = (1, 1) := by
  norm_num [barycentricToFaceG]
/-- T2b on the isosceles triangle `a = (0,0)`, `c1 = (2,1)`, `c2 = (2,-1)`: `mid = (2,0)`, `a' = (4,0)` -/
example : reflectApexG (2 : ℚ) 0 0 (midpointG (2 : ℚ) 2 1 2 (-1)).1 (midpointG (2 : ℚ) 2 1 2 (-1)).2 = (4, 0) := by
  norm_num [reflectApexG, midpointG]
example : ((2 : ℚ) - 0) ^ 2 + (1 - 0) ^ 2 = (2 - 0) ^ 2 + (-1 - 0) ^ 2 := by norm_num

/-! ## T6: the radial half of the round trip, over ℝ -/

open A5.RadialRoundTrip in
/-- T6a. the small-angle switch of `safe_acos`, as regenerated from `polyhedral.rs`, is the `f64` nearest to `1e-3` -/
theorem safe_acos_switch_value :
    safeAcosSwitchQ = 1152921504606847 / 2 ^ 60 ∧ 1 / 1000 ≤ safeAcosSwitchQ ∧ safeAcosSwitchQ ≤ 1001 / 1000000 :=
  safeAcosSwitchQ_bounds

open A5.RadialRoundTrip in
/-- T6b. the real twin of `safe_acos` (the same `RadialRoundTrip.safeAcosG` as the Float model:
`RadialRoundTrip.safeAcos_tie`, `safeAcosR_tie`, both `rfl`) is `2·arcsin x` to 1e-15 on `[0, 1]`, on both sides of the switch. -/
theorem safe_acos_is_two_arcsin {x : ℝ} (hx0 : 0 ≤ x) (hx1 : x ≤ 1) :
    |safeAcosR x - 2 * Real.arcsin x| ≤ 1e-15 ∧ Real.arccos (1 - 2 * x ^ 2) = 2 * Real.arcsin x :=
  ⟨safeAcosR_error hx0 hx1, arccos_one_sub_two_sq hx0 hx1⟩

open A5.RadialRoundTrip in
/-- T6c. For a point `V` on the arc from the apex `A` to `P` (arc lengths `0 ≤ AV ≤ AP ≤ π`), the
forward map stores `h = sin(AV/2)/sin(AP/2)`; the inverse computes `t = safe_acos(h k)/safe_acos(k)` with
`k = sin(AP/2)` and walks the fraction `t` of the arc: it arrives at arc length `AV` exactly with the exact
`2·arcsin`, and within 5e-16 rad with the code's two-branch `safe_acos`. -/
theorem radial_roundtrip {AV AP : ℝ} (h0 : 0 ≤ AV) (h1 : AV ≤ AP) (h2 : 0 < AP) (h3 : AP ≤ Real.pi) :
    (2 * Real.arcsin (Real.sin (AV / 2) / Real.sin (AP / 2) * Real.sin (AP / 2))) /
        (2 * Real.arcsin (Real.sin (AP / 2))) * AP = AV ∧
    |safeAcosR (Real.sin (AV / 2) / Real.sin (AP / 2) * Real.sin (AP / 2)) / safeAcosR (Real.sin (AP / 2)) * AP - AV|
      ≤ 5e-16 :=
  ⟨radial_roundtrip_exact h0 h1 h2 h3, radial_roundtrip_safeAcos h0 h1 h2 h3⟩

open A5.RadialRoundTrip in
/-- T6d. the vector form: `vector_difference` of unit vectors is the sine of half their angle, `slerp` (non-lerp
branch) stays on the unit sphere at angle `t·γ` from its first argument, and unprojecting the forward image of
`v = slerp a p s` along the same arc returns `v` (exactly with `2·arcsin`, within 5e-16 with `safe_acos`). -/
theorem radial_roundtrip_vectors {a p : R3} {s : ℝ} (hs0 : 0 ≤ s) (hs1 : s ≤ 1)
    (ha : dotR a a = 1) (hp : dotR p p = 1) (hγ : slerpSwitch ≤ angleR a p) (hπ : angleR a p < Real.pi) :
    vectorDifferenceR a p = Real.sin (angleR a p / 2) ∧
    angleR a (slerpR a p s) = s * angleR a p ∧
    slerpR a p ((2 * Real.arcsin (vectorDifferenceR a (slerpR a p s) / vectorDifferenceR a p * vectorDifferenceR a p)) /
        (2 * Real.arcsin (vectorDifferenceR a p))) = slerpR a p s ∧
    lengthR (subR (slerpR a p (safeAcosR (vectorDifferenceR a (slerpR a p s) / vectorDifferenceR a p *
        vectorDifferenceR a p) / safeAcosR (vectorDifferenceR a p))) (slerpR a p s)) ≤ 5e-16 :=
  ⟨vectorDifferenceR_eq ha hp hπ, slerpR_angle hs0 hs1 ha hp hγ hπ,
    (radial_roundtrip_vector hs0 hs1 ha hp hγ hπ).2, (radial_roundtrip_vector_safeAcos hs0 hs1 ha hp hγ hπ).2⟩

/-! ## T7-T8: the angular half and the combined round trip, over ℝ -/

open A5.RadialRoundTrip A5.AngularRoundTrip in
/-- T7a. the triangle area the code computes obeys Eriksson's formula. -/
theorem triangle_area_eriksson {x y z : R3} (hx : dotR x x = 1) (hy : dotR y y = 1) (hz : dotR z z = 1)
    (hV : 0 < tripleR x y z) (hD : 0 < 1 + dotR x y + dotR y z + dotR z x) :
    Real.tan (triAreaR x y z / 2) = tripleR x y z / (1 + dotR x y + dotR y z + dotR z x) ∧
      0 < triAreaR x y z ∧ triAreaR x y z < Real.pi :=
  ⟨eriksson hx hy hz hD, triAreaR_mem hx hy hz hV hD⟩

open A5.RadialRoundTrip A5.AngularRoundTrip in
/-- T7b. The inverse's `q = (2/θ)·atan2(g, f)` recovers the parameter of `P = slerp(b, c, q)` from
`α = area(a, b, P)`, and conversely the point it designates for a given `α ∈ (0, area(a,b,c))` has `area(a, b, P) = α`. -/
theorem angular_roundtrip {a b c : R3} (ha : dotR a a = 1) (hb : dotR b b = 1) (hc : dotR c c = 1)
    (hV : 0 < tripleR a b c) (hD : 0 < 1 + dotR a b + dotR b c + dotR c a) (hγ : slerpSwitch ≤ angleR b c) :
    (∀ q : ℝ, 0 ≤ q → q ≤ 1 → edgeParamR a b c (triAreaR a b (slerpR b c q)) = q) ∧
    (∀ alpha : ℝ, 0 < alpha → alpha < triAreaR a b c →
      0 < edgeParamR a b c alpha ∧ edgeParamR a b c alpha < 1 ∧
        triAreaR a b (slerpR b c (edgeParamR a b c alpha)) = alpha) :=
  ⟨fun _ h0 h1 => (angular_inverse_formula ha hb hc hV hD hγ h0 h1).2,
   fun _ h0 h1 => angular_forward_formula ha hb hc hV hD hγ h0 h1⟩

open A5.RadialRoundTrip A5.AngularRoundTrip in
/-- T8. For every point `v = slerp(a, slerp(b, c, q), s)` of the spherical triangle
(`0 ≤ q ≤ 1`, `0 < s ≤ 1`), the forward map finds `P = slerp(b, c, q)` and `inverse(forward v) = v` - exactly with
`2·arcsin`, and within 5e-16 (as a chord) with the code's two-branch `safe_acos`. -/
theorem polyhedral_roundtrip_real {a b c : R3} {q s : ℝ} (ha : dotR a a = 1) (hb : dotR b b = 1)
    (hc : dotR c c = 1) (hV : 0 < tripleR a b c) (hD : 0 < 1 + dotR a b + dotR b c + dotR c a)
    (hγ : slerpSwitch ≤ angleR b c) (hγ' : slerpSwitch ≤ angleR a (slerpR b c q))
    (hq0 : 0 ≤ q) (hq1 : q ≤ 1) (hs0 : 0 < s) (hs1 : s ≤ 1) :
    forwardPointR a b c (slerpR a (slerpR b c q) s) = slerpR b c q ∧
    inverseBaryR a b c (forwardBaryR a b c (slerpR a (slerpR b c q) s)) = slerpR a (slerpR b c q) s ∧
    lengthR (subR (inverseBarySafeR a b c (forwardBaryR a b c (slerpR a (slerpR b c q) s)))
      (slerpR a (slerpR b c q) s)) ≤ 5e-16 :=
  ⟨(polyhedral_roundtrip_exact ha hb hc hV hD hγ hγ' hq0 hq1 hs0 hs1).1,
   (polyhedral_roundtrip_exact ha hb hc hV hD hγ hγ' hq0 hq1 hs0 hs1).2,
   (polyhedral_roundtrip_safeAcos ha hb hc hV hD hγ hγ' hq0 hq1 hs0 hs1).2⟩

/-! ## T9: the round trip on the generic twins of the model functions -/

open A5.GP A5.PolyTies in
/-- T9. The SAME generic definitions that, instantiated at `Float`, are the model's
`polyhedralForward` / `polyhedralInverse` (`GP.polyhedralForward_tie`, `GP.polyhedralInverse_tie`), instantiated at `ℝ`
(libm read as the real functions, generated switches as their exact values) satisfy `inverse (forward v) = v` within
5e-16 on every point `v = slerp(a, slerp(b, c, q), s)` of a counter-clockwise unit triangle - including the vertex
snapping and the two-branch `safe_acos` - under the stated branch hypotheses (areas on the asin branch, no snap). -/
theorem polyhedral_roundtrip_twin {a b c : T3 ℝ} {q s : ℝ} (ha : dotG a a = 1) (hb : dotG b b = 1)
    (hc : dotG c c = 1) (hV : 0 < tripleG a b c) (hD : 0 < 1 + dotG a b + dotG b c + dotG c a)
    (hγ : realKit.slerpSwitch ≤ angleG realKit b c)
    (hγ' : realKit.slerpSwitch ≤ angleG realKit a (slerpG realKit b c q))
    (hq0 : 0 ≤ q) (hq1 : q ≤ 1) (hs0 : 0 < s) (hs1 : s ≤ 1)
    (hE : AreaAgreesG a b c) (hE2 : AreaAgreesG a (slerpG realKit b c q) c)
    (hE3 : AreaAgreesG a b (slerpG realKit b c q))
    (hn1 : ¬ (forwardBaryG realKit a b c (slerpG realKit a (slerpG realKit b c q) s)).1
      > realKit.one - realKit.snapEps)
    (hn2 : ¬ (forwardBaryG realKit a b c (slerpG realKit a (slerpG realKit b c q) s)).2.1
      > realKit.one - realKit.snapEps)
    (hn3 : ¬ (forwardBaryG realKit a b c (slerpG realKit a (slerpG realKit b c q) s)).2.2
      > realKit.one - realKit.snapEps) :
    dotG (inverseBaryG realKit a b c (forwardBaryG realKit a b c (slerpG realKit a (slerpG realKit b c q) s)))
        (inverseBaryG realKit a b c (forwardBaryG realKit a b c (slerpG realKit a (slerpG realKit b c q) s))) = 1 ∧
    lengthG realKit (subG (inverseBaryG realKit a b c (forwardBaryG realKit a b c
        (slerpG realKit a (slerpG realKit b c q) s))) (slerpG realKit a (slerpG realKit b c q) s)) ≤ 5e-16 :=
  polyhedral_roundtrip_full_twin ha hb hc hV hD hγ hγ' hq0 hq1 hs0 hs1 hE hE2 hE3 hn1 hn2 hn3

/-- the Float model IS the twin at `Float` (no float arithmetic is reasoned about: structure only) -/
theorem model_is_twin (v : V3) (st : SphTriangle) (ft : FaceTriangle) (fp : V2) :
    polyhedralForward v st ft =
      barycentricToFace (GP.forwardBaryG GP.floatKit (GP.toT st.a) (GP.toT st.b) (GP.toT st.c) (GP.toT v)) ft ∧
    GP.toT (polyhedralInverse fp ft st) =
      GP.inverseBaryG GP.floatKit (GP.toT st.a) (GP.toT st.b) (GP.toT st.c) (faceToBarycentric fp ft) :=
  ⟨GP.polyhedralForward_tie v st ft, GP.polyhedralInverse_tie fp ft st⟩

/-! ### T10-T14: the triangles the running library actually uses

`A5.Gen.Runtime.SPH_TRIANGLES` holds the 240 spherical triangles (12 faces x 10 face triangles x plain / reflected) as the library computes
them at start-up, as exact rationals; `tools/gen_runtime.py` regenerates the table on every run, compares it bit for bit with what
the model computes and cross-checks every vertex with the library's own CRS snap.  T7-T9 above are stated for ANY triangle that
satisfies their hypotheses; the theorems below discharge those hypotheses for every row of the table (a rational certificate
evaluated in the kernel on all 240 rows, then lifted to the normalised real triangle), so the round trip is a theorem about the
configuration the code runs with, not about a hypothetical one. -/

open A5.RuntimeTriangles A5.RadialRoundTrip A5.AngularRoundTrip A5.Gen.Runtime in
/-- **T10.** the table has 240 rows (that these are keyed by every (origin, face triangle, reflected) exactly once is
`RuntimeTriangles.runtime_keys`), every row passes the certificate, and the normalised triangle of every row satisfies `TriHyp` -/
theorem runtime_table_complete :
    SPH_TRIANGLES.length = 240 ∧ (∀ t ∈ SPH_TRIANGLES, TriOK t.2.2.2) ∧
    ∀ t ∈ SPH_TRIANGLES, TriHyp (entryA t) (entryB t) (entryC t) :=
  ⟨runtime_count, runtime_triangles_ok, runtime_hyp⟩

open A5.RuntimeTriangles A5.RadialRoundTrip A5.AngularRoundTrip A5.Gen.Runtime in
/-- **T11.** T8 (`polyhedral_roundtrip_real`) for every triangle of the table and EVERY point `slerp(a, slerp(b, c, q), s)`,
`0 ≤ q ≤ 1`, `0 < s ≤ 1`, with no hypothesis left: exact round trip with `2 arcsin`, within 5e-16 with the code's `safe_acos` -/
theorem runtime_roundtrip : ∀ t ∈ SPH_TRIANGLES, ∀ q s : ℝ, 0 ≤ q → q ≤ 1 → 0 < s → s ≤ 1 →
    forwardPointR (entryA t) (entryB t) (entryC t) (slerpR (entryA t) (slerpR (entryB t) (entryC t) q) s)
      = slerpR (entryB t) (entryC t) q ∧
    inverseBaryR (entryA t) (entryB t) (entryC t)
        (forwardBaryR (entryA t) (entryB t) (entryC t) (slerpR (entryA t) (slerpR (entryB t) (entryC t) q) s))
      = slerpR (entryA t) (slerpR (entryB t) (entryC t) q) s ∧
    lengthR (subR (inverseBarySafeR (entryA t) (entryB t) (entryC t)
        (forwardBaryR (entryA t) (entryB t) (entryC t) (slerpR (entryA t) (slerpR (entryB t) (entryC t) q) s)))
      (slerpR (entryA t) (slerpR (entryB t) (entryC t) q) s)) ≤ 5e-16 :=
  A5.RuntimeTriangles.runtime_roundtrip

open A5.RuntimeTriangles A5.RadialRoundTrip A5.AngularRoundTrip A5.Gen.Runtime in
/-- **T12.** T7b (`angular_roundtrip`) for every triangle of the table -/
theorem runtime_angular_roundtrip : ∀ t ∈ SPH_TRIANGLES,
    (∀ q : ℝ, 0 ≤ q → q ≤ 1 →
      edgeParamR (entryA t) (entryB t) (entryC t) (triAreaR (entryA t) (entryB t) (slerpR (entryB t) (entryC t) q)) = q) ∧
    (∀ alpha : ℝ, 0 < alpha → alpha < triAreaR (entryA t) (entryB t) (entryC t) →
      0 < edgeParamR (entryA t) (entryB t) (entryC t) alpha ∧ edgeParamR (entryA t) (entryB t) (entryC t) alpha < 1 ∧
        triAreaR (entryA t) (entryB t)
          (slerpR (entryB t) (entryC t) (edgeParamR (entryA t) (entryB t) (entryC t) alpha)) = alpha) :=
  A5.RuntimeTriangles.runtime_angular_roundtrip

open A5.RuntimeTriangles A5.RadialRoundTrip A5.AngularRoundTrip A5.Gen.Runtime A5.GP A5.PolyTies in
/-- **T13.** T9 (`polyhedral_roundtrip_twin`: the generic twins of the code's forward / inverse at the reals, vertex snapping and
two-branch `safe_acos` included) for every triangle of the table, every `q` in `[1e-4, 1 - 1e-4]` and `0 < s ≤ 1`; the only
hypotheses left are the three no-snap conditions (no barycentric coordinate above `1 - POLY_SNAP_EPS`) -/
theorem runtime_roundtrip_twin_mid : ∀ t ∈ SPH_TRIANGLES, ∀ q s : ℝ, 1 / 10 ^ 4 ≤ q → q ≤ 1 - 1 / 10 ^ 4 →
    0 < s → s ≤ 1 →
    ¬ (forwardBaryG realKit (toTR (entryA t)) (toTR (entryB t)) (toTR (entryC t))
        (slerpG realKit (toTR (entryA t)) (slerpG realKit (toTR (entryB t)) (toTR (entryC t)) q) s)).1
      > realKit.one - realKit.snapEps →
    ¬ (forwardBaryG realKit (toTR (entryA t)) (toTR (entryB t)) (toTR (entryC t))
        (slerpG realKit (toTR (entryA t)) (slerpG realKit (toTR (entryB t)) (toTR (entryC t)) q) s)).2.1
      > realKit.one - realKit.snapEps →
    ¬ (forwardBaryG realKit (toTR (entryA t)) (toTR (entryB t)) (toTR (entryC t))
        (slerpG realKit (toTR (entryA t)) (slerpG realKit (toTR (entryB t)) (toTR (entryC t)) q) s)).2.2
      > realKit.one - realKit.snapEps →
    dotG (inverseBaryG realKit (toTR (entryA t)) (toTR (entryB t)) (toTR (entryC t))
          (forwardBaryG realKit (toTR (entryA t)) (toTR (entryB t)) (toTR (entryC t))
            (slerpG realKit (toTR (entryA t)) (slerpG realKit (toTR (entryB t)) (toTR (entryC t)) q) s)))
        (inverseBaryG realKit (toTR (entryA t)) (toTR (entryB t)) (toTR (entryC t))
          (forwardBaryG realKit (toTR (entryA t)) (toTR (entryB t)) (toTR (entryC t))
            (slerpG realKit (toTR (entryA t)) (slerpG realKit (toTR (entryB t)) (toTR (entryC t)) q) s))) = 1 ∧
    lengthG realKit (subG (inverseBaryG realKit (toTR (entryA t)) (toTR (entryB t)) (toTR (entryC t))
          (forwardBaryG realKit (toTR (entryA t)) (toTR (entryB t)) (toTR (entryC t))
            (slerpG realKit (toTR (entryA t)) (slerpG realKit (toTR (entryB t)) (toTR (entryC t)) q) s)))
        (slerpG realKit (toTR (entryA t)) (slerpG realKit (toTR (entryB t)) (toTR (entryC t)) q) s)) ≤ 5e-16 :=
  A5.RuntimeTriangles.runtime_roundtrip_twin_mid

open A5.RuntimeTriangles A5.RadialRoundTrip A5.AngularRoundTrip A5.Gen.Runtime A5.GP A5.PolyTies in
/-- **T14.** T13 with the no-snap conditions DISCHARGED: for every triangle of the table, every `q` in `[1e-4, 1 - 1e-4]` and
every `s` in `[2e-14, 1]` the generic twins of the code's forward and inverse (vertex snapping, two-branch `safe_acos`, both area
branches) round-trip within 5e-16 - no hypothesis about the point besides the two ranges.  (Below `s` ~ 1e-14 the code snaps to
the apex; within 1e-4 of the ends of the far edge the sub-triangle area may be on the other branch of `get_triangle_area`.)
Ingredients: additivity of the code's area function along the edge (`area_additive`), `3/5 s ≤ h ≤ 1` for the radial
coordinate (`radial_h_bounds`), a kernel-checked bound on the regenerated snap constant. -/
theorem runtime_roundtrip_twin_interior : ∀ t ∈ SPH_TRIANGLES, ∀ q s : ℝ, 1 / 10 ^ 4 ≤ q → q ≤ 1 - 1 / 10 ^ 4 →
    2 / 10 ^ 14 ≤ s → s ≤ 1 →
    dotG (inverseBaryG realKit (toTR (entryA t)) (toTR (entryB t)) (toTR (entryC t))
          (forwardBaryG realKit (toTR (entryA t)) (toTR (entryB t)) (toTR (entryC t))
            (slerpG realKit (toTR (entryA t)) (slerpG realKit (toTR (entryB t)) (toTR (entryC t)) q) s)))
        (inverseBaryG realKit (toTR (entryA t)) (toTR (entryB t)) (toTR (entryC t))
          (forwardBaryG realKit (toTR (entryA t)) (toTR (entryB t)) (toTR (entryC t))
            (slerpG realKit (toTR (entryA t)) (slerpG realKit (toTR (entryB t)) (toTR (entryC t)) q) s))) = 1 ∧
    lengthG realKit (subG (inverseBaryG realKit (toTR (entryA t)) (toTR (entryB t)) (toTR (entryC t))
          (forwardBaryG realKit (toTR (entryA t)) (toTR (entryB t)) (toTR (entryC t))
            (slerpG realKit (toTR (entryA t)) (slerpG realKit (toTR (entryB t)) (toTR (entryC t)) q) s)))
        (slerpG realKit (toTR (entryA t)) (slerpG realKit (toTR (entryB t)) (toTR (entryC t)) q) s)) ≤ 5e-16 :=
  A5.RuntimeTriangles.runtime_roundtrip_twin_interior

end A5.C15
