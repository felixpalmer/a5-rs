import A5.Lemmas.HilbertOrient
import A5.Lemmas.PentagonCentre
/-! # C17 — within a quintant, curve position ↦ cell is a bijection, and locating a cell returns its position

"For every curve depth n and each of the six curve orientations, the 4^n positions map to 4^n pairwise
distinct pentagons whose centres all lie in the quintant's triangle, and locating the centre of the pentagon at
position s returns s.  Thus positions and cells of a quintant correspond one-to-one, with no position unused
and no cell reachable twice."

Model: `A5.sToAnchor`, `A5.ijToS` and everything below them (`A5/Model/Hilbert.lean`); the tables `PATTERN`,
`PATTERN_FLIPPED`, `QUATERNARY_TO_FLIPS`, `KJ_PQ_TABLE`, `KJ_DIGIT_COEFF`, `FLIP_SHIFT` and the orientation
flag sets are the generated ones.  All theorems hold for EVERY depth `n ≤ 30` (the range in which the
overflow-checked shifts `1 << 2n` (u64) and `1 << n` (i32) do not panic; the API uses 0..29), every orientation
code `o < 6` and all `4^n` positions.  The geometric statements are over an arbitrary linearly ordered field
`K` (ℚ, ℝ); `ijToS` is evaluated with exact field arithmetic (`fieldLits`).

The cell of position `s` is represented by its *anchor* `a = sToAnchor s n o` (integer lattice offset + flip
pair) and the open unit lattice triangle `anchorTri a = a.offset + T(a.flips)` (`InT`, four triangle shapes):
the pentagon of the cell is drawn inside this triangle by `getPentagonVertices`.

The pentagon layer (T12-T15): `A5.PG.pentagonQ a` is the pentagon `get_pentagon_vertices` draws for anchor `a` in
the lattice frame of the quintant (`A5/Model/PentagonG.lean`: generic twin of the `Float` model, tied to it by
`pentagonLocal_tie`), evaluated in EXACT rational arithmetic on the `f64` constants the running library computes at
start-up (`A5.Gen.Runtime`, regenerated from the running code and cross-checked bit-for-bit on every check run).
T12 proves that its centre (`get_center`, then `face_to_ij`) lies strictly inside `anchorTri a` for every position of
every depth (the proof has a margin of 0.148 lattice units, `PG.local_margin`; the statement is membership); T13 that locating that centre returns `s`;
T14 that the `4^n` pentagons are pairwise distinct; T15 that all centres lie in the quintant triangle.

NOT covered (the float residue): that the `f64` evaluation of the same expressions stays within the 0.14 margin
of the exact one (the rounding error of five additions and a 2x2 product is about 1e-16 relative to coordinates
below 2^30, i.e. below 1e-6 lattice units; this is measured on every run by the C17 suite, not proved), and the
final scale by `2^-res` and quintant rotation, which C17 ("within a quintant") does not involve. -/
namespace A5.C17
open A5 A5.HilbertLocate

/-- T1. Both shift patterns are permutations of `0..7`, and `reversePattern` is the inverse permutation. -/
theorem patterns_are_permutations :
    IsPerm8 Gen.PATTERN ∧ IsPerm8 Gen.PATTERN_FLIPPED ∧
    ∀ P, IsPerm8 P → IsPerm8 (reversePattern P) ∧
      ∀ v, v < 8 → (reversePattern P).getD (P.getD v 0) 0 = v ∧ P.getD ((reversePattern P).getD v 0) 0 = v :=
  ⟨isPerm8_PATTERN, isPerm8_PATTERN_FLIPPED, fun _ h =>
    ⟨h.reverse, fun v hv => ⟨h.invOn8.left v hv, h.invOn8.right v hv⟩⟩⟩

/-- T2. `unshift ∘ shift = id`: the bottom-up pass of `ij_to_s` (reversed pattern, started from the product of
the flips of the shifted digits) undoes the top-down pass of `s_to_anchor`, for every depth, every digit
list, both values of `invertJ` and every permutation pattern. -/
theorem unshift_shift {P : List Nat} (hP : IsPerm8 P) (invertJ : Bool) (n : Nat) (ds : List Nat)
    (hlen : ds.length = n) (hlt : ∀ x ∈ ds, x < 4) :
    ((shiftDown invertJ P n ds (Gen.NO, Gen.NO)).1.length = n ∧
      ∀ x ∈ (shiftDown invertJ P n ds (Gen.NO, Gen.NO)).1, x < 4) ∧
    (shiftDown invertJ P n ds (Gen.NO, Gen.NO)).2 = flipsProd (shiftDown invertJ P n ds (Gen.NO, Gen.NO)).1 ∧
    shiftUp invertJ (reversePattern P) n 0 (shiftDown invertJ P n ds (Gen.NO, Gen.NO)).1
      (shiftDown invertJ P n ds (Gen.NO, Gen.NO)).2 = ds :=
  shiftUp_shiftDown hP invertJ n ds hlen hlt

/-- T3. `shift ∘ unshift = id`: so the two passes are mutually inverse bijections of the set of digit lists. -/
theorem shift_unshift {P : List Nat} (hP : IsPerm8 P) (invertJ : Bool) (n : Nat) (e : List Nat)
    (hlen : e.length = n) (hlt : ∀ x ∈ e, x < 4) :
    shiftDown invertJ P n (shiftUp invertJ (reversePattern P) n 0 e (flipsProd e)) (Gen.NO, Gen.NO) =
      (e, flipsProd e) :=
  shiftDown_shiftUp hP invertJ n e hlen hlt

/-- T4. Position ↦ shifted digit list is a bijection from `{s < 4^n}` onto the lists of `n` base-4 digits. -/
theorem shifted_digits_bijective (n : Nat) (invertJ flipIJ : Bool) :
    (∀ s, (shiftedDigits s n invertJ flipIJ).length = n ∧ ∀ x ∈ shiftedDigits s n invertJ flipIJ, x < 4) ∧
    (∀ s t, s < 4 ^ n → t < 4 ^ n → shiftedDigits s n invertJ flipIJ = shiftedDigits t n invertJ flipIJ → s = t) ∧
    (∀ e : List Nat, e.length = n → (∀ x ∈ e, x < 4) → ∃ s, s < 4 ^ n ∧ shiftedDigits s n invertJ flipIJ = e) :=
  ⟨fun s => shiftedDigits_spec s n invertJ flipIJ,
    fun s t hs ht h => shiftedDigits_injective n invertJ flipIJ s t hs ht h,
    fun e hl hlt => shiftedDigits_surjective n invertJ flipIJ e hl hlt⟩

/-- The two Rust functions derive the same `reverse` / `invert_j` / `flip_ij` flags from an orientation, and no
orientation sets both `flip_ij` and `invert_j` (the stage orders of the two functions are only compatible
because of this). -/
theorem orientation_flags_consistent : ∀ o, o < 6 →
    Gen.IJ2S_REVERSE_SET.contains o = oriReverse o ∧ Gen.IJ2S_INVERT_J_SET.contains o = oriInvertJ o ∧
      Gen.IJ2S_FLIP_IJ_SET.contains o = oriFlipIJ o ∧ ¬(oriFlipIJ o = true ∧ oriInvertJ o = true) :=
  fun o ho => ⟨(flags_agree o ho).1, (flags_agree o ho).2.1, (flags_agree o ho).2.2, flags_exclusive o ho⟩

section field
variable (K : Type) [Field K] [LinearOrder K] [IsStrictOrderedRing K]

/-- T5. `s_to_anchor` never panics on `s < 4^n` (`n ≤ 30`), its flips are a `±1` pair, and
`ij_to_s` of ANY point strictly inside the anchor's lattice triangle returns `s`. -/
theorem locate_anchor (n o s : Nat) (hn : n ≤ 30) (ho : o < 6) (hs : s < 4 ^ n) :
    ∃ a, sToAnchor s n o = .ok a ∧ IsFlip a.flips ∧
      ∀ x y : K, anchorTri a x y → ijToS fieldLits x y n o = .ok s :=
  A5.locate_anchor K n o s hn ho hs

/-- T5'. In particular the explicit interior point `offset + interiorPt flips` (the centroid of the lattice
triangle) is located at `s`: the hypothesis of T5 is never vacuous. -/
theorem locate_centroid (n o s : Nat) (hn : n ≤ 30) (ho : o < 6) (hs : s < 4 ^ n) :
    ∃ a, sToAnchor s n o = .ok a ∧
      ijToS (fieldLits : Lits K) ((a.offset.1 : K) + (interiorPt a.flips).1)
        ((a.offset.2 : K) + (interiorPt a.flips).2) n o = .ok s := by
  obtain ⟨a, ha, hF, h⟩ := A5.locate_anchor K n o s hn ho hs
  exact ⟨a, ha, h _ _ (anchorTri_nonempty a hF)⟩

/-- T6a. The lattice triangles of two different positions are disjoint. -/
theorem triangles_disjoint (n o s t : Nat) (hn : n ≤ 30) (ho : o < 6) (hs : s < 4 ^ n) (ht : t < 4 ^ n)
    (a b : Anchor) (ha : sToAnchor s n o = .ok a) (hb : sToAnchor t n o = .ok b) (x y : K)
    (hxa : anchorTri a x y) (hxb : anchorTri b x y) : s = t :=
  anchorTri_disjoint K n o s t hn ho hs ht a b ha hb x y hxa hxb

/-- T6. Two different positions never have the same anchor — already the pair
`(offset, flips)` differs. -/
theorem positions_injective (n o s t : Nat) (hn : n ≤ 30) (ho : o < 6) (hs : s < 4 ^ n) (ht : t < 4 ^ n)
    (hne : s ≠ t) (a b : Anchor) (ha : sToAnchor s n o = .ok a) (hb : sToAnchor t n o = .ok b) :
    (a.offset, a.flips) ≠ (b.offset, b.flips) := by
  intro h
  exact hne (anchor_injective n o s t hn ho hs ht a b ha hb (congrArg Prod.fst h) (congrArg Prod.snd h))

/-- T7. The `4^n` anchor triangles TILE the quintant triangle.  Every point
of `{x > 0, y > 0, x + y < 2^n}` that is on no lattice line (`x`, `y`, `x + y ∉ ℤ`) lies in the anchor
triangle of exactly one position `s < 4^n` — no unit lattice triangle of the quintant is missed and none
is used twice — and `ij_to_s` returns that position. -/
theorem positions_onto_lattice_triangles (n o : Nat) (hn : n ≤ 30) (ho : o < 6) (x y : K)
    (hq : 0 < x ∧ 0 < y ∧ x + y < 2 ^ n) (hoff : OffLattice x y) :
    ∃ s, (s < 4 ^ n ∧ (∃ a, sToAnchor s n o = .ok a ∧ anchorTri a x y) ∧ ijToS fieldLits x y n o = .ok s) ∧
      ∀ t, t < 4 ^ n → (∃ b, sToAnchor t n o = .ok b ∧ anchorTri b x y) → t = s := by
  obtain ⟨s, hs, a, ha, hxa⟩ := anchor_onto n o hn ho x y hq hoff
  obtain ⟨a', ha', _, h1⟩ := A5.locate_anchor K n o s hn ho hs
  cases Outcome.ok.inj (ha.symm.trans ha')
  refine ⟨s, ⟨hs, ⟨a, ha, hxa⟩, h1 x y hxa⟩, ?_⟩
  rintro t ht ⟨b, hb, hxb⟩
  exact triangles_disjoint K n o t s hn ho ht hs b a hb ha x y hxb hxa

/-- T8 (lattice form). Every anchor triangle, hence every point located at a
position of the curve, lies in the quintant triangle `{x > 0, y > 0, x + y < 2^n}`. -/
theorem centres_in_quintant_triangle (n o s : Nat) (hn : n ≤ 30) (ho : o < 6) (hs : s < 4 ^ n) (a : Anchor)
    (ha : sToAnchor s n o = .ok a) (x y : K) (h : anchorTri a x y) : 0 < x ∧ 0 < y ∧ x + y < 2 ^ n :=
  anchor_in_quintant K n o s hn ho hs a ha x y h

end field

/-- T9. `s_to_anchor` is total on the positions of the curve (overflow-checked build, `n ≤ 30`). -/
theorem sToAnchor_total (n o s : Nat) (hn : n ≤ 30) (hs : s < 4 ^ n) : ∃ a, sToAnchor s n o = .ok a :=
  ⟨_, sToAnchor_eq s n o hn hs⟩

section generic
variable {α : Type} [Add α] [Sub α] [Mul α] [Neg α] [LT α] [DecidableLT α]

/-- T10. Every successful result of `ij_to_s` is a position `< 4^n` — for every scalar type and
literal structure (so also for the `f64` executable), every input point, depth and orientation code. -/
theorem ijToS_lt (L : Lits α) (x y : α) (n o s : Nat) (h : ijToS L x y n o = .ok s) : s < 4 ^ n :=
  A5.ijToS_lt L x y n o s h

/-- T11. For `n ≤ 30` and `o < 6`, `ij_to_s` never panics, whatever the scalar type and the input point. -/
theorem ijToS_total (L : Lits α) (x y : α) (n o : Nat) (hn : n ≤ 30) (ho : o < 6) :
    ∃ s, ijToS L x y n o = .ok s ∧ s < 4 ^ n :=
  ⟨_, ijToS_eq L x y n o hn ho, A5.ijToS_lt L x y n o _ (ijToS_eq L x y n o hn ho)⟩

end generic

/-- the offsets of every anchor of the curve are within `-1 .. 2^n + 1` (indeed within `0 .. 2^n`:
`offset_bounds_of_centroid`) -/
theorem anchor_offset_range (n o s : Nat) (hn : n ≤ 30) (ho : o < 6) (hs : s < 4 ^ n) (a : Anchor)
    (ha : sToAnchor s n o = .ok a) :
    (-1 ≤ a.offset.1 ∧ a.offset.1 ≤ 2 ^ n + 1) ∧ (-1 ≤ a.offset.2 ∧ a.offset.2 ≤ 2 ^ n + 1) := by
  have hF := sToAnchor_isFlip s n o hn hs a ha
  obtain ⟨h1, h2, h3⟩ := anchor_in_quintant ℚ n o s hn ho hs a ha _ _ (anchorTri_nonempty (K := ℚ) a hF)
  have := offset_bounds_of_centroid a.flips hF a.offset.1 a.offset.2 (2 ^ n) h1 h2 (by push_cast; exact h3)
  omega

/-- T12. For every depth `n ≤ 30`, orientation and position, the exact centre of the
pentagon drawn for position `s` lies strictly inside the lattice triangle of its anchor. -/
theorem centre_in_anchor_triangle (n o s : Nat) (hn : n ≤ 30) (ho : o < 6) (hs : s < 4 ^ n) :
    ∃ a, sToAnchor s n o = .ok a ∧ anchorTri a (PG.centreIJ a).1 (PG.centreIJ a).2 := by
  obtain ⟨a, ha, hF, _⟩ := A5.locate_anchor ℚ n o s hn ho hs
  obtain ⟨⟨l1, u1⟩, ⟨l2, u2⟩⟩ := anchor_offset_range n o s hn ho hs a ha
  have hp : (2 : Int) ^ n + 1 ≤ 2 ^ 31 := by
    have : (2 : Int) ^ n ≤ 2 ^ 30 := pow_le_pow_right₀ (by norm_num) hn
    omega
  refine ⟨a, ha, PG.centreIJ_in_anchorTri a hF ⟨by omega, by omega⟩ ⟨by omega, by omega⟩⟩

/-- T13. "Locating the centre of the pentagon at position `s` returns `s`" — in exact arithmetic,
for the pentagon built from the constants the library really uses. -/
theorem centre_located (n o s : Nat) (hn : n ≤ 30) (ho : o < 6) (hs : s < 4 ^ n) :
    ∃ a, sToAnchor s n o = .ok a ∧
      ijToS fieldLits (PG.centreIJ a).1 (PG.centreIJ a).2 n o = .ok s := by
  obtain ⟨a, ha, hc⟩ := centre_in_anchor_triangle n o s hn ho hs
  obtain ⟨a', ha', _, h⟩ := A5.locate_anchor ℚ n o s hn ho hs
  cases Outcome.ok.inj (ha.symm.trans ha')
  exact ⟨a, ha, h _ _ hc⟩

/-- T14. Different positions get different pentagons (already their centres differ). -/
theorem pentagons_distinct (n o s t : Nat) (hn : n ≤ 30) (ho : o < 6) (hs : s < 4 ^ n) (ht : t < 4 ^ n) (hne : s ≠ t)
    (a b : Anchor) (ha : sToAnchor s n o = .ok a) (hb : sToAnchor t n o = .ok b) :
    PG.centreIJ a ≠ PG.centreIJ b ∧ PG.pentagonQ a ≠ PG.pentagonQ b := by
  have key : PG.centreIJ a ≠ PG.centreIJ b := by
    intro h
    obtain ⟨a', ha', ha2⟩ := centre_located n o s hn ho hs
    obtain ⟨b', hb', hb2⟩ := centre_located n o t hn ho ht
    cases Outcome.ok.inj (ha.symm.trans ha')
    cases Outcome.ok.inj (hb.symm.trans hb')
    rewrite [h] at ha2
    exact hne (Outcome.ok.inj (ha2.symm.trans hb2))
  refine ⟨key, fun h => key ?_⟩
  unfold PG.centreIJ PG.centreQ
  rewrite [h]
  rfl

/-- T15. Every pentagon centre lies in the (open) quintant triangle
`{x > 0, y > 0, x + y < 2^n}` of lattice coordinates. -/
theorem centres_in_quintant (n o s : Nat) (hn : n ≤ 30) (ho : o < 6) (hs : s < 4 ^ n) (a : Anchor)
    (ha : sToAnchor s n o = .ok a) :
    0 < (PG.centreIJ a).1 ∧ 0 < (PG.centreIJ a).2 ∧ (PG.centreIJ a).1 + (PG.centreIJ a).2 < 2 ^ n := by
  obtain ⟨a', ha', hc⟩ := centre_in_anchor_triangle n o s hn ho hs
  cases Outcome.ok.inj (ha.symm.trans ha')
  exact anchor_in_quintant ℚ n o s hn ho hs a ha _ _ hc

/-- T12/T13 on a concrete position, evaluated independently of the theorems: the exact centre of the pentagon of
position 6, depth 2, orientation 3 and where `ij_to_s` puts it -/
example : sToAnchor 6 2 3 = .ok ⟨1, (3, 0), (1, -1)⟩ ∧
    ijToS fieldLits (PG.centreIJ ⟨1, (3, 0), (1, -1)⟩).1 (PG.centreIJ ⟨1, (3, 0), (1, -1)⟩).2 2 3 = .ok 6 := by
  decide +kernel

/-! ## non-vacuity: concrete instances at depth 2, orientations 3 (`WU`: reverse + flipIJ) and 5 (`WV`: invertJ) -/

/-- the anchors of position 6 in orientation 3 and of position 11 in orientation 5 -/
example : sToAnchor 6 2 3 = .ok ⟨1, (3, 0), (1, -1)⟩ := by decide
example : sToAnchor 11 2 5 = .ok ⟨2, (2, 1), (-1, -1)⟩ := by decide

/-- T5 instantiated (orientation 3): `(8/3, 2/3) = (3,0) + (-1/3, 2/3)` lies in the triangle of position 6 -/
example : ijToS fieldLits (8 / 3 : ℚ) (2 / 3) 2 3 = .ok 6 := by
  obtain ⟨a, ha, _, h⟩ := locate_anchor ℚ 2 3 6 (by decide) (by decide) (by decide)
  have e : sToAnchor 6 2 3 = .ok ⟨1, (3, 0), (1, -1)⟩ := by decide
  cases Outcome.ok.inj (ha.symm.trans e)
  exact h _ _ (by rw [anchorTri, inT_pm]; norm_num)

/-- T5 instantiated (orientation 5): `(5/3, 2/3) = (2,1) + (-1/3, -1/3)` lies in the triangle of position 11 -/
example : ijToS fieldLits (5 / 3 : ℚ) (2 / 3) 2 5 = .ok 11 := by
  obtain ⟨a, ha, _, h⟩ := locate_anchor ℚ 2 5 11 (by decide) (by decide) (by decide)
  have e : sToAnchor 11 2 5 = .ok ⟨2, (2, 1), (-1, -1)⟩ := by decide
  cases Outcome.ok.inj (ha.symm.trans e)
  exact h _ _ (by rw [anchorTri, inT_mm]; norm_num)

/-- the same two facts by direct evaluation of the model over `ℚ`, independently of the theorems -/
example : ijToS fieldLits (8 / 3 : ℚ) (2 / 3) 2 3 = .ok 6 := by decide +kernel
example : ijToS fieldLits (5 / 3 : ℚ) (2 / 3) 2 5 = .ok 11 := by decide +kernel

/-- T6 is not vacuous: positions 8 and 12 of orientation 3 share the offset `(2,1)` and differ in the flips -/
example : sToAnchor 8 2 3 = .ok ⟨2, (2, 1), (1, -1)⟩ ∧ sToAnchor 12 2 3 = .ok ⟨3, (2, 1), (-1, -1)⟩ := by decide

/-- T7's hypotheses are satisfiable: `(8/3, 2/3)` is in the quintant triangle of depth 2 and on no lattice line -/
example : (0 : ℚ) < 8 / 3 ∧ (0 : ℚ) < 2 / 3 ∧ (8 / 3 : ℚ) + 2 / 3 < 2 ^ 2 := by norm_num
example : OffLattice (8 / 3 : ℚ) (2 / 3) := by
  have key : ∀ (q : ℚ), q.den ≠ 1 → ∀ z : Int, q ≠ (z : ℚ) := by
    intro q hq z hz
    rewrite [hz] at hq
    exact hq (Rat.den_intCast z)
  intro z
  refine ⟨key _ (by decide +kernel) z, key _ (by decide +kernel) z, key _ (by decide +kernel) z⟩

/-- T10 at the executable scalar type -/
example (x y : Float) (n o s : Nat) (h : ijToS floatLits x y n o = .ok s) : s < 4 ^ n := ijToS_lt floatLits x y n o s h

end A5.C17
