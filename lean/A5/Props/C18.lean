import A5.Lemmas.OriginLemmas
import A5.Lemmas.Haversine
/-! # C18 — the twelve base cells: dodecahedron frame, nearest-face rule, quintant ↔ segment relabelling

Rust: `src/core/origin.rs`, `src/core/dodecahedron_quaternions.rs`.
Model: `A5.origins`, `A5.originAt`, `A5.quintantToSegment`, `A5.segmentToQuintant`, `A5.haversine`,
`A5.findNearestOrigin`, `A5.quatAt`, `A5.transformQuat` (`A5/Model/Geo.lean`); the tables
(`A5/Gen/Tables.lean`) are regenerated from the Rust source on every run.
Float-free mirrors with the same bodies: `quintantToSegmentI`, `segmentToQuintantI`, `haversineG`, `argminGo`,
`transformQuatG`, `quatAtG` (`A5/Model/OriginInt.lean`); the model is their `Float` instance
(`quintantToSegment_eq`, `segmentToQuintant_eq`, `haversine_eq`, `transformQuat_eq`, `quatAt_eq` in
`A5/Lemmas/OriginLemmas.lean`, all by `rfl`; `findNearestOrigin_eq` by induction on the list).

What is proved about which object:
* T1, T5 are about the *model functions on the model's `Origin` records* (finite, kernel-checked).
* T2 is about the formula of `haversine` read over ℝ (`haversineG Real.sin 2`); the `Float` model is the same
  expression tree at `Float.sin` (`haversine_eq`, `rfl`).  Rounding is *not* covered ("ties on seams aside").
* T3 is about the loop of `findNearestOrigin` read over any linear order; the `Float` model is the same loop
  (`nearest_is_fold`).  `Float`'s `<` is not a linear order because of NaN.
* T4 is about the exact rational values of the `f64` constants in `QUATERNIONS` (48 components, each checked to
  be the value of its IEEE bit pattern) pushed through `transform_quat` over ℚ. -/
namespace A5.C18
open A5

/-- **T1.** On each of the 12 faces: `quintant_to_segment` maps 0..4 into 0..4 with an orientation code in
0..5, `segment_to_quintant` undoes it *and reports the same orientation*; and the same with the roles
exchanged.  Hence both are bijections of 0..4, inverse to each other, preserving the curve orientation in
both directions. -/
theorem segment_quintant_bijection (o : Nat) (ho : o < 12) :
    (∀ q, q < 5 →
      (quintantToSegment q (originAt o)).1 < 5 ∧ (quintantToSegment q (originAt o)).2 < 6 ∧
      segmentToQuintant (quintantToSegment q (originAt o)).1 (originAt o)
        = (q, (quintantToSegment q (originAt o)).2)) ∧
    (∀ s, s < 5 →
      (segmentToQuintant s (originAt o)).1 < 5 ∧ (segmentToQuintant s (originAt o)).2 < 6 ∧
      quintantToSegment (segmentToQuintant s (originAt o)).1 (originAt o)
        = (s, (segmentToQuintant s (originAt o)).2)) := by
  simp only [quintantToSegment_originAt _ o ho, segmentToQuintant_originAt _ o ho]
  exact ⟨relabelI_roundtrip_q o ho, relabelI_roundtrip_s o ho⟩

theorem quintantToSegment_injective (o : Nat) (ho : o < 12) (q q' : Nat) (hq : q < 5) (hq' : q' < 5)
    (h : (quintantToSegment q (originAt o)).1 = (quintantToSegment q' (originAt o)).1) : q = q' := by
  have h1 := ((segment_quintant_bijection o ho).1 q hq).2.2
  have h2 := ((segment_quintant_bijection o ho).1 q' hq').2.2
  rw [h] at h1
  exact congrArg Prod.fst (h1.symm.trans h2)

theorem segmentToQuintant_injective (o : Nat) (ho : o < 12) (s s' : Nat) (hs : s < 5) (hs' : s' < 5)
    (h : (segmentToQuintant s (originAt o)).1 = (segmentToQuintant s' (originAt o)).1) : s = s' := by
  have h1 := ((segment_quintant_bijection o ho).2 s hs).2.2
  have h2 := ((segment_quintant_bijection o ho).2 s' hs').2.2
  rw [h] at h1
  exact congrArg Prod.fst (h1.symm.trans h2)

/-- The data behind T1: the record of face `o` carries its id, and the rows of the generated tables selected
through `ORIGIN_ORDER`; the layout is one of the four named fans (five codes in 0..5), clockwise exactly for
`CLOCKWISE_FAN`/`CLOCKWISE_STEP`; the first quintant is in 0..4. -/
theorem face_tables (o : Nat) (ho : o < 12) :
    (originAt o).id = o ∧
    (originAt o).firstQuintant = Gen.QUINTANT_FIRST.getD (Gen.ORIGIN_ORDER.getD o 0) 0 ∧
    (originAt o).orientation = Gen.QUINTANT_ORIENTATIONS_ARRAYS.getD (Gen.ORIGIN_ORDER.getD o 0) [] ∧
    ((originAt o).orientation = Gen.CLOCKWISE_FAN ∨ (originAt o).orientation = Gen.CLOCKWISE_STEP ∨
     (originAt o).orientation = Gen.COUNTER_STEP ∨ (originAt o).orientation = Gen.COUNTER_JUMP) ∧
    (isLayoutClockwise (originAt o).orientation = true ↔
      ((originAt o).orientation = Gen.CLOCKWISE_FAN ∨ (originAt o).orientation = Gen.CLOCKWISE_STEP)) ∧
    (originAt o).orientation.length = 5 ∧ (∀ c ∈ (originAt o).orientation, c < 6) ∧
    (originAt o).firstQuintant < 5 := by
  have hn := faceLayout_named o ho
  refine ⟨originAt_id o ho, originAt_firstQuintant o ho, originAt_orientation o ho, ?_, ?_, ?_, ?_, ?_⟩
  · rw [originAt_orientation o ho]; exact hn.1
  · rw [originAt_orientation o ho, isLayoutClockwise_eq]
    rcases hn.1 with h | h | h | h <;> rw [h] <;> decide
  · rw [originAt_orientation o ho]; exact hn.2.1
  · rw [originAt_orientation o ho]; exact hn.2.2.1
  · rw [originAt_firstQuintant o ho]; exact hn.2.2.2

/-- how the relabelling winds: on a counter-clockwise face the segment *is* the quintant; on a clockwise face
it is the quintant mirrored about the face's first quintant.  The orientation of a segment is the entry of
the face's fan at the segment's offset from the first quintant. -/
theorem relabelling_winding (o : Nat) (ho : o < 12) (q : Nat) (hq : q < 5) :
    (quintantToSegment q (originAt o)).1 =
      (if isLayoutClockwise (originAt o).orientation
        then (2 * (originAt o).firstQuintant + 5 - q) % 5 else q) ∧
    (segmentToQuintant q (originAt o)).2 =
      (originAt o).orientation.getD ((q + 5 - (originAt o).firstQuintant) % 5) 0 := by
  refine ⟨?_, rfl⟩
  rw [quintantToSegment_originAt q o ho, originAt_firstQuintant o ho, originAt_orientation o ho, isLayoutClockwise_eq]
  exact relabelI_winding o ho q hq

/-- `ORIGIN_ORDER` is a permutation of 0..11, and there are 12 origins. -/
theorem origin_order_permutation :
    origins.length = 12 ∧ Gen.ORIGIN_ORDER.length = 12 ∧
    (∀ o, o < 12 → Gen.ORIGIN_ORDER.getD o 0 < 12) ∧
    (∀ o, o < 12 → ∀ o', o' < 12 → Gen.ORIGIN_ORDER.getD o 0 = Gen.ORIGIN_ORDER.getD o' 0 → o = o') ∧
    (∀ k, k < 12 → ∃ o, o < 12 ∧ Gen.ORIGIN_ORDER.getD o 0 = k) :=
  ⟨origins_length, originOrder_perm⟩

/-- a counter-clockwise face (face 3 = slot 4, `COUNTER_STEP`, first quintant 0): 2 ↦ segment 2, code WV -/
example : quintantToSegment 2 (originAt 3) = (2, 5) ∧ segmentToQuintant 2 (originAt 3) = (2, 5) := by
  rw [quintantToSegment_originAt 2 3 (by decide), segmentToQuintant_originAt 2 3 (by decide)]; decide
/-- a clockwise face (face 4 = slot 3, `CLOCKWISE_STEP`, first quintant 2): 3 ↦ segment 1, code UW -/
example : quintantToSegment 3 (originAt 4) = (1, 2) ∧ segmentToQuintant 1 (originAt 4) = (3, 2) := by
  rw [quintantToSegment_originAt 3 4 (by decide), segmentToQuintant_originAt 1 4 (by decide)]; decide
/-- outside 0..4 the maps are *not* injective (5 and 0 collide), so the range hypothesis is needed -/
example : quintantToSegment 5 (originAt 3) = quintantToSegment 0 (originAt 3) := by
  rw [quintantToSegment_originAt 5 3 (by decide), quintantToSegment_originAt 0 3 (by decide)]; decide

/-- the `Float` model and the real formula are the same expression tree -/
theorem haversine_same_formula (θ φ θ₂ φ₂ : Float) (x y x₂ y₂ : ℝ) :
    haversine θ φ θ₂ φ₂ = haversineG Float.sin 2.0 θ φ θ₂ φ₂ ∧
    haversineR x y x₂ y₂ = haversineG Real.sin 2 x y x₂ y₂ :=
  ⟨rfl, haversineR_eq_haversineG x y x₂ y₂⟩

/-- **T2.** For all real angles, with `p = to_cartesian(θ, φ)`, `a = to_cartesian(θ₂, φ₂)`:
`sin²((φ₂-φ)/2) + sin²((θ₂-θ)/2)·sin φ·sin φ₂ = (1 - ⟪p, a⟫)/2`. -/
theorem haversine_is_chord (θ φ θ₂ φ₂ : ℝ) :
    haversineR θ φ θ₂ φ₂ = (1 - dot3 (toCartesianR θ φ) (toCartesianR θ₂ φ₂)) / 2 :=
  A5.haversine_is_chord θ φ θ₂ φ₂

/-- … which is the haversine `sin²(δ/2)` of the great-circle distance `δ = arccos ⟪p, a⟫`, in `[0, 1]`. -/
theorem haversine_is_hav_of_distance (θ φ θ₂ φ₂ : ℝ) :
    haversineR θ φ θ₂ φ₂ = Real.sin (gcDist θ φ θ₂ φ₂ / 2) ^ 2 ∧
    0 ≤ haversineR θ φ θ₂ φ₂ ∧ haversineR θ φ θ₂ φ₂ ≤ 1 :=
  ⟨haversine_is_hav_gcDist θ φ θ₂ φ₂, (haversineR_mem θ φ θ₂ φ₂).1, (haversineR_mem θ φ θ₂ φ₂).2⟩

/-- Corollary: comparing the measure of two axes is comparing dot products (reversed) and is comparing
great-circle distances. -/
theorem haversine_orders_by_distance (θ φ θa φa θb φb : ℝ) :
    (haversineR θ φ θa φa ≤ haversineR θ φ θb φb ↔
      dot3 (toCartesianR θ φ) (toCartesianR θa φa) ≥ dot3 (toCartesianR θ φ) (toCartesianR θb φb)) ∧
    (haversineR θ φ θa φa ≤ haversineR θ φ θb φb ↔ gcDist θ φ θa φa ≤ gcDist θ φ θb φb) ∧
    (haversineR θ φ θa φa < haversineR θ φ θb φb ↔ gcDist θ φ θa φa < gcDist θ φ θb φb) :=
  ⟨haversine_le_iff_dot θ φ θa φa θb φb, haversine_le_iff_gcDist θ φ θa φa θb φb,
   haversine_lt_iff_gcDist θ φ θa φa θb φb⟩

/-- north pole against south pole: the measure is 1, the distance π -/
example : haversineR 0 0 0 Real.pi = 1 := by
  unfold haversineR; simp
example : gcDist 0 0 0 Real.pi = Real.pi := by
  unfold gcDist dot3 toCartesianR; simp
/-- a negative `sin φ · sin φ₂` (angles outside `[0, π]`) is covered too: the identity needs no range -/
example : haversineR 0 (-Real.pi / 2) Real.pi (Real.pi / 2) = 0 := by
  rw [haversine_is_chord]; unfold dot3 toCartesianR; simp [neg_div]

/-- the model's loop is the generic loop `argminGo` at `Float`, keyed by `haversine` to the face axis,
started at `+∞` with candidate face 0 -/
theorem nearest_is_fold (θ φ : Float) :
    findNearestOrigin θ φ =
      argminGo (fun o => haversine θ φ o.theta o.phi) origins (1.0 / 0.0) (originAt 0) :=
  findNearestOrigin_eq θ φ

/-- **T3.** Over a linear order the loop returns `b` if no value is below the initial bound `m`, and
otherwise the *first* element attaining the minimum of `f` over the list. -/
theorem nearest_is_argmin {α β : Type} [LinearOrder β] (f : α → β) (l : List α) (m : β) (b : α) :
    ((∀ y ∈ l, m ≤ f y) ∧ argminGo f l m b = b) ∨
    (∃ pre x post, l = pre ++ x :: post ∧ argminGo f l m b = x ∧ f x < m ∧
        (∀ y ∈ pre, f x < f y) ∧ (∀ y ∈ post, f x ≤ f y)) :=
  argminGo_spec f l m b

/-- T2 + T3 over ℝ: the loop of `find_nearest_origin` run in exact arithmetic on any non-empty list of axes
returns an axis of the list such that no axis of the list is closer by great-circle distance (with several
nearest axes — a seam — it returns the first). -/
theorem nearest_is_nearest_real (θ φ : ℝ) (axes : List (ℝ × ℝ)) (b : ℝ × ℝ) (hne : axes ≠ []) :
    argminGo (fun a : ℝ × ℝ => haversineR θ φ a.1 a.2) axes 2 b ∈ axes ∧
    ∀ a ∈ axes, gcDist θ φ (argminGo (fun a : ℝ × ℝ => haversineR θ φ a.1 a.2) axes 2 b).1
                            (argminGo (fun a : ℝ × ℝ => haversineR θ φ a.1 a.2) axes 2 b).2
                  ≤ gcDist θ φ a.1 a.2 :=
  nearest_real θ φ axes b hne

/-- two keys share the minimum 1: the first one (41) wins -/
example : argminGo (fun x : Nat => x % 10) [23, 41, 11, 57] 100 0 = 41 := by decide
example : ∃ y ∈ [23, 41, 11, 57], (fun x : Nat => x % 10) y < 100 := ⟨23, by decide, by decide⟩

/-- The twelve face centres (pole `(0,0,1)` rotated by the face's quaternion, exact rational arithmetic on
the `f64` constants of `QUATERNIONS`):
1. every quaternion has `| |q|² − 1 | < 2⁻⁴⁸`;
2. face 0 is exactly the north pole and face 9 exactly the south pole;
3. face 1 lies on the zero meridian of the frame (`y = 0`, `x > 0`) — the meridian that `LONGITUDE_OFFSET`
   places at longitude −93°;
4. for all `i, j`: `⟪cᵢ,cᵢ⟫` is within `2⁻⁴⁰` of 1; `⟪cᵢ,c_{antipode i}⟫` within `2⁻⁴⁰` of −1; every other pair
   has `|5·d² − 1| < 2⁻⁴⁰`, i.e. `d = ±1/√5` (63.435° or 116.565°);
5. `antipode` is a fixed-point-free involution of 0..11;
6. every face has exactly five faces at `+1/√5`. -/
def FrameRegular : Prop :=
  (∀ k, k < 12 → nearQ (normSqQ (quatQ k)) 1 (2 ^ (-48 : Int))) ∧
  (centreQ 0 = (0, 0, 1) ∧ centreQ 9 = (0, 0, -1)) ∧
  ((centreQ 1).2.1 = 0 ∧ 0 < (centreQ 1).1) ∧
  (∀ i, i < 12 → ∀ j, j < 12 →
    (j = i → nearQ (dotQ (centreQ i) (centreQ j)) 1 (2 ^ (-40 : Int))) ∧
    (j = antipode.getD i 0 → nearQ (dotQ (centreQ i) (centreQ j)) (-1) (2 ^ (-40 : Int))) ∧
    (j ≠ i → j ≠ antipode.getD i 0 →
      nearQ (5 * (dotQ (centreQ i) (centreQ j) * dotQ (centreQ i) (centreQ j))) 1 (2 ^ (-40 : Int)))) ∧
  (∀ i, i < 12 → antipode.getD i 0 < 12 ∧ antipode.getD i 0 ≠ i ∧
      antipode.getD (antipode.getD i 0) 0 = i) ∧
  (∀ i, i < 12 → (nearFaces i).length = 5)

/-- **T4.** (each of the six clauses is evaluated by the kernel on exact rationals) -/
theorem frame_regular : FrameRegular :=
  ⟨by decide +kernel, by decide +kernel, by decide +kernel, by decide +kernel, by decide +kernel,
   by decide +kernel⟩

/-- the rational quaternions / centres are those of the model: same table rows, same rotation formula, and
each `f64` component's bit pattern denotes the rational used here. -/
theorem frame_is_models (o : Nat) (ho : o < 12) (v : V3) :
    (originAt o).quat = quatAtG fc (0.0, 0.0, 0.0, 1.0) (faceQuatIndex o) ∧
    quatQ (faceQuatIndex o) = quatAtG FConst.toRat (0, 0, 0, 1) (faceQuatIndex o) ∧
    transformQuat v (originAt o).quat
      = (let r := transformQuatG (v.x, v.y, v.z) (originAt o).quat; ⟨r.1, r.2.1, r.2.2⟩) ∧
    (∀ row ∈ Gen.QUATERNIONS, row.length = 4 ∧ ∀ c ∈ row, c.Consistent) :=
  ⟨(originAt_quat o ho).trans (quatAt_eq _), rfl, rfl, quaternions_consistent⟩

/-- concrete values: the poles are exact, a neighbour pair is not (so the tolerances are needed) -/
example : dotQ (centreQ 0) (centreQ 9) = -1 := by decide +kernel
example : 5 * (dotQ (centreQ 0) (centreQ 1) * dotQ (centreQ 0) (centreQ 1)) ≠ 1 ∧
    nearFaces 0 = [1, 4, 5, 6, 11] ∧ antipode.getD 3 0 = 11 := by decide +kernel

/-- **T5a.** `LONGITUDE_OFFSET` is exactly 93 (dyadic `93·2⁰`, bit pattern of `93.0_f64`). -/
theorem longitude_offset_is_93 :
    Gen.LONGITUDE_OFFSET.num = 93 ∧ Gen.LONGITUDE_OFFSET.exp = 0 ∧ Gen.LONGITUDE_OFFSET.toRat = 93 ∧
    Gen.LONGITUDE_OFFSET.Consistent ∧ (fc Gen.LONGITUDE_OFFSET).toBits = (93.0 : Float).toBits :=
  ⟨longitude_offset_93.1, longitude_offset_93.2.1, longitude_offset_93.2.2.1, longitude_offset_93.2.2.2,
   longitude_offset_float⟩

/-- **T5b.** The second-ring quaternion index `(i + RING2_QUAT_ADD) % RING2_QUAT_MOD + RING2_QUAT_BASE`,
`i < 5`, hits each of 6..10 exactly once; and over all twelve faces every row of `QUATERNIONS` is used by
exactly one face. -/
theorem ring2_index_bijective :
    (∀ i, i < 5 → 6 ≤ (i + Gen.RING2_QUAT_ADD) % Gen.RING2_QUAT_MOD + Gen.RING2_QUAT_BASE ∧
                  (i + Gen.RING2_QUAT_ADD) % Gen.RING2_QUAT_MOD + Gen.RING2_QUAT_BASE ≤ 10) ∧
    (∀ i, i < 5 → ∀ j, j < 5 →
        (i + Gen.RING2_QUAT_ADD) % Gen.RING2_QUAT_MOD + Gen.RING2_QUAT_BASE
          = (j + Gen.RING2_QUAT_ADD) % Gen.RING2_QUAT_MOD + Gen.RING2_QUAT_BASE → i = j) ∧
    (∀ k, 6 ≤ k → k ≤ 10 → ∃ i, i < 5 ∧
        (i + Gen.RING2_QUAT_ADD) % Gen.RING2_QUAT_MOD + Gen.RING2_QUAT_BASE = k) ∧
    (∀ o, o < 12 → (originAt o).quat = quatAt (faceQuatIndex o)) ∧
    (∀ o, o < 12 → ∀ o', o' < 12 → faceQuatIndex o = faceQuatIndex o' → o = o') ∧
    (∀ k, k < 12 → ∃ o, o < 12 ∧ faceQuatIndex o = k) :=
  ⟨ring2_index_perm.1, ring2_index_perm.2.1, ring2_index_perm.2.2, originAt_quat,
   faceQuatIndex_perm.2.1, faceQuatIndex_perm.2.2⟩

example : (List.range 5).map (fun i => (i + Gen.RING2_QUAT_ADD) % Gen.RING2_QUAT_MOD + Gen.RING2_QUAT_BASE)
    = [9, 10, 6, 7, 8] := by decide
example : (List.range 12).map faceQuatIndex = [0, 1, 9, 10, 2, 3, 4, 7, 6, 11, 8, 5] := by decide

end A5.C18
