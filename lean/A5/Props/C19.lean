import A5.Lemmas.RealGeo
import A5.Lemmas.AuthalicCompose
import Mathlib.Tactic.FieldSimp
/-! # C19 — geodetic ⇄ authalic latitude and lon/lat ⇄ sphere

Model: `A5.applyCoefficients`, `A5.authalicForward`, `A5.authalicInverse`, `A5.fromLonLat`, `A5.toLonLat`
(`A5/Model/Geo.lean`, at `Float`).  Method: the generic twins `A5.G.applyCoefficientsG`, `A5.G.scaleG`,
`A5.G.fromLonLatG`, `A5.G.toLonLatG` (`A5/Model/GenericGeo.lean`) are the *same expression trees* with the
scalar type abstract; the tie lemmas (all `rfl`)

* `A5.G.applyCoefficients_tie`, `A5.G.authalicForward_tie`, `A5.G.authalicInverse_tie`,
* `A5.G.degToRad_tie`, `A5.G.radToDeg_tie`, `A5.G.fromLonLat_tie`, `A5.G.toLonLat_tie`

say that the float model *is* the twin at `α := Float` with `Float.sin`, `Float.cos`, the literal `2.0` and
the generated constants.  The theorems below are about the twin at `ℝ` (`Real.sin`, `Real.cos`) with
arbitrary coefficients, resp. with the exact rational values of the generated coefficients
(`A5.RealGeo.authalicForwardR`, `authalicInverseR`): T1-T3 the symmetries, T4 the series that is evaluated, T5 strict
monotonicity (derivative `> 0.995`), T6 the lon/lat ⇄ sphere round trips over a field and how far the generated scale
constants are from reciprocal, `authalic_roundtrip` the two series inverse to each other within `1.35e-13` rad.

**Finding (T4).**  The recurrence in `apply_coefficients` is *not* Clenshaw's summation of
`φ + Σ_{k=1..6} c_k sin 2kφ`: its second step `u1 = x*u0 + c[3]` lacks the term `− c[5]`.  What it
evaluates is the series whose `sin 8φ` coefficient is `c_4 + c_6` (`clenshaw_is_fourier`); the difference to
the intended series is exactly `c_6 · sin 8φ` (`clenshaw_is_fourier_statement_false`,
`clenshaw_defect_bound`): at most `|c_6|`, i.e. `6.7·10^-18` rad (forward) and `4.9·10^-17` rad (inverse)
with the generated tables — below `f64` resolution at these magnitudes, so numerically harmless, but the
intended identity is false as stated. -/
namespace A5.C19
open A5 A5.G A5.RealGeo

/-- T1. The conversion is odd. -/
theorem authalic_odd (c1 c2 c3 c4 c5 c6 φ : ℝ) :
    applyCoefficientsG Real.sin Real.cos 2 (-φ) c1 c2 c3 c4 c5 c6 =
      -applyCoefficientsG Real.sin Real.cos 2 φ c1 c2 c3 c4 c5 c6 :=
  authalicR_neg c1 c2 c3 c4 c5 c6 φ

/-- T2. The equator is fixed. -/
theorem authalic_fixes_equator (c1 c2 c3 c4 c5 c6 : ℝ) :
    applyCoefficientsG Real.sin Real.cos 2 0 c1 c2 c3 c4 c5 c6 = 0 :=
  authalicR_zero c1 c2 c3 c4 c5 c6

/-- T3. The poles are fixed (the factor `sin φ · cos φ` vanishes). -/
theorem authalic_fixes_poles (c1 c2 c3 c4 c5 c6 : ℝ) :
    applyCoefficientsG Real.sin Real.cos 2 (Real.pi / 2) c1 c2 c3 c4 c5 c6 = Real.pi / 2 ∧
    applyCoefficientsG Real.sin Real.cos 2 (-(Real.pi / 2)) c1 c2 c3 c4 c5 c6 = -(Real.pi / 2) :=
  ⟨authalicR_pi_div_two c1 c2 c3 c4 c5 c6, authalicR_neg_pi_div_two c1 c2 c3 c4 c5 c6⟩

/-- T1–T3 hold over any commutative ring for any `sin`, `cos` with `sin` odd and `cos` even: they do not
depend on the series identity T4. -/
theorem authalic_odd_generic {R : Type} [CommRing R] (sin cos : R → R) (two : R)
    (hs : ∀ x, sin (-x) = -sin x) (hc : ∀ x, cos (-x) = cos x) (φ c1 c2 c3 c4 c5 c6 : R) :
    applyCoefficientsG sin cos two (-φ) c1 c2 c3 c4 c5 c6 =
      -applyCoefficientsG sin cos two φ c1 c2 c3 c4 c5 c6 :=
  applyCoefficientsG_neg sin cos two hs hc φ c1 c2 c3 c4 c5 c6

/-- the statement one expects: the recurrence is the 6-term sine series -/
def clenshaw_is_fourier_statement : Prop :=
  ∀ c1 c2 c3 c4 c5 c6 φ : ℝ,
    applyCoefficientsG Real.sin Real.cos 2 φ c1 c2 c3 c4 c5 c6 =
      φ + c1 * Real.sin (2 * φ) + c2 * Real.sin (4 * φ) + c3 * Real.sin (6 * φ)
        + c4 * Real.sin (8 * φ) + c5 * Real.sin (10 * φ) + c6 * Real.sin (12 * φ)

/-- T4 (true variant). The recurrence evaluates the sine series with `sin 8φ`-coefficient `c4 + c6`. -/
theorem clenshaw_is_fourier (c1 c2 c3 c4 c5 c6 φ : ℝ) :
    applyCoefficientsG Real.sin Real.cos 2 φ c1 c2 c3 c4 c5 c6 =
      φ + c1 * Real.sin (2 * φ) + c2 * Real.sin (4 * φ) + c3 * Real.sin (6 * φ)
        + (c4 + c6) * Real.sin (8 * φ) + c5 * Real.sin (10 * φ) + c6 * Real.sin (12 * φ) :=
  authalicR_eq_series c1 c2 c3 c4 c5 c6 φ

/-- T4 (finding). The expected statement is false: `c6 = 1`, all other coefficients `0`, `φ = π/16`. -/
theorem clenshaw_is_fourier_statement_false : ¬ clenshaw_is_fourier_statement := by
  intro h
  have h1 := h 0 0 0 0 0 1 (Real.pi / 16)
  exact authalicR_ne_fourier6 0 0 0 0 0 1 one_ne_zero h1

/-- The defect is exactly `c6 · sin 8φ`, hence at most `|c6|`. -/
theorem clenshaw_defect (c1 c2 c3 c4 c5 c6 φ : ℝ) :
    applyCoefficientsG Real.sin Real.cos 2 φ c1 c2 c3 c4 c5 c6
      = fourier6 c1 c2 c3 c4 c5 c6 φ + c6 * Real.sin (8 * φ) :=
  authalicR_eq_fourier6_add c1 c2 c3 c4 c5 c6 φ

theorem clenshaw_defect_bound (c1 c2 c3 c4 c5 c6 φ : ℝ) :
    |applyCoefficientsG Real.sin Real.cos 2 φ c1 c2 c3 c4 c5 c6 - fourier6 c1 c2 c3 c4 c5 c6 φ| ≤ |c6| :=
  abs_authalicR_sub_fourier6_le c1 c2 c3 c4 c5 c6 φ

/-- With the generated tables `|c6| < 2^-56` (forward) and `< 2^-54 ` (inverse): kernel-checked. -/
theorem generated_c6_small :
    ratAbs (coeffQ Gen.GEODETIC_TO_AUTHALIC 5) < (2 : Rat) ^ (-56 : Int) ∧
    ratAbs (coeffQ Gen.AUTHALIC_TO_GEODETIC 5) < (2 : Rat) ^ (-54 : Int) ∧
    coeffQ Gen.GEODETIC_TO_AUTHALIC 5 ≠ 0 ∧ coeffQ Gen.AUTHALIC_TO_GEODETIC 5 ≠ 0 := by
  decide +kernel

/-- T5a. `f′ ≥ 1 − Σ 2k|a_k|` (here `authalicDeriv` is the derivative, `hasDerivAt_authalicR`). -/
theorem authalic_deriv_lower_bound (c1 c2 c3 c4 c5 c6 φ : ℝ) :
    HasDerivAt (fun t => applyCoefficientsG Real.sin Real.cos 2 t c1 c2 c3 c4 c5 c6)
      (authalicDeriv c1 c2 c3 c4 c5 c6 φ) φ ∧
    1 - (2 * |c1| + 4 * |c2| + 6 * |c3| + 8 * |c4 + c6| + 10 * |c5| + 12 * |c6|)
      ≤ authalicDeriv c1 c2 c3 c4 c5 c6 φ :=
  ⟨hasDerivAt_authalicR c1 c2 c3 c4 c5 c6 φ, authalicDeriv_ge c1 c2 c3 c4 c5 c6 φ⟩

/-- T5b. With the exact values of the generated coefficients the derivative of both conversions is
`> 0.995` everywhere … -/
theorem authalic_deriv_gt (φ : ℝ) :
    (0.995 : ℝ) < deriv authalicForwardR φ ∧ (0.995 : ℝ) < deriv authalicInverseR φ :=
  ⟨deriv_authalicR_gt _ _ _ _ _ _ φ (coeffBound_lt coeff_sums_small.1), deriv_authalicR_gt _ _ _ _ _ _ φ (coeffBound_lt coeff_sums_small.2)⟩

/-- T5c. … so both conversions are strictly increasing on all of `ℝ`. -/
theorem authalic_strict_mono : StrictMono authalicForwardR ∧ StrictMono authalicInverseR :=
  ⟨authalicR_strictMono _ _ _ _ _ _ (lt_trans (coeffBound_lt coeff_sums_small.1) (by norm_num)),
   authalicR_strictMono _ _ _ _ _ _ (lt_trans (coeffBound_lt coeff_sums_small.2) (by norm_num))⟩

/-- The conversions with the generated coefficients are odd and fix equator and poles (T1–T3 instantiated). -/
theorem authalic_generated_symmetry :
    (∀ φ, authalicForwardR (-φ) = -authalicForwardR φ) ∧ authalicForwardR 0 = 0 ∧
    authalicForwardR (Real.pi / 2) = Real.pi / 2 ∧ authalicForwardR (-(Real.pi / 2)) = -(Real.pi / 2) ∧
    (∀ φ, authalicInverseR (-φ) = -authalicInverseR φ) ∧ authalicInverseR 0 = 0 ∧
    authalicInverseR (Real.pi / 2) = Real.pi / 2 ∧ authalicInverseR (-(Real.pi / 2)) = -(Real.pi / 2) :=
  ⟨fun φ => authalicR_neg _ _ _ _ _ _ φ, authalicR_zero _ _ _ _ _ _, authalicR_pi_div_two _ _ _ _ _ _,
   authalicR_neg_pi_div_two _ _ _ _ _ _, fun φ => authalicR_neg _ _ _ _ _ _ φ, authalicR_zero _ _ _ _ _ _,
   authalicR_pi_div_two _ _ _ _ _ _, authalicR_neg_pi_div_two _ _ _ _ _ _⟩

/-- Consequently every latitude strictly between the poles is mapped strictly between the poles. -/
theorem authalic_maps_open_interval (φ : ℝ) (h1 : -(Real.pi / 2) < φ) (h2 : φ < Real.pi / 2) :
    -(Real.pi / 2) < authalicForwardR φ ∧ authalicForwardR φ < Real.pi / 2 := by
  obtain ⟨_, _, hp, hn, _⟩ := authalic_generated_symmetry
  have hm := authalic_strict_mono.1
  exact ⟨hn ▸ hm h1, hp ▸ hm h2⟩

section field
variable {K : Type} [Field K]

/-- T6a. Longitude round trip: `radToDeg (degToRad (λ + 93)) − 93 = λ` when the two scale constants are
reciprocal. -/
theorem lon_roundtrip (k1 k2 off lon : K) (h : k1 * k2 = 1) :
    scaleG k2 (scaleG k1 (lon + off)) - off = lon := by
  unfold scaleG
  linear_combination (lon + off) * h

/-- T6b. Colatitude round trip: `π/2 − (π/2 − a) = a`. -/
theorem colat_roundtrip (halfPi a : K) : halfPi - (halfPi - a) = a := by ring

/-- T6c. The full round trip `toLonLat ∘ fromLonLat = id` of the twins, provided the scale constants are
reciprocal and `inv` undoes `fwd` (for the truncated series this holds only approximately; with `fwd = inv =
id`, i.e. on a sphere, it is exact). -/
theorem lonlat_roundtrip (fwd inv : K → K) (k1 k2 off halfPi lon lat : K) (h : k1 * k2 = 1)
    (hinv : ∀ x, inv (fwd x) = x) :
    toLonLatG inv k2 off halfPi (fromLonLatG fwd k1 off halfPi lon lat).1
      (fromLonLatG fwd k1 off halfPi lon lat).2 = (lon, lat) := by
  simp only [toLonLatG, fromLonLatG, colat_roundtrip, hinv, lon_roundtrip _ _ _ _ h]
  congr 1
  unfold scaleG
  linear_combination lat * h

/-- and the other way round, `fromLonLat ∘ toLonLat = id` -/
theorem sphere_roundtrip (fwd inv : K → K) (k1 k2 off halfPi theta phi : K) (h : k1 * k2 = 1)
    (hinv : ∀ x, fwd (inv x) = x) :
    fromLonLatG fwd k1 off halfPi (toLonLatG inv k2 off halfPi theta phi).1
      (toLonLatG inv k2 off halfPi theta phi).2 = (theta, phi) := by
  have e1 : ∀ x : K, scaleG k1 (scaleG k2 x) = x := fun x => by
    unfold scaleG; linear_combination x * h
  simp only [toLonLatG, fromLonLatG, sub_add_cancel, e1, hinv, colat_roundtrip]

end field

/-- T6d. The generated constants `PI_OVER_180` and `DEG_PER_RAD` are reciprocal up to `2^-55`: as exact
rationals their product exceeds 1 by exactly `90256656525575 · 2^-102` … -/
theorem deg_rad_constants_product :
    Gen.PI_OVER_180.toRat * Gen.DEG_PER_RAD.toRat - 1 = 90256656525575 * (2 : Rat) ^ (-102 : Int) ∧
    Gen.PI_OVER_180.toRat * Gen.DEG_PER_RAD.toRat - 1 < (2 : Rat) ^ (-55 : Int) := by
  decide +kernel

/-- … and in `f64` arithmetic the product is exactly `1.0`; `FRAC_PI_2` is exactly half of `PI`; the
longitude offset is exactly 93. -/
theorem deg_rad_constants_float :
    (fc Gen.PI_OVER_180 * fc Gen.DEG_PER_RAD).toBits = (1.0 : Float).toBits ∧
    Gen.FRAC_PI_2.toRat * 2 = Gen.PI.toRat ∧ Gen.LONGITUDE_OFFSET.toRat = 93 := by
  decide +kernel

/-- Note: in `f64` arithmetic the degree round trip is *not* the identity on every input (the real-number
statement T6a does not transfer verbatim): `radToDeg (degToRad 3.0) ≠ 3.0`, while e.g. 93.0 survives. -/
theorem deg_roundtrip_float_examples :
    (radToDeg (degToRad 3.0)).toBits ≠ (3.0 : Float).toBits ∧
    (radToDeg (degToRad 93.0)).toBits = (93.0 : Float).toBits := by
  decide +kernel

/-! ## the ties to the executable model (restated; all `rfl`) -/

theorem model_is_twin (φ lon lat θ : Float) :
    authalicForward φ = applyCoefficientsG Float.sin Float.cos (2.0 : Float) φ
        (coeffF Gen.GEODETIC_TO_AUTHALIC 0) (coeffF Gen.GEODETIC_TO_AUTHALIC 1)
        (coeffF Gen.GEODETIC_TO_AUTHALIC 2) (coeffF Gen.GEODETIC_TO_AUTHALIC 3)
        (coeffF Gen.GEODETIC_TO_AUTHALIC 4) (coeffF Gen.GEODETIC_TO_AUTHALIC 5) ∧
    authalicInverse φ = applyCoefficientsG Float.sin Float.cos (2.0 : Float) φ
        (coeffF Gen.AUTHALIC_TO_GEODETIC 0) (coeffF Gen.AUTHALIC_TO_GEODETIC 1)
        (coeffF Gen.AUTHALIC_TO_GEODETIC 2) (coeffF Gen.AUTHALIC_TO_GEODETIC 3)
        (coeffF Gen.AUTHALIC_TO_GEODETIC 4) (coeffF Gen.AUTHALIC_TO_GEODETIC 5) ∧
    fromLonLat lon lat =
      fromLonLatG authalicForward (fc Gen.PI_OVER_180) (fc Gen.LONGITUDE_OFFSET) (fc Gen.FRAC_PI_2) lon lat ∧
    toLonLat θ φ =
      toLonLatG authalicInverse (fc Gen.DEG_PER_RAD) (fc Gen.LONGITUDE_OFFSET) (fc Gen.FRAC_PI_2) θ φ :=
  ⟨rfl, rfl, rfl, rfl⟩

/-! ## non-vacuity -/

/-- the coefficient hypothesis of `authalicR_strictMono` is met by the generated table; a concrete
coefficient value -/
example : coeffQ Gen.GEODETIC_TO_AUTHALIC 0 = -322704147042479 * (2 : Rat) ^ (-57 : Int) := by decide +kernel
example : StrictMono (authalicR 0.001 0 0 0 0 0) := authalicR_strictMono _ _ _ _ _ _ (by norm_num)
example : authalicForwardR 0 < authalicForwardR 1 := authalic_strict_mono.1 (by norm_num)
/-- `lon_roundtrip` with `k1 = 1/4`, `k2 = 4`, offset 93, longitude 10 -/
example : scaleG (4 : ℚ) (scaleG (1 / 4) (10 + 93)) - 93 = 10 := lon_roundtrip (1 / 4) 4 93 10 (by norm_num)
/-- `lonlat_roundtrip` on a sphere (all coefficients zero: the conversion is the identity) -/
example (φ : ℝ) : authalicR 0 0 0 0 0 0 φ = φ := by rw [authalicR_eq_series]; ring
example : toLonLatG (id : ℚ → ℚ) 4 93 2 (fromLonLatG id (1 / 4) 93 2 10 20).1 (fromLonLatG id (1 / 4) 93 2 10 20).2
    = (10, 20) := lonlat_roundtrip id id (1 / 4) 4 93 2 10 20 (by norm_num) (fun _ => rfl)

/-- The first clause of the property in exact real arithmetic: for EVERY real latitude the two
order-6 series, with the exact rational values of the coefficient tables regenerated from `authalic.rs` and including
the Clenshaw recurrence's defect term, are inverse to each other within 1.35e-13 rad (hence within the property's 1e-12),
in both orders.  Proof (`A5/Lemmas/AuthalicCompose.lean`): addition formulas with explicit sine/cosine remainders reduce
`g(f φ) - φ` to a polynomial in `e^{2iφ}` with 49 rational coefficients computed by the kernel from the tables, plus a
remainder bounded by an explicit rational.  Not covered: the `f64` rounding of the recurrence. -/
theorem authalic_roundtrip (φ : ℝ) :
    |authalicInverseR (authalicForwardR φ) - φ| ≤ 1.35e-13 ∧ |authalicForwardR (authalicInverseR φ) - φ| ≤ 1.35e-13 ∧
    |authalicInverseR (authalicForwardR φ) - φ| ≤ 1e-12 ∧ |authalicForwardR (authalicInverseR φ) - φ| ≤ 1e-12 :=
  ⟨AuthalicCompose.inverse_forward_sharp φ, AuthalicCompose.forward_inverse_sharp φ,
    AuthalicCompose.compose_bound φ, AuthalicCompose.compose_bound' φ⟩

/-- non-vacuity: the statement at 45 degrees -/
example : |authalicInverseR (authalicForwardR (Real.pi / 4)) - Real.pi / 4| ≤ 1e-12 := (authalic_roundtrip _).2.2.1

end A5.C19
