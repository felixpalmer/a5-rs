import A5.Lemmas.Siblings
import A5.Lemmas.PathCodec
/-! # C20 — the integer order of cell ids respects the hierarchy

Spec: `Path` (`A5/Spec/Tree.lean`); the id of a cell is `Path.enc` (six bits `5f+k`, two bits per curve
digit most significant first, one marker bit, zeros).  Model functions: `getStride`, `isFirstChild`
(`A5/Model/Hier.lean`, Rust `get_stride`, `is_first_child`).  Arithmetic lemmas: `A5/Lemmas/Order.lean`,
`A5/Lemmas/Siblings.lean`.  All theorems quantify over *every* well-formed cell; all 28 curve levels
(resolutions 2..29) are covered symbolically (no case split over the levels; quintants, `n = 0`, are the one
separate case).

Notation (from `A5.Order`): for a cell with `n = res - 1` curve digits, `W n = 2^(58-2n)` is the width of
its id block, `mark n` its marker bit (`2^56` for `n = 0`, else `2^(57-2n)`), and for `p = deep f k ds`

    blockBase = (5f+k)·2^58 + value ds · W |ds|        enc p = blockBase + mark |ds|
    lo p      = blockBase + 2                          (id of the last-level descendant, digits 0…0)
    hi p      = blockBase + W |ds| - 2                 (id of the last-level descendant, digits 3…3)

FINDINGS (true variants are proved, the refuted readings are kept as `…_statement` with a refutation):
* The "natural" closed block `[blockBase, blockBase + W - 1]` (all ids sharing the bits above the marker)
  is NOT free of foreign cells: `blockBase` itself can be the id of a *coarser* cell
  (`enc (deep 0 0 []) = 2^56 = blockBase of deep 0 0 [1]`): `closed_block_statement_false`.  Every
  interval with `blockBase < lower end ≤ lo p` and `hi p ≤ upper end < blockBase + W` is correct
  (`subtree_interval`, `subtree_interval_loose`).
* Base cells are the exception of the property: `enc (face f)` lies strictly inside the interval of the
  quintant with leading bits `f`, i.e. `deep (f/5) (f%5) []`, which belongs to another face for `f ≥ 1`
  (`base_cells_interleave`, `subtree_interval_fails_for_base_cells`).  Only quintant intervals are affected:
  for `res p ≥ 2` the interval theorem holds against *all* cells (`subtree_interval_res2`). -/
namespace A5.C20
open A5 A5.Path A5.Order

/-! ## T1 — the subtree of a cell is one contiguous id interval -/

/-- explicit form of the interval ends -/
theorem lo_hi_closed_form (f k : Nat) (ds : List Nat) :
    lo (deep f k ds) = (5 * f + k) * 2 ^ 58 + value ds * 2 ^ (58 - 2 * ds.length) + 2 ∧
    hi (deep f k ds) = (5 * f + k) * 2 ^ 58 + value ds * 2 ^ (58 - 2 * ds.length) + 2 ^ (58 - 2 * ds.length) - 2 ∧
    lo (face f) = 5 * f * 2 ^ 58 + 2 ∧ hi (face f) = (5 * f + 5) * 2 ^ 58 - 2 :=
  ⟨rfl, rfl, rfl, rfl⟩

/-- the interval contains the cell itself, and its ends are ids of cells of the subtree (the two extreme
descendants at the last resolution), so the interval is the tightest possible -/
theorem interval_tight (f k : Nat) (ds : List Nat) (hp : WF (deep f k ds)) :
    lo (deep f k ds) ≤ enc (deep f k ds) ∧ enc (deep f k ds) ≤ hi (deep f k ds) ∧
    enc (deep f k (ds ++ List.replicate (28 - ds.length) 0)) = lo (deep f k ds) ∧
    enc (deep f k (ds ++ List.replicate (28 - ds.length) 3)) = hi (deep f k ds) :=
  ⟨(lo_le_enc hp (by rw [res_deep]; omega)).1, (lo_le_enc hp (by rw [res_deep]; omega)).2,
    lo_attained f k ds hp.2.2.2, hi_attained f k ds hp.2.2.2⟩

/-- T1. Among cells of resolution ≥ 1: `q` is in the subtree of `p` (its ancestor at `p`'s resolution is `p`)
iff its id lies in the closed interval `[lo p, hi p]`. -/
theorem subtree_interval (p q : Path) (hp : WF p) (hq : WF q) (h1 : 1 ≤ res p) (hq1 : 1 ≤ res q) :
    (res p ≤ res q ∧ ancestorAt q (res p) = p) ↔ (lo p ≤ enc q ∧ enc q ≤ hi p) := by
  constructor
  · rintro ⟨h, ha⟩; exact enc_bounds_of_ancestor hq h1 h ha
  · rintro ⟨h, h'⟩; exact ancestor_of_enc_bounds hp hq h1 hq1 (by omega) (by omega)

/-- T1, interval ends `lo p ≤ enc p ≤ hi p` for every cell of resolution ≥ 1 -/
theorem self_in_interval (p : Path) (hp : WF p) (h1 : 1 ≤ res p) : lo p ≤ enc p ∧ enc p ≤ hi p :=
  lo_le_enc hp h1

/-- T1 with the widest correct interval: strictly between `blockBase` and `blockBase + W`. -/
theorem subtree_interval_loose (f k : Nat) (ds : List Nat) (q : Path) (hp : WF (deep f k ds)) (hq : WF q)
    (hq1 : 1 ≤ res q) :
    (res (deep f k ds) ≤ res q ∧ ancestorAt q (res (deep f k ds)) = deep f k ds) ↔
      (blockBase f k ds < enc q ∧ enc q < blockBase f k ds + W ds.length) := by
  have h1 : 1 ≤ res (deep f k ds) := by rw [res_deep]; omega
  have hW := four_le_W ds.length hp.2.2.2
  constructor
  · rintro ⟨h, ha⟩
    have := enc_bounds_of_ancestor hq h1 h ha
    simp only [lo, hi] at this
    omega
  · rintro ⟨h, h'⟩
    exact ancestor_of_enc_bounds hp hq h1 hq1 (by simp only [lo]; omega) (by simp only [hi]; omega)

/-- T1 for a base cell `p = face f` (still against cells `q` of resolution ≥ 1) -/
theorem subtree_interval_face (f : Nat) (q : Path) (hq : WF q) (hq1 : 1 ≤ res q) :
    (res (face f) ≤ res q ∧ ancestorAt q (res (face f)) = face f) ↔
      (lo (face f) ≤ enc q ∧ enc q ≤ hi (face f)) := by
  rw [← face_interval f q hq hq1]
  have e : res (face f) = 0 := rfl
  rw [e]
  constructor
  · exact fun h => h.2
  · exact fun h => ⟨by omega, h⟩

/-- T1 for `res p ≥ 2` holds against *every* cell `q` (base cells and the world cell included) -/
theorem subtree_interval_res2 (p q : Path) (hp : WF p) (hq : WF q) (h2 : 2 ≤ res p) :
    (res p ≤ res q ∧ ancestorAt q (res p) = p) ↔ (lo p ≤ enc q ∧ enc q ≤ hi p) := by
  by_cases hq1 : 1 ≤ res q
  · exact subtree_interval p q hp hq (by omega) hq1
  · obtain ⟨f, k, ds, rfl⟩ := exists_deep_of_res (show 1 ≤ res p by omega)
    rw [res_deep] at h2
    constructor
    · rintro ⟨h, _⟩; rw [res_deep] at h; omega
    · intro h
      exfalso
      cases q with
      | world => simp only [lo, enc] at h; omega
      | face f' => exact face_not_in_block f k ds hp (by omega) f' h
      | deep f' k' es => simp only [res] at hq1; omega

set_option linter.unusedVariables false in
/-- ids of cells of resolution ≥ 1 are pairwise distinct (`Path.enc_injective` needs no bound on the resolution) -/
theorem enc_injective (p q : Path) (hp : WF p) (hq : WF q) (h1 : 1 ≤ res p) (hq1 : 1 ≤ res q)
    (e : enc p = enc q) : p = q := Path.enc_injective hp hq e

/-- The refuted reading of T1: the closed block of all ids sharing `p`'s bits above its marker. -/
def closed_block_statement : Prop :=
  ∀ (f k : Nat) (ds : List Nat) (q : Path), WF (deep f k ds) → WF q → 1 ≤ res q →
    ((res (deep f k ds) ≤ res q ∧ ancestorAt q (res (deep f k ds)) = deep f k ds) ↔
      (blockBase f k ds ≤ enc q ∧ enc q ≤ blockBase f k ds + W ds.length - 1))

/-- … is false: the quintant `deep 0 0 []` has the id `2^56`, the first number of the block of its child
`deep 0 0 [1]` (a coarser cell sits on the lower end of the block). -/
theorem closed_block_statement_false : ¬ closed_block_statement := by
  intro h
  have := (h 0 0 [1] (deep 0 0 []) (by decide) (by decide) (by decide)).2 (by decide)
  exact absurd this.1 (by decide)

/-! ## T2 — ancestors are monotone -/

/-- T2. Same resolution `r ≥ 1` (in particular `r ≥ 2`), `a < b` as integers: every ancestor of `a` at a
resolution `1..r` is `≤` the corresponding ancestor of `b`. -/
theorem ancestors_monotone (a b : Path) (ha : WF a) (hb : WF b) (r : Int) (hra : res a = r) (hrb : res b = r)
    (hlt : enc a < enc b) (k : Int) (hk1 : 1 ≤ k) (hkr : k ≤ r) :
    enc (ancestorAt a k) ≤ enc (ancestorAt b k) := by
  have hA := wf_ancestorAt ha k
  have hB := wf_ancestorAt hb k
  have rA : res (ancestorAt a k) = k := res_ancestorAt a k (by omega) (by omega)
  have rB : res (ancestorAt b k) = k := res_ancestorAt b k (by omega) (by omega)
  apply Nat.le_of_not_lt
  intro hcon
  have h1 := hi_lt_lo hB hA (by omega) (by omega) hcon
  have h2 := enc_bounds_of_ancestor (p := ancestorAt a k) (q := a) ha (by omega) (by omega) (by rw [rA])
  have h3 := enc_bounds_of_ancestor (p := ancestorAt b k) (q := b) hb (by omega) (by omega) (by rw [rB])
  omega

/-- T2, strict form: distinct ancestors are strictly ordered -/
theorem ancestors_strict (a b : Path) (ha : WF a) (hb : WF b) (r : Int) (hra : res a = r) (hrb : res b = r)
    (hlt : enc a < enc b) (k : Int) (hk1 : 1 ≤ k) (hkr : k ≤ r) (hne : ancestorAt a k ≠ ancestorAt b k) :
    enc (ancestorAt a k) < enc (ancestorAt b k) := by
  apply Nat.lt_of_le_of_ne (ancestors_monotone a b ha hb r hra hrb hlt k hk1 hkr)
  intro e
  exact hne (Path.enc_injective (wf_ancestorAt ha k) (wf_ancestorAt hb k) e)

/-! ## T3 — descendants are ordered like their ancestors -/

/-- T3. Same resolution `r ≥ 1`, `a < b`: every descendant of `a` at resolution `R` precedes every
descendant of `b` at resolution `R` (`r ≤ R ≤ 29`). -/
theorem descendants_ordered (a b : Path) (ha : WF a) (hb : WF b) (r : Int) (hra : res a = r) (hrb : res b = r)
    (hr : 1 ≤ r) (hlt : enc a < enc b) (R : Int) (hR : r ≤ R) (hR29 : R ≤ 29) (x y : Path)
    (hx : x ∈ descendantsAt a R) (hy : y ∈ descendantsAt b R) : enc x < enc y := by
  have h1 := hi_lt_lo ha hb (by omega) (by omega) hlt
  have h2 := enc_bounds_of_ancestor (p := a) (q := x) (wf_of_mem_descendantsAt ha hR29 hx) (by omega)
    (by rw [res_of_mem_descendantsAt hx]; omega) (ancestorAt_of_mem_descendantsAt hx)
  have h3 := enc_bounds_of_ancestor (p := b) (q := y) (wf_of_mem_descendantsAt hb hR29 hy) (by omega)
    (by rw [res_of_mem_descendantsAt hy]; omega) (ancestorAt_of_mem_descendantsAt hy)
  omega

/-- T3 for descendants at *different* resolutions: the whole subtree of `a` precedes the whole subtree of `b` -/
theorem subtrees_ordered (a b : Path) (ha : WF a) (hb : WF b) (r : Int) (hra : res a = r) (hrb : res b = r)
    (hr : 1 ≤ r) (hlt : enc a < enc b) (x y : Path) (hx : WF x) (hy : WF y)
    (hxa : res a ≤ res x ∧ ancestorAt x (res a) = a) (hyb : res b ≤ res y ∧ ancestorAt y (res b) = b) :
    enc x < enc y := by
  have h1 := hi_lt_lo ha hb (by omega) (by omega) hlt
  have h2 := enc_bounds_of_ancestor hx (by omega) hxa.1 hxa.2
  have h3 := enc_bounds_of_ancestor hy (by omega) hyb.1 hyb.2
  omega

/-! ## T4 — siblings are adjacent, `getStride`, `isFirstChild` -/

/-- closed form of the model's `getStride` on every resolution -1..29 (never fails, never panics) -/
theorem getStride_closed_form (r : Int) (h1 : -1 ≤ r) (h29 : r ≤ 29) :
    getStride r = .ok (if r < 2 then 2 ^ 58 else 2 ^ (2 * (30 - r).toNat)) :=
  getStride_eq r (by omega) (by omega)

/-- T4. For every cell `p` of resolution -1..28 with children `c_j = child p j` (`Path.children` order):
the children are equally spaced by exactly the model's `getStride` of their resolution, the model's
`isFirstChild` is `true` exactly for `j = 0`, and no other cell of the children's resolution has an id
between the first and the last child. -/
theorem siblings_adjacent (p : Path) (hp : WF p) (hr : res p ≤ 28) :
    children p = (List.range (fan (res p))).map (child p) ∧
    getStride (res p + 1) = .ok (stride (res p + 1)) ∧
    (∀ j, enc (child p j) = enc (child p 0) + j * stride (res p + 1)) ∧
    (∀ j, j < fan (res p) → isFirstChild (enc (child p j)) (res p + 1) = .ok (j == 0)) ∧
    (∀ q, WF q → res q = res p + 1 → enc (child p 0) ≤ enc q → enc q ≤ enc (child p (fan (res p) - 1)) →
      q ∈ children p) := by
  have := res_ge p
  exact ⟨children_eq_map_child p, getStride_eq _ (by omega) (by omega), enc_child_stride p hr,
    isFirstChild_child p hr, mem_children_of_between p hp hr⟩

set_option linter.unusedVariables false in
/-- T4, in terms of membership: among the children of `p`, `isFirstChild` singles out `child p 0`
(`Order.isFirstChild_child` needs no well-formedness) -/
theorem isFirstChild_iff (p c : Path) (hp : WF p) (hr : res p ≤ 28) (hc : c ∈ children p) :
    isFirstChild (enc c) (res c) = .ok true ↔ c = child p 0 := by
  obtain ⟨j, hj, rfl⟩ := (mem_children_iff p c).1 hc
  rw [res_child, isFirstChild_child p hr j hj]
  constructor
  · intro h
    have : (j == 0) = true := Outcome.ok.inj h
    rw [beq_iff_eq.1 this]
  · intro h
    rw [child_inj p j 0 h]; rfl

/-- T4 at resolution 0: `isFirstChild` looks at `top6 % 12`, i.e. answers `true` exactly for face 0 -/
theorem isFirstChild_res0 (f : Nat) (hf : f < 12) : isFirstChild (enc (face f)) 0 = .ok (f == 0) :=
  isFirstChild_child world (by decide) f (by rw [fan_world]; exact hf)

/-- where the parent id sits: resolution ≥ 2: `c₀ < c₁ < p < c₂ < c₃`; resolution 1 (quintant):
`c₀ < p < c₁ < c₂ < c₃`; so every cell of resolution 1..28 lies strictly between its first and last child. -/
theorem parent_among_children (f k : Nat) (ds : List Nat) (hp : WF (deep f k ds)) (hl : ds.length ≤ 27) :
    (1 ≤ ds.length →
      enc (child (deep f k ds) 0) < enc (child (deep f k ds) 1) ∧
      enc (child (deep f k ds) 1) < enc (deep f k ds) ∧
      enc (deep f k ds) < enc (child (deep f k ds) 2) ∧
      enc (child (deep f k ds) 2) < enc (child (deep f k ds) 3)) ∧
    (ds.length = 0 →
      enc (child (deep f k ds) 0) < enc (deep f k ds) ∧
      enc (deep f k ds) < enc (child (deep f k ds) 1) ∧
      enc (child (deep f k ds) 1) < enc (child (deep f k ds) 2) ∧
      enc (child (deep f k ds) 2) < enc (child (deep f k ds) 3)) := by
  constructor
  · intro h1
    have := enc_children_order_deep f k ds h1 hl
    have := two_le_mark (ds.length + 1) (by omega)
    omega
  · intro h0
    have : ds = [] := List.eq_nil_of_length_eq_zero h0
    subst this
    have := enc_children_order_quintant f k
    have := two_le_mark 1 (by omega)
    omega

/-! ## T5 — the exception: base-cell ids interleave with quintant ids -/

/-- T5. The id of face `f` lies strictly inside the id interval of the quintant whose six leading bits are
`f`, namely `Q = deep (f/5) (f%5) []` (even strictly between the ids of `Q`'s children 1 and 2), although it
is not in `Q`'s subtree; for `f ≥ 1` that quintant belongs to another face.  So T1 cannot be extended to
resolution 0. -/
theorem base_cells_interleave (f : Nat) (hf : f < 12) :
    WF (deep (f / 5) (f % 5) []) ∧
    lo (deep (f / 5) (f % 5) []) < enc (face f) ∧ enc (face f) < hi (deep (f / 5) (f % 5) []) ∧
    enc (child (deep (f / 5) (f % 5) []) 1) < enc (face f) ∧
    enc (face f) < enc (child (deep (f / 5) (f % 5) []) 2) ∧
    ¬ (res (deep (f / 5) (f % 5) []) ≤ res (face f)) ∧
    (1 ≤ f → f / 5 ≠ f) := by
  have hm : mark 1 = 2 ^ 55 := rfl
  have hw : W 1 = 2 ^ 56 := rfl
  refine ⟨⟨by omega, by omega, by simp, by simp⟩, ?_, ?_, ?_, ?_, ?_, by omega⟩
  · simp only [lo, blockBase, value_nil, List.length_nil]; rw [enc_face]; omega
  · simp only [hi, blockBase, value_nil, List.length_nil]; rw [enc_face, W_zero]; omega
  · rw [enc_child_deep _ _ _ _ (by simp), enc_face]
    simp only [blockBase, value_nil, List.length_nil, Nat.zero_add]; omega
  · rw [enc_child_deep _ _ _ _ (by simp), enc_face]
    simp only [blockBase, value_nil, List.length_nil, Nat.zero_add]; omega
  · simp only [res, List.length_nil]; omega

/-- T1 with the restriction `1 ≤ res q` dropped … -/
def subtree_interval_all_cells_statement : Prop :=
  ∀ p q : Path, WF p → WF q → 1 ≤ res p →
    ((res p ≤ res q ∧ ancestorAt q (res p) = p) ↔ (lo p ≤ enc q ∧ enc q ≤ hi p))

/-- … is false (base cell `face 1` inside the interval of quintant 1 of face 0). -/
theorem subtree_interval_fails_for_base_cells : ¬ subtree_interval_all_cells_statement := by
  intro h
  have hb := base_cells_interleave 1 (by omega)
  have := (h (deep (1 / 5) (1 % 5) []) (face 1) hb.1 (by decide) (by decide)).2
    ⟨Nat.le_of_lt hb.2.1, Nat.le_of_lt hb.2.2.1⟩
  exact hb.2.2.2.2.2.1 this.1

/-! ## non-vacuity: the hypotheses are met by concrete non-trivial cells -/

example : WF (deep 7 3 [2, 1, 3]) ∧ res (deep 7 3 [2, 1, 3]) = 4 := by decide
example : enc (deep 7 3 [2, 1, 3]) = 0x9a78000000000000 := by decide
example : lo (deep 7 3 [2, 1, 3]) = 0x9a70000000000002 ∧ hi (deep 7 3 [2, 1, 3]) = 0x9a7ffffffffffffe := by decide
-- T1: a descendant two levels down lies in the interval, the sibling `[2,1,2]` does not
example : lo (deep 7 3 [2, 1, 3]) ≤ enc (deep 7 3 [2, 1, 3, 0, 2]) ∧
    enc (deep 7 3 [2, 1, 3, 0, 2]) ≤ hi (deep 7 3 [2, 1, 3]) :=
  (subtree_interval _ _ (by decide) (by decide) (by decide) (by decide)).1 ⟨by decide, by decide⟩
example : ¬ (lo (deep 7 3 [2, 1, 3]) ≤ enc (deep 7 3 [2, 1, 2]) ∧ enc (deep 7 3 [2, 1, 2]) ≤ hi (deep 7 3 [2, 1, 3])) :=
  fun h => absurd ((subtree_interval _ _ (by decide) (by decide) (by decide) (by decide)).2 h).2 (by decide)
-- T2/T3: `a = deep 7 3 [2,1,3] < b = deep 7 4 [0,0,1]`
example : enc (deep 7 3 [2, 1, 3]) < enc (deep 7 4 [0, 0, 1]) := by decide
example : enc (ancestorAt (deep 7 3 [2, 1, 3]) 2) ≤ enc (ancestorAt (deep 7 4 [0, 0, 1]) 2) :=
  ancestors_monotone _ _ (by decide) (by decide) 4 (by decide) (by decide) (by decide) 2 (by decide) (by decide)
example : deep 7 3 [2, 1, 3, 3, 3] ∈ descendantsAt (deep 7 3 [2, 1, 3]) 6 ∧
    deep 7 4 [0, 0, 1, 0, 0] ∈ descendantsAt (deep 7 4 [0, 0, 1]) 6 := by decide
example : enc (deep 7 3 [2, 1, 3, 3, 3]) < enc (deep 7 4 [0, 0, 1, 0, 0]) :=
  descendants_ordered (deep 7 3 [2, 1, 3]) (deep 7 4 [0, 0, 1]) (by decide) (by decide) 4 (by decide) (by decide)
    (by decide) (by decide) 6 (by decide) (by decide) _ _ (by decide) (by decide)
-- T4: the stride of the children of `deep 7 3 [2,1,3]` (resolution 5) is 2^50
example : getStride 5 = .ok (2 ^ 50) := getStride_closed_form 5 (by decide) (by decide)
example : enc (child (deep 7 3 [2, 1, 3]) 2) = enc (child (deep 7 3 [2, 1, 3]) 0) + 2 * 2 ^ 50 :=
  (siblings_adjacent (deep 7 3 [2, 1, 3]) (by decide) (by decide)).2.2.1 2
example : isFirstChild (enc (deep 7 3 [2, 1, 3, 0])) 5 = .ok true ∧
    isFirstChild (enc (deep 7 3 [2, 1, 3, 2])) 5 = .ok false :=
  ⟨(siblings_adjacent (deep 7 3 [2, 1, 3]) (by decide) (by decide)).2.2.2.1 0 (by decide),
   (siblings_adjacent (deep 7 3 [2, 1, 3]) (by decide) (by decide)).2.2.2.1 2 (by decide)⟩
-- T5
example : enc (deep 0 1 [1]) < enc (face 1) ∧ enc (face 1) < enc (deep 0 1 [2]) := by decide

end A5.C20
